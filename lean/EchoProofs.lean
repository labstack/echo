import EchoProofs.C01
import EchoProofs.C01Ctx
import EchoProofs.C02
import EchoProofs.C02Events
import EchoProofs.C03
import EchoProofs.C03Method
import EchoProofs.C04
import EchoProofs.C04Cover
import EchoProofs.C04Late
import EchoProofs.C04Miss
import EchoProofs.C04Scope
import EchoProofs.C04ScopeReq
import EchoProofs.C05
import EchoProofs.C05Resp
import EchoProofs.C06
import EchoProofs.C06Hooks
import EchoProofs.C06Nest
import EchoProofs.C07
import EchoProofs.C08
import EchoProofs.C09
import EchoProofs.C09Nested
import EchoProofs.C10
import EchoProofs.C10Cidr
import EchoProofs.C10Opts
import EchoProofs.C10Parse
import EchoProofs.C10Parse6
import EchoProofs.C10ParseInst
import EchoProofs.C10Seq
import EchoProofs.C11
import EchoProofs.C12
import EchoProofs.C12Ambient
import EchoProofs.C12Stack
import EchoProofs.C13
import EchoProofs.C14
import EchoProofs.C15
import EchoProofs.C15Cfg
import EchoProofs.C16
import EchoProofs.C16Ext
import EchoProofs.C16Late
import EchoProofs.C16Raw
import EchoProofs.C17
import EchoProofs.C18
import EchoProofs.C18Split
import EchoProofs.C18Stack
import EchoProofs.C19
import EchoProofs.C19Cfg
import EchoProofs.C19Sim
import EchoProofs.C20
import EchoProofs.C20Tree
import EchoProofs.Lemmas.C16Path
import EchoProofs.Lit
import EchoProofs.Spec.Allow
import EchoProofs.Spec.Basics
import EchoProofs.Spec.Covered
import EchoProofs.Spec.Fuel
import EchoProofs.Spec.Irrelevant
import EchoProofs.Spec.Perm
import EchoProofs.Spec.Sound
import EchoProofs.Tree.Below
import EchoProofs.Tree.Chain
import EchoProofs.Tree.Complete
import EchoProofs.Tree.Corollaries
import EchoProofs.Tree.Covered
import EchoProofs.Tree.Dedup
import EchoProofs.Tree.Dirty
import EchoProofs.Tree.Dirty.Node
import EchoProofs.Tree.Dirty.Sim
import EchoProofs.Tree.Esc
import EchoProofs.Tree.Esc.Corollaries
import EchoProofs.Tree.Esc.Defs
import EchoProofs.Tree.Esc.Final
import EchoProofs.Tree.Esc.Inv
import EchoProofs.Tree.Esc.Loop
import EchoProofs.Tree.Esc.More
import EchoProofs.Tree.Esc.Paths
import EchoProofs.Tree.Esc.Resid
import EchoProofs.Tree.Esc.Route
import EchoProofs.Tree.Esc.Sharp
import EchoProofs.Tree.Esc.Text
import EchoProofs.Tree.Frame
import EchoProofs.Tree.Insert
import EchoProofs.Tree.Insert.Basic
import EchoProofs.Tree.Insert.Defs
import EchoProofs.Tree.Insert.Final
import EchoProofs.Tree.Insert.Inv
import EchoProofs.Tree.Insert.Loop
import EchoProofs.Tree.Insert.Paths
import EchoProofs.Tree.Insert.Resid
import EchoProofs.Tree.Insert.Route
import EchoProofs.Tree.Insert.Text
import EchoProofs.Tree.Inv
import EchoProofs.Tree.OK
import EchoProofs.Tree.OrderFree
import EchoProofs.Tree.PvLength
import EchoProofs.Tree.Refine
import EchoProofs.Tree.Resid
import EchoProofs.Tree.Top
import EchoProofs.Tree.WF
import EchoProofs.Tree.WF2
