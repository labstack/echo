import EchoModel.C13
import EchoProofs.Lit
/-!
# C13 — theorems about the BasicAuth / KeyAuth model

The statements about the two middlewares quantify over *every* validator `V`, *every* decoder `dec` (so nothing
depends on the Lean implementation of base64), every list of header values / located values and every
configuration.  Only the base64 section speaks of the model's own decoder: it inverts the standard encoder
(`C13_b64_roundtrip`), which gives completeness with the concrete codec (`C13_basic_accepts_encoded`).

After the two decision procedures (`basicAuth`, `keyAuth`) come `KeyLookup` parsing, the complete closures with
their Skipper and the convenience constructors, several instances on the path of one request (`authStack`), the
whole request head (`basicAuthReq`), a response already started at entry (`commitB` / `commitK` / `commitS`), and
keys that look encoded.
-/
namespace C13

theorem splitColon_append : ∀ (u p : Str), ':' ∉ u → splitColon (u ++ ':' :: p) = some (u, p)
  | [], p, _ => by simp [splitColon]
  | c :: u, p, h => by
    simp only [List.mem_cons, not_or] at h
    simp [splitColon, Ne.symm h.1, splitColon_append u p h.2]

theorem splitColon_of_not_mem : ∀ s : Str, ':' ∉ s → splitColon s = none
  | [], _ => rfl
  | c :: r, h => by
    simp only [List.mem_cons, not_or] at h
    simp [splitColon, Ne.symm h.1, splitColon_of_not_mem r h.2]

theorem splitColon_cases (s : Str) :
    (':' ∉ s ∧ splitColon s = none) ∨
    ∃ u p, s = u ++ ':' :: p ∧ ':' ∉ u ∧ splitColon s = some (u, p) := by
  by_cases h : ':' ∈ s
  · obtain ⟨u, p, rfl, hu⟩ := List.eq_append_cons_of_mem h
    exact Or.inr ⟨u, p, rfl, hu, splitColon_append u p hu⟩
  · exact Or.inl ⟨h, splitColon_of_not_mem s h⟩

theorem basicLit_eq : basicLit = ['b', 'a', 's', 'i', 'c'] := by unfold basicLit; lit_chars

theorem basicLit_length : basicLit.length = 5 := congrArg List.length basicLit_eq

/-- the scheme guard of BasicAuth: more than six bytes, the first five are "basic" in any casing -/
def Guard (auth : Str) : Prop := 6 < auth.length ∧ eqFold (auth.take 5) basicLit = true

instance (auth : Str) : Decidable (Guard auth) := by unfold Guard; infer_instance

/-- `Header.Get` answers `""` for a missing header, and `""` does not pass the guard -/
theorem head?_of_guard {hdrs : List Str} (h : Guard (hdrs.headD [])) :
    hdrs.head? = some (hdrs.headD []) := by
  cases hdrs with
  | nil => exact absurd h.1 (Nat.not_lt_zero 6)
  | cons a r => rfl

/-- what BasicAuth answers once the validator has been asked about `(u, p)` -/
def asked (V : Str → Str → Outcome) (u p : Str) : BObs :=
  match V u p with
  | .err e => ⟨false, e.status, false, [(u, p)]⟩
  | .yes => ⟨true, 200, false, [(u, p)]⟩
  | .no => unauthorized [(u, p)]

theorem asked_calls (V : Str → Str → Outcome) (u p : Str) : (asked V u p).calls = [(u, p)] := by
  unfold asked; cases V u p <;> rfl

theorem asked_yes {V : Str → Str → Outcome} {u p : Str} (h : V u p = .yes) :
    asked V u p = ⟨true, 200, false, [(u, p)]⟩ := by
  unfold asked; rw [h]

theorem asked_ran {V : Str → Str → Outcome} {u p : Str} : (asked V u p).ran = true ↔ V u p = .yes := by
  unfold asked; cases V u p <;> simp [unauthorized]

/-- panic-free description of `basicAuth` -/
def basicSpec (V : Str → Str → Outcome) (dec : Str → Option Str) (hdrs : List Str) : BObs :=
  let auth := hdrs.headD []
  if Guard auth then
    match dec (auth.drop 6) with
    | none => ⟨false, 400, false, []⟩
    | some cred =>
      match splitColon cred with
      | none => unauthorized []
      | some (u, p) => asked V u p
  else unauthorized []

/-- Behind the length test both slice expressions are in range, so `basicAuth` has no panic left. -/
theorem basicAuth_eq_spec (V : Str → Str → Outcome) (dec : Str → Option Str) (hdrs : List Str) :
    basicAuth V dec hdrs = some (basicSpec V dec hdrs) := by
  unfold basicAuth basicSpec Guard asked
  simp only [basicLit_length]
  generalize hdrs.headD [] = auth
  by_cases hl : 6 < auth.length
  · simp only [sliceTo?, sliceFrom?, hl, Nat.le_of_lt hl, Nat.le_of_succ_le (Nat.le_of_lt hl), if_true,
      true_and, Nat.reduceAdd]
    split
    · cases dec (List.drop 6 auth) with
      | none => rfl
      | some cred =>
        dsimp only
        cases splitColon cred with
        | none => rfl
        | some up => dsimp only; cases V up.1 up.2 <;> rfl
    · rfl
  · simp only [hl, false_and, if_false]

/-- **C13_basic_decision** — the complete decision table of BasicAuth: which requests reach the
    handler, with which validator call, and what every other request is answered with. -/
theorem C13_basic_decision (V : Str → Str → Outcome) (dec : Str → Option Str) (hdrs : List Str) :
    ∃ o, basicAuth V dec hdrs = some o ∧
    ((¬ Guard (hdrs.headD []) ∧ o = unauthorized [])
    ∨ (Guard (hdrs.headD []) ∧ dec ((hdrs.headD []).drop 6) = none ∧ o = ⟨false, 400, false, []⟩)
    ∨ (Guard (hdrs.headD []) ∧ ∃ cred, dec ((hdrs.headD []).drop 6) = some cred ∧ ':' ∉ cred ∧
        o = unauthorized [])
    ∨ (Guard (hdrs.headD []) ∧ ∃ u p, dec ((hdrs.headD []).drop 6) = some (u ++ ':' :: p) ∧ ':' ∉ u ∧
        ((V u p = .yes ∧ o = ⟨true, 200, false, [(u, p)]⟩)
         ∨ (V u p = .no ∧ o = unauthorized [(u, p)])
         ∨ (∃ e, V u p = .err e ∧ o = ⟨false, e.status, false, [(u, p)]⟩)))) := by
  refine ⟨_, basicAuth_eq_spec V dec hdrs, ?_⟩
  unfold basicSpec
  generalize hdrs.headD [] = auth
  by_cases hg : Guard auth
  · rw [if_pos hg]
    refine Or.inr ?_
    cases hd : dec (auth.drop 6) with
    | none => exact Or.inl ⟨hg, rfl, rfl⟩
    | some cred =>
      refine Or.inr ?_
      dsimp only
      rcases splitColon_cases cred with ⟨hc, hs⟩ | ⟨u, p, rfl, hu, hs⟩
      · exact Or.inl ⟨hg, cred, rfl, hc, by rw [hs]⟩
      · refine Or.inr ⟨hg, u, p, rfl, hu, ?_⟩
        rw [hs]
        dsimp only [asked]
        cases V u p with
        | yes => exact Or.inl ⟨rfl, rfl⟩
        | no => exact Or.inr (Or.inl ⟨rfl, rfl⟩)
        | err e => exact Or.inr (Or.inr ⟨e, rfl, rfl⟩)
  · rw [if_neg hg]
    exact Or.inl ⟨hg, rfl⟩

/-- The decision table read from the validator's side: BasicAuth either answers 401 / 400 without
    asking it, or asks it once, about the literally decoded credentials of the first Authorization
    value, and answers `asked`. -/
theorem basic_asked_or_not {V : Str → Str → Outcome} {dec : Str → Option Str} {hdrs : List Str}
    {o : BObs} (h : basicAuth V dec hdrs = some o) :
    (o.ran = false ∧ o.calls = [] ∧ (o.status = 401 ∧ o.www = true ∨ o.status = 400)) ∨
    ∃ auth u p, hdrs.head? = some auth ∧ Guard auth ∧ dec (auth.drop 6) = some (u ++ ':' :: p) ∧
      ':' ∉ u ∧ o = asked V u p := by
  obtain ⟨o', ho', hcase⟩ := C13_basic_decision V dec hdrs
  cases h.symm.trans ho'
  rcases hcase with ⟨_, rfl⟩ | ⟨_, _, rfl⟩ | ⟨_, _, _, _, rfl⟩ | ⟨hg, u, p, hd, hu, hv⟩
  · exact Or.inl ⟨rfl, rfl, Or.inl ⟨rfl, rfl⟩⟩
  · exact Or.inl ⟨rfl, rfl, Or.inr rfl⟩
  · exact Or.inl ⟨rfl, rfl, Or.inl ⟨rfl, rfl⟩⟩
  · refine Or.inr ⟨_, u, p, head?_of_guard hg, hg, hd, hu, ?_⟩
    unfold asked
    rcases hv with ⟨hv, rfl⟩ | ⟨hv, rfl⟩ | ⟨e, hv, rfl⟩ <;> rw [hv]

/-- **C13_basic_no_panic** — no list of Authorization values makes BasicAuth panic. -/
theorem C13_basic_no_panic (V : Str → Str → Outcome) (dec : Str → Option Str) (hdrs : List Str) :
    basicAuth V dec hdrs ≠ none := by
  rw [basicAuth_eq_spec]; exact Option.some_ne_none _

/-- **C13_basic_sound** — the handler ran ⇒ the first Authorization value passes the scheme
    guard, the text after its sixth byte decodes to `u:p` with no colon in `u`, the validator was
    called exactly once, with `(u, p)`, and said yes. -/
theorem C13_basic_sound (V : Str → Str → Outcome) (dec : Str → Option Str) (hdrs : List Str) (o : BObs)
    (h : basicAuth V dec hdrs = some o) (hr : o.ran = true) :
    ∃ auth u p, hdrs.head? = some auth ∧ Guard auth ∧ dec (auth.drop 6) = some (u ++ ':' :: p) ∧
      ':' ∉ u ∧ V u p = .yes ∧ o.calls = [(u, p)] ∧ o.status = 200 := by
  rcases basic_asked_or_not h with ⟨hn, _⟩ | ⟨auth, u, p, hh, hg, hd, hu, rfl⟩
  · rw [hn] at hr; cases hr
  · have hv := asked_ran.mp hr
    exact ⟨auth, u, p, hh, hg, hd, hu, hv, asked_calls V u p, by rw [asked_yes hv]⟩

/-- **C13_basic_complete** — well-formed credentials the validator accepts always reach the
    handler: scheme "basic" in any casing, one separator byte, a text that decodes to `u:p`. -/
theorem C13_basic_complete (V : Str → Str → Outcome) (dec : Str → Option Str)
    (sch enc u p : Str) (sep : Char) (rest : List Str)
    (hsch : sch.length = 5) (hfold : eqFold sch basicLit = true) (henc : enc ≠ [])
    (hdec : dec enc = some (u ++ ':' :: p)) (hu : ':' ∉ u) (hV : V u p = .yes) :
    basicAuth V dec ((sch ++ sep :: enc) :: rest) = some ⟨true, 200, false, [(u, p)]⟩ := by
  have htake : (sch ++ sep :: enc).take 5 = sch := List.take_left' hsch
  have hdrop : (sch ++ sep :: enc).drop 6 = enc := by
    rw [List.append_cons]; exact List.drop_left' (by simp [hsch])
  have hg : Guard (sch ++ sep :: enc) := by
    have := List.length_pos_iff.mpr henc
    exact ⟨by simp; omega, htake.symm ▸ hfold⟩
  rw [basicAuth_eq_spec]
  simp only [basicSpec, List.headD_cons, if_pos hg, hdrop, hdec, splitColon_append u p hu, asked_yes hV]

/-- **C13_basic_calls_literal** — the validator is only ever called with credentials literally
    derived from the request (decoded text of the first header value split at its first colon). -/
theorem C13_basic_calls_literal (V : Str → Str → Outcome) (dec : Str → Option Str) (hdrs : List Str)
    (o : BObs) (h : basicAuth V dec hdrs = some o) :
    ∀ c ∈ o.calls, ∃ auth, hdrs.head? = some auth ∧ Guard auth ∧
      dec (auth.drop 6) = some (c.1 ++ ':' :: c.2) ∧ ':' ∉ c.1 := by
  intro c hc
  rcases basic_asked_or_not h with ⟨_, hn, _⟩ | ⟨auth, u, p, hh, hg, hd, hu, rfl⟩
  · rw [hn] at hc; cases hc
  · rw [asked_calls, List.mem_singleton] at hc
    subst hc
    exact ⟨auth, hh, hg, hd, hu⟩

/-- **C13_basic_rejections** — a request that does not reach the handler is answered 401 with
    `WWW-Authenticate` (missing / foreign scheme / no colon / validator said no), 400 (text is
    not base64; validator not called) or with the validator's own error. -/
theorem C13_basic_rejections (V : Str → Str → Outcome) (dec : Str → Option Str) (hdrs : List Str)
    (o : BObs) (h : basicAuth V dec hdrs = some o) (hr : o.ran = false) :
    (o.status = 401 ∧ o.www = true) ∨ (o.status = 400 ∧ o.calls = []) ∨
    (∃ u p e, V u p = .err e ∧ o.calls = [(u, p)] ∧ o.status = e.status) := by
  rcases basic_asked_or_not h with ⟨_, hn, h401 | h400⟩ | ⟨_, u, p, _, _, _, _, rfl⟩
  · exact Or.inl h401
  · exact Or.inr (Or.inl ⟨h400, hn⟩)
  · unfold asked at hr ⊢
    cases hv : V u p with
    | yes => rw [hv] at hr; cases hr
    | no => exact Or.inl ⟨rfl, rfl⟩
    | err e => exact Or.inr (Or.inr ⟨u, p, e, hv, rfl, rfl⟩)

/-- never reaches the handler: missing header, validator answered no or failed -/
theorem C13_basic_never (V : Str → Str → Outcome) (dec : Str → Option Str) (hdrs : List Str) (o : BObs)
    (h : basicAuth V dec hdrs = some o)
    (hno : ∀ u p, dec ((hdrs.headD []).drop 6) = some (u ++ ':' :: p) → ':' ∉ u → V u p ≠ .yes) :
    o.ran = false := by
  cases hr : o.ran with
  | false => rfl
  | true =>
    obtain ⟨auth, u, p, hh, _, hd, hu, hv, _⟩ := C13_basic_sound V dec hdrs o h hr
    refine absurd hv (hno u p ?_ hu)
    rw [List.headD_eq_head?_getD, hh]
    exact hd


/-! ## KeyAuth -/

/-- the shape shared by the extractor loops: append the key of every element that has one;
    `break` after an append at index ≥ 19 -/
def limLoop {α} (f : α → Option Str) : Nat → List α → List Str
  | _, [] => []
  | i, x :: xs =>
    match f x with
    | some k => if i ≥ extractorLimit - 1 then [k] else k :: limLoop f (i + 1) xs
    | none => limLoop f (i + 1) xs

theorem limLoop_sublist {α} (f : α → Option Str) : ∀ (xs : List α) (i : Nat),
    (limLoop f i xs).Sublist (xs.filterMap f)
  | [], _ => .slnil
  | x :: xs, i => by
    rw [limLoop]
    cases hk : f x with
    | none => rw [List.filterMap_cons_none hk]; exact limLoop_sublist f xs (i + 1)
    | some k =>
      rw [List.filterMap_cons_some hk]
      dsimp only
      split
      · exact .cons_cons _ (List.nil_sublist _)
      · exact .cons_cons _ (limLoop_sublist f xs (i + 1))

theorem limLoop_head {α} {f : α → Option Str} {x : α} {k : Str} (h : f x = some k) (i : Nat)
    (xs : List α) : k ∈ limLoop f i (x :: xs) := by
  rw [limLoop, h]; dsimp only; split <;> exact .head _

theorem limLoop_complete {α} (f : α → Option Str) : ∀ (xs : List α) (i j : Nat) (x : α) (k : Str),
    xs[j]? = some x → f x = some k → i + j < extractorLimit → k ∈ limLoop f i xs
  | [], _, _, _, _, h, _, _ => by simp at h
  | y :: xs, i, 0, x, k, h, hf, _ => by
    cases h
    exact limLoop_head hf i xs
  | y :: xs, i, j + 1, x, k, h, hf, hlt => by
    have ih := limLoop_complete f xs (i + 1) j x k h hf (by omega)
    unfold limLoop
    have hi : ¬ i ≥ extractorLimit - 1 := by unfold extractorLimit at hlt ⊢; omega
    split
    · simp only [hi, if_false, List.mem_cons]; exact Or.inr ih
    · exact ih

/-- when every element carries a key the loop is `take`: entered at index `i`, it stops after the
    element at index 19 -/
theorem limLoop_all {α} (g : α → Str) : ∀ (xs : List α) (i n : Nat), i + (n + 1) = extractorLimit →
    limLoop (fun x => some (g x)) i xs = (xs.map g).take (n + 1)
  | [], _, _, _ => rfl
  | x :: xs, i, n, h => by
    rw [List.map_cons, List.take_succ_cons, limLoop]
    dsimp only
    unfold extractorLimit at h ⊢
    cases n with
    | zero => rw [if_pos (by omega)]; rfl
    | succ n => rw [if_neg (by omega), limLoop_all g xs (i + 1) n (by unfold extractorLimit; omega)]

/-- key carried by one header value -/
def hdrKey (pre v : Str) : Option Str :=
  if pre.length = 0 then some v
  else if v.length > pre.length ∧ eqFold (v.take pre.length) pre = true then some (v.drop pre.length)
  else none

theorem hdrKey_some {pre v k : Str} (h : hdrKey pre v = some k) :
    ∃ cut, v = cut ++ k ∧ cut.length = pre.length := by
  unfold hdrKey at h
  split at h
  · rename_i h0
    cases h
    exact ⟨[], rfl, h0.symm⟩
  · split at h
    · rename_i h1
      cases h
      exact ⟨v.take pre.length, (List.take_append_drop _ _).symm, List.length_take_of_le (Nat.le_of_lt h1.1)⟩
    · cases h

/-- Both slices of `valuesFromHeader` are behind its length test, so the loop cannot panic. -/
theorem hdrLoop_eq {α} (pre : Str) (g : α → Str) : ∀ (xs : List α) (i : Nat),
    hdrLoop pre i (xs.map g) = some (limLoop (fun x => hdrKey pre (g x)) i xs)
  | [], i => rfl
  | x :: xs, i => by
    rw [List.map_cons, hdrLoop, limLoop, hdrLoop_eq pre g xs (i + 1), hdrKey]
    by_cases hp : pre.length = 0
    · simp only [hp, if_true]; split <;> rfl
    · by_cases hl : (g x).length > pre.length
      · simp only [hp, hl, sliceTo?, sliceFrom?, Nat.le_of_lt hl, true_and, if_true, if_false]
        split
        · split <;> rfl
        · rfl
      · simp only [hp, hl, false_and, if_false]

def cookieKey (name : Str) (c : Str × Str) : Option Str := if name = c.1 then some c.2 else none

theorem cookieKey_some {name : Str} {c : Str × Str} {k : Str} (h : cookieKey name c = some k) :
    k = c.2 ∧ c.1 = name := by
  unfold cookieKey at h
  split at h
  · rename_i hn
    cases h
    exact ⟨rfl, hn.symm⟩
  · cases h

theorem cookieLoop_eq (name : Str) : ∀ (cs : List (Str × Str)) (i : Nat),
    cookieLoop name i cs = limLoop (cookieKey name) i cs
  | [], i => rfl
  | (n, v) :: cs, i => by
    rw [cookieLoop, limLoop, cookieLoop_eq name cs (i + 1), cookieKey]
    split <;> rfl

/-- the re-slice of `valuesFromQuery` / `valuesFromForm` is in range: it is only reached with 20 or
    more values -/
theorem capValues_eq {α} (g : α → Str) (xs : List α) :
    capValues (xs.map g) = some (limLoop (fun x => some (g x)) 0 xs) := by
  rw [limLoop_all g xs 0 19 rfl]
  unfold capValues extractorLimit
  split
  · rw [if_pos (by omega)]
  · rw [List.take_of_length_le (by omega)]

/-- the key one located `(name, value)` pair carries for a source: the value itself, for header
    sources with the (case-insensitively matching) cut prefix removed, for cookie / param sources
    only under the configured name -/
def keyOf (s : Src) (nv : Str × Str) : Option Str :=
  match s.kind with
  | .header => hdrKey s.pre nv.2
  | .query => some nv.2
  | .form => some nv.2
  | .cookie => cookieKey s.name nv
  | .param => cookieKey s.name nv

def keysOf (s : Src) (d : List (Str × Str)) : List Str := limLoop (keyOf s) 0 d

/-- No extractor panics: each yields the keys its located pairs carry, up to the limit, and reports
    an error exactly when there are none. -/
theorem extract_spec (s : Src) (d : List (Str × Str)) :
    (∃ e, extract s d = .fail e ∧ keysOf s d = []) ∨
    (extract s d = .keys (keysOf s d) ∧ keysOf s d ≠ []) := by
  generalize hks : keysOf s d = ks
  obtain ⟨kind, name, pre⟩ := s
  cases d with
  | nil => cases hks; cases kind <;> exact Or.inl ⟨_, rfl, rfl⟩
  | cons a r =>
    have h0 : ¬ ((a :: r).map (·.2)).length = 0 := by simp
    cases kind
    case header =>
      have hl : hdrLoop pre 0 ((a :: r).map (·.2)) = some ks := hks ▸ hdrLoop_eq pre (·.2) (a :: r) 0
      simp only [extract, h0, if_false, hl]
      cases ks with
      | nil => exact Or.inl ⟨_, (apply_ite Ext.fail _ _ _).symm, rfl⟩
      | cons k ks => exact Or.inr ⟨rfl, List.cons_ne_nil _ _⟩
    case query | form =>
      have hl : capValues ((a :: r).map (·.2)) = some ks := hks ▸ capValues_eq (·.2) (a :: r)
      simp only [extract, h0, if_false, hl]
      exact Or.inr ⟨trivial, hks ▸ List.ne_nil_of_mem (limLoop_head (f := keyOf _) rfl 0 r)⟩
    case cookie | param =>
      have hl : cookieLoop name 0 (a :: r) = ks := hks ▸ cookieLoop_eq name (a :: r) 0
      simp only [extract, List.length_cons, Nat.add_one_ne_zero, if_false, hl]
      cases ks with
      | nil => exact Or.inl ⟨_, rfl, rfl⟩
      | cons k ks => exact Or.inr ⟨rfl, List.cons_ne_nil _ _⟩

/-! ### the validator loop -/

/-- `lastValidatorErr` after the validator did not accept a key -/
def refusal : Outcome → VErr
  | .err e => .verr e
  | _ => .invalid

theorem refusal_eq_verr {o : Outcome} {e : VE} (h : refusal o = .verr e) : o = .err e := by
  cases o <;> cases h <;> rfl

theorem valKeys_cons_yes {V : Str → Outcome} {k : Str} (h : V k = .yes) (ks : List Str) (lv : Option VErr) :
    valKeys V (k :: ks) lv = (true, [k], lv) := by
  rw [valKeys, h]

theorem valKeys_cons_ne {V : Str → Outcome} {k : Str} (h : V k ≠ .yes) (ks : List Str) (lv : Option VErr) :
    valKeys V (k :: ks) lv =
      ((valKeys V ks (some (refusal (V k)))).1, k :: (valKeys V ks (some (refusal (V k)))).2.1,
        (valKeys V ks (some (refusal (V k)))).2.2) := by
  rw [valKeys]
  cases hv : V k with
  | yes => exact absurd hv h
  | no => rfl
  | err e => rfl

/-- The validator loop stops at the first yes.  Until then every key is tried in order, and
    `lastValidatorErr` is what the last key tried left behind. -/
theorem valKeys_spec (V : Str → Outcome) : ∀ (ks : List Str) (lv : Option VErr),
    (∀ k ∈ (valKeys V ks lv).2.1, k ∈ ks) ∧
    ((valKeys V ks lv).1 = true → ∃ k, (valKeys V ks lv).2.1.getLast? = some k ∧ V k = .yes) ∧
    ((valKeys V ks lv).1 = false →
        (valKeys V ks lv).2.1 = ks ∧ (∀ k ∈ ks, V k ≠ .yes) ∧
        (valKeys V ks lv).2.2 = match ks.getLast? with
          | none => lv
          | some k => some (refusal (V k)))
  | [], lv => ⟨nofun, nofun, fun _ => ⟨rfl, nofun, rfl⟩⟩
  | k :: ks, lv => by
    by_cases hv : V k = .yes
    · rw [valKeys_cons_yes hv]
      exact ⟨fun _ h => List.mem_singleton.mp h ▸ .head _, fun _ => ⟨k, rfl, hv⟩, nofun⟩
    · rw [valKeys_cons_ne hv]
      obtain ⟨h1, h2, h3⟩ := valKeys_spec V ks (some (refusal (V k)))
      refine ⟨?_, ?_, ?_⟩
      · intro x hx
        cases hx with
        | head => exact .head _
        | tail _ hx => exact .tail _ (h1 x hx)
      · intro ha
        obtain ⟨x, hx, hvx⟩ := h2 ha
        exact ⟨x, by rw [List.getLast?_cons, hx]; rfl, hvx⟩
      · intro ha
        obtain ⟨e1, e2, e3⟩ := h3 ha
        refine ⟨congrArg (k :: ·) e1, List.forall_mem_cons.mpr ⟨hv, e2⟩, ?_⟩
        rw [e3, List.getLast?_cons]
        cases ks.getLast? <;> rfl

/-- entered without an error, a loop that accepted nothing leaves none behind exactly when it had no
    key to try, and otherwise the refusal of one of its keys -/
theorem lastV_of_refused {V : Str → Outcome} {ks : List Str} (ha : (valKeys V ks none).1 = false) :
    ((valKeys V ks none).2.2 = none ↔ ks = []) ∧
    ∀ v, (valKeys V ks none).2.2 = some v → ∃ k ∈ ks, refusal (V k) = v := by
  rw [((valKeys_spec V ks none).2.2 ha).2.2]
  cases hl : ks.getLast? with
  | none => exact ⟨⟨fun _ => List.getLast?_eq_none_iff.mp hl, fun _ => rfl⟩, nofun⟩
  | some k =>
    refine ⟨⟨nofun, fun h => ?_⟩, fun v hv => ⟨k, List.mem_of_getLast? hl, Option.some.inj hv⟩⟩
    rw [h] at hl
    cases hl

theorem valKeys_append (V : Str → Outcome) : ∀ (a b : List Str) (lv : Option VErr),
    valKeys V (a ++ b) lv =
      if (valKeys V a lv).1 then valKeys V a lv
      else ((valKeys V b (valKeys V a lv).2.2).1,
        (valKeys V a lv).2.1 ++ (valKeys V b (valKeys V a lv).2.2).2.1,
        (valKeys V b (valKeys V a lv).2.2).2.2)
  | [], b, lv => rfl
  | k :: a, b, lv => by
    by_cases hv : V k = .yes
    · rw [List.cons_append, valKeys_cons_yes hv, valKeys_cons_yes hv]; rfl
    · rw [List.cons_append, valKeys_cons_ne hv, valKeys_cons_ne hv, valKeys_append V a b]
      dsimp only
      split <;> rfl

/-! ### the extractor loop: one validator loop over all extracted keys -/

/-- the keys of all lookup sources, in the order the validator is shown them -/
def allKeys (sds : List (Src × List (Str × Str))) : List Str := sds.flatMap fun sd => keysOf sd.1 sd.2

/-- The two nested loops never panic and are the validator loop over `allKeys`.  When that loop
    accepted nothing every extractor has been run, so `lastExtractorErr` is unset only if it was
    unset before and every source yielded keys. -/
theorem extLoop_eq (V : Str → Outcome) : ∀ (sds : List (Src × List (Str × Str)))
    (lv : Option VErr) (le : Option ExtErr), ∃ le',
    extLoop V sds lv le = some ⟨(valKeys V (allKeys sds) lv).1, (valKeys V (allKeys sds) lv).2.1,
      (valKeys V (allKeys sds) lv).2.2, le'⟩ ∧
    ((valKeys V (allKeys sds) lv).1 = false → le' = none →
      le = none ∧ ∀ sd ∈ sds, keysOf sd.1 sd.2 ≠ [])
  | [], lv, le => ⟨le, rfl, fun _ h => ⟨h, nofun⟩⟩
  | (s, d) :: rest, lv, le => by
    rw [extLoop, show allKeys ((s, d) :: rest) = keysOf s d ++ allKeys rest from List.flatMap_cons]
    rcases extract_spec s d with ⟨e, he, hk0⟩ | ⟨he, hk0⟩
    · rw [he, hk0, List.nil_append]
      obtain ⟨le', h, hle⟩ := extLoop_eq V rest lv (some e)
      exact ⟨le', h, fun ha hn => nomatch (hle ha hn).1⟩
    · rw [he, valKeys_append]
      dsimp only
      cases hacc : (valKeys V (keysOf s d) lv).1 with
      | true =>
        simp only [↓reduceIte]
        exact ⟨le, by rw [hacc], fun ha => nomatch hacc.symm.trans ha⟩
      | false =>
        obtain ⟨le', h, hle⟩ := extLoop_eq V rest (valKeys V (keysOf s d) lv).2.2 le
        rw [h]
        exact ⟨le', rfl, fun ha hn => ⟨(hle ha hn).1, List.forall_mem_cons.mpr ⟨hk0, (hle ha hn).2⟩⟩⟩


/-- key `k` is literally present in the request: some located `(name, value)` pair at a configured
    lookup source carries it (value itself; header sources: cut prefix removed) -/
def Present (cfg : KCfg) (data : List (List (Str × Str))) (k : Str) : Prop :=
  ∃ sd ∈ cfg.sources.zip data, ∃ nv ∈ sd.2, keyOf sd.1 nv = some k

theorem present_of_mem_allKeys {cfg : KCfg} {data : List (List (Str × Str))} {k : Str}
    (h : k ∈ allKeys (cfg.sources.zip data)) : Present cfg data k := by
  obtain ⟨sd, hsd, hk⟩ := List.mem_flatMap.mp h
  exact ⟨sd, hsd, List.mem_filterMap.mp ((limLoop_sublist _ _ _).subset hk)⟩

/-- KeyAuth is the code after the loops applied to the validator loop over all extracted keys. -/
theorem keyAuth_eq (V : Str → Outcome) (cfg : KCfg) (data : List (List (Str × Str))) : ∃ le,
    keyAuth V cfg data = finish cfg ⟨(valKeys V (allKeys (cfg.sources.zip data)) none).1,
      (valKeys V (allKeys (cfg.sources.zip data)) none).2.1,
      (valKeys V (allKeys (cfg.sources.zip data)) none).2.2, le⟩ ∧
    ((valKeys V (allKeys (cfg.sources.zip data)) none).1 = false → le = none →
      ∀ sd ∈ cfg.sources.zip data, keysOf sd.1 sd.2 ≠ []) := by
  obtain ⟨le, h, hle⟩ := extLoop_eq V (cfg.sources.zip data) none none
  exact ⟨le, by rw [keyAuth, h], fun ha hn => (hle ha hn).2⟩

/-- decision table of the code after the loops; its first row is the one panic: nothing accepted,
    no ErrorHandler, and neither loop left an error behind -/
theorem finish_cases (cfg : KCfg) (l : Loop) (r : Option KObs) (h : finish cfg l = r) :
    match r with
    | none => l.accepted = false ∧ cfg.eh = .absent ∧ l.lastV = none ∧ l.lastE = none
    | some o =>
      o.calls = l.calls ∧
      ((l.accepted = true ∧ o.ran = true ∧ o.status = 200 ∧ o.ehClass = 0) ∨
       (l.accepted = false ∧
         ((cfg.eh = .absent ∧ o.ran = false ∧ o.ehClass = 0 ∧
              ((∃ c, l.lastV = some (.verr (.http c)) ∧ o.status = c) ∨
               (l.lastV ≠ none ∧ o.status = 401) ∨ (l.lastV = none ∧ o.status = 400)))
          ∨ (cfg.eh = .retNil ∧ o.ran = cfg.cont ∧ o.status = 200 ∧ o.ehClass = errClass l.lastV)
          ∨ (cfg.eh = .pass ∧ o.ran = false ∧ o.status = errStatus l.lastV ∧ o.ehClass = errClass l.lastV)
          ∨ (∃ c, cfg.eh = .http c ∧ o.ran = false ∧ o.status = c ∧ o.ehClass = errClass l.lastV)))) := by
  subst h
  obtain ⟨srcs, eh, cont⟩ := cfg
  obtain ⟨acc, calls, lv, le⟩ := l
  cases acc
  · cases eh
    · rcases lv with _ | _ | _ | c
      · cases le <;> simp [finish]
      · simp [finish]
      · simp [finish]
      · simp [finish]
    · cases cont <;> simp [finish]
    · simp [finish]
    · simp [finish]
  · simp [finish]

/-- **C13_key_panic_iff** — KeyAuth panics on a request exactly when the configuration yields no
    extractor at all (KeyLookup without a known source kind) and no ErrorHandler is set; in
    particular no request content makes a configuration with at least one lookup source panic.
    (`data` holds one list of located pairs per source, in the order of `cfg.sources`; the model pairs them
    with `zip`, so the statement reads "no extractor" as `cfg.sources.zip data = []`.) -/
theorem C13_key_panic_iff (V : Str → Outcome) (cfg : KCfg) (data : List (List (Str × Str))) :
    keyAuth V cfg data = none ↔ (cfg.sources.zip data = [] ∧ cfg.eh = .absent) := by
  constructor
  · intro hn
    obtain ⟨le, hk, hle⟩ := keyAuth_eq V cfg data
    obtain ⟨ha, he, hv, hE⟩ := finish_cases _ _ _ (hk ▸ hn)
    refine ⟨?_, he⟩
    -- no `lastValidatorErr`: no key was tried; no `lastExtractorErr`: no source was without keys
    have hnil := (lastV_of_refused ha).1.mp hv
    cases hz : cfg.sources.zip data with
    | nil => rfl
    | cons sd rest =>
      have hne := hle ha hE sd (hz ▸ .head _)
      rw [allKeys, hz, List.flatMap_cons, List.append_eq_nil_iff] at hnil
      exact absurd hnil.1 hne
  · rintro ⟨hz, he⟩
    simp [keyAuth, hz, extLoop, finish, he]

/-- **C13_key_sound** — the handler ran ⇒ the last validator call said yes to a key literally
    present at a configured lookup location of the request — or the documented opt-in applies:
    `ContinueOnIgnoredError` is set, an `ErrorHandler` is configured and returned nil (and then
    the validator approved nothing). -/
theorem C13_key_sound (V : Str → Outcome) (cfg : KCfg) (data : List (List (Str × Str))) (o : KObs)
    (h : keyAuth V cfg data = some o) (hr : o.ran = true) :
    (∃ k, o.calls.getLast? = some k ∧ V k = .yes ∧ Present cfg data k) ∨
    (cfg.cont = true ∧ cfg.eh = .retNil ∧ ∀ k ∈ o.calls, V k ≠ .yes) := by
  obtain ⟨le, hk, -⟩ := keyAuth_eq V cfg data
  obtain ⟨v1, v2, v3⟩ := valKeys_spec V (allKeys (cfg.sources.zip data)) none
  rw [hk] at h
  obtain ⟨hc, hcase⟩ := finish_cases _ _ _ h
  rw [hc]
  rw [hr] at hcase
  rcases hcase with ⟨ha, -⟩ | ⟨ha, ⟨-, ⟨⟩, -⟩ | ⟨he, hr', -⟩ | ⟨-, ⟨⟩, -⟩ | ⟨c, -, ⟨⟩, -⟩⟩
  · obtain ⟨k, hlast, hv⟩ := v2 ha
    exact Or.inl ⟨k, hlast, hv, present_of_mem_allKeys (v1 k (List.mem_of_getLast? hlast))⟩
  · exact Or.inr ⟨hr'.symm, he, fun k hk => (v3 ha).2.1 k (v1 k hk)⟩

/-- **C13_key_calls_literal** — the validator is only ever called with keys literally present at
    a configured lookup location of the request. -/
theorem C13_key_calls_literal (V : Str → Outcome) (cfg : KCfg) (data : List (List (Str × Str)))
    (o : KObs) (h : keyAuth V cfg data = some o) : ∀ k ∈ o.calls, Present cfg data k := by
  obtain ⟨le, hk, -⟩ := keyAuth_eq V cfg data
  rw [hk] at h
  rw [(finish_cases _ _ _ h).1]
  exact fun k hkm => present_of_mem_allKeys ((valKeys_spec V _ none).1 k hkm)

/-- **C13_key_complete** — a key carried by one of the first 20 values at any configured lookup
    location and accepted by the validator always reaches the handler (earlier keys that were
    refused or made the validator fail do not matter). -/
theorem C13_key_complete (V : Str → Outcome) (cfg : KCfg) (data : List (List (Str × Str)))
    (sd : Src × List (Str × Str)) (hsd : sd ∈ cfg.sources.zip data)
    (j : Nat) (nv : Str × Str) (k : Str) (hj : sd.2[j]? = some nv) (hlt : j < extractorLimit)
    (hkey : keyOf sd.1 nv = some k) (hV : V k = .yes) :
    ∃ o, keyAuth V cfg data = some o ∧ o.ran = true ∧ o.status = 200 ∧ o.ehClass = 0 := by
  obtain ⟨le, hk, -⟩ := keyAuth_eq V cfg data
  have hmem : k ∈ allKeys (cfg.sources.zip data) :=
    List.mem_flatMap.mpr ⟨sd, hsd, limLoop_complete _ _ 0 j nv k hj hkey (by omega)⟩
  have hacc := Bool.of_not_eq_false fun ha => ((valKeys_spec V _ none).2.2 ha).2.1 k hmem hV
  rw [hk, finish, if_pos hacc]
  exact ⟨_, rfl, rfl, rfl, rfl⟩

/-- **C13_key_rejections** — without an ErrorHandler a request that does not reach the handler is
    answered 400 (nothing extracted, validator never called), 401 (every extracted key refused),
    or with the code of an `*echo.HTTPError` the validator itself returned. -/
theorem C13_key_rejections (V : Str → Outcome) (cfg : KCfg) (data : List (List (Str × Str))) (o : KObs)
    (h : keyAuth V cfg data = some o) (hr : o.ran = false) (he : cfg.eh = .absent) :
    (o.status = 400 ∧ o.calls = []) ∨ (o.status = 401 ∧ o.calls ≠ []) ∨
    (∃ k ∈ o.calls, ∃ c, V k = .err (.http c) ∧ o.status = c) := by
  obtain ⟨le, hk, -⟩ := keyAuth_eq V cfg data
  rw [hk] at h
  obtain ⟨hc, hcase⟩ := finish_cases _ _ _ h
  rw [hr, he] at hcase
  obtain ⟨-, ⟨⟩, -⟩ | ⟨ha, ⟨-, -, -, hst⟩ | ⟨⟨⟩, -⟩ | ⟨⟨⟩, -⟩ | ⟨c, ⟨⟩, -⟩⟩ := hcase
  rw [hc, ((valKeys_spec V _ none).2.2 ha).1]
  obtain ⟨hnone, hsome⟩ := lastV_of_refused ha
  rcases hst with ⟨c, hv, hs⟩ | ⟨hv, hs⟩ | ⟨hv, hs⟩
  · obtain ⟨k, hk, hr⟩ := hsome _ hv
    exact Or.inr (Or.inr ⟨k, hk, c, refusal_eq_verr hr, hs⟩)
  · exact Or.inr (Or.inl ⟨hs, mt hnone.mpr hv⟩)
  · exact Or.inl ⟨hs, hnone.mp hv⟩


/-! ## base64: the model's decoder inverts the standard encoder -/

/-- `base64.StdEncoding` alphabet -/
def b64char (n : Nat) : Char :=
  if n < 26 then Char.ofNat (65 + n)
  else if n < 52 then Char.ofNat (97 + (n - 26))
  else if n < 62 then Char.ofNat (48 + (n - 52))
  else if n = 62 then '+' else '/'

/-- `base64.StdEncoding.EncodeToString` (specification side; not used by the model) -/
def b64encode : Str → Str
  | [] => []
  | [a] => [b64char (a.toNat / 4), b64char (a.toNat % 4 * 16), '=', '=']
  | [a, b] => [b64char (a.toNat / 4), b64char (a.toNat % 4 * 16 + b.toNat / 16),
               b64char (b.toNat % 16 * 4), '=']
  | a :: b :: c :: rest =>
    b64char (a.toNat / 4) :: b64char (a.toNat % 4 * 16 + b.toNat / 16)
      :: b64char (b.toNat % 16 * 4 + c.toNat / 64) :: b64char (c.toNat % 64) :: b64encode rest

theorem b64char_facts : ∀ n, n < 64 →
    b64val (b64char n) = some n ∧ b64char n ≠ '=' ∧ b64char n ≠ '\r' ∧ b64char n ≠ '\n' := by
  decide +kernel

theorem b64char_clean (n : Nat) : b64char n ≠ '\r' ∧ b64char n ≠ '\n' := by
  by_cases h : n < 64
  · exact (b64char_facts n h).2.2
  · rw [b64char, if_neg (by omega), if_neg (by omega), if_neg (by omega), if_neg (by omega)]
    decide

/-! Regrouping digits: a sextet is `q * m + r` with `r < m`, a high digit taken from one byte and a
low digit from the next. -/

theorem pack_div {q r m : Nat} (h : r < m) : (q * m + r) / m = q := by
  rw [Nat.mul_comm, Nat.mul_add_div (Nat.zero_lt_of_lt h), Nat.div_eq_of_lt h, Nat.add_zero]

theorem pack_lt {q r m n : Nat} (hq : q < n) (hr : r < m) : q * m + r < n * m :=
  calc q * m + r < q * m + m := Nat.add_lt_add_left hr _
    _ = (q + 1) * m := (Nat.succ_mul q m).symm
    _ ≤ n * m := Nat.mul_le_mul_right m hq

/-- the four sextets of three bytes are below 64 and reassemble to the bytes (the encoder pads a
    missing second or third byte with 0) -/
theorem sextets {a b c : Nat} (ha : a < 256) (hb : b < 256) (hc : c < 256) :
    (a / 4 < 64 ∧ a % 4 * 16 + b / 16 < 64 ∧ b % 16 * 4 + c / 64 < 64 ∧ c % 64 < 64) ∧
    a / 4 * 4 + (a % 4 * 16 + b / 16) / 16 = a ∧
    (a % 4 * 16 + b / 16) % 16 * 16 + (b % 16 * 4 + c / 64) / 4 = b ∧
    (b % 16 * 4 + c / 64) % 4 * 64 + c % 64 = c := by
  have hb' : b / 16 < 16 := Nat.div_lt_of_lt_mul hb
  have hc' : c / 64 < 4 := Nat.div_lt_of_lt_mul hc
  refine ⟨⟨Nat.div_lt_of_lt_mul ha, pack_lt (Nat.mod_lt _ (by decide)) hb',
    pack_lt (Nat.mod_lt _ (by decide)) hc', Nat.mod_lt _ (by decide)⟩, ?_, ?_, ?_⟩
  · rw [pack_div hb', Nat.div_add_mod']
  · rw [Nat.mul_add_mod_of_lt hb', pack_div hc', Nat.div_add_mod']
  · rw [Nat.mul_add_mod_of_lt hc', Nat.div_add_mod']

/-! the three shapes of a quantum `b64quads` accepts -/

theorem b64quads_pad2 {c0 c1 : Char} {x y : Nat} (h0 : b64val c0 = some x) (h1 : b64val c1 = some y) :
    b64quads [c0, c1, '=', '='] = some [Char.ofNat (x * 4 + y / 16)] := by
  rw [b64quads]
  simp only [h0, h1, if_true, and_self]

theorem b64quads_pad1 {c0 c1 c2 : Char} {x y z : Nat} (h0 : b64val c0 = some x) (h1 : b64val c1 = some y)
    (h2 : b64val c2 = some z) (n2 : c2 ≠ '=') :
    b64quads [c0, c1, c2, '='] = some [Char.ofNat (x * 4 + y / 16), Char.ofNat (y % 16 * 16 + z / 4)] := by
  rw [b64quads]
  simp only [h0, h1, h2, n2, if_true, if_false]

theorem b64quads_full {c0 c1 c2 c3 : Char} {x y z w : Nat} (rest : Str)
    (h0 : b64val c0 = some x) (h1 : b64val c1 = some y) (h2 : b64val c2 = some z) (h3 : b64val c3 = some w)
    (n2 : c2 ≠ '=') (n3 : c3 ≠ '=') :
    b64quads (c0 :: c1 :: c2 :: c3 :: rest) =
      (b64quads rest).map fun out => Char.ofNat (x * 4 + y / 16) :: Char.ofNat (y % 16 * 16 + z / 4)
        :: Char.ofNat (z % 4 * 64 + w) :: out := by
  rw [b64quads]
  simp only [h0, h1, h2, h3, n2, n3, if_false]
  cases b64quads rest <;> rfl

/-- **b64 round trip** — the model's decoder inverts standard base64 encoding on every byte
    string, so `Basic ` + std-base64(`u:p`) always decodes to `u:p`. -/
theorem b64_roundtrip : ∀ (bs : Str), (∀ c ∈ bs, c.toNat < 256) → b64quads (b64encode bs) = some bs
  | [], _ => rfl
  | [a], h => by
    obtain ⟨⟨l0, l1, -, -⟩, e1, -, -⟩ := sextets (h a (.head _)) (Nat.zero_lt_succ 255) (Nat.zero_lt_succ 255)
    simp only [Nat.zero_div, Nat.add_zero] at l1 e1
    rw [b64encode, b64quads_pad2 (b64char_facts _ l0).1 (b64char_facts _ l1).1, e1, Char.ofNat_toNat]
  | [a, b], h => by
    obtain ⟨⟨l0, l1, l2, -⟩, e1, e2, -⟩ :=
      sextets (h a (.head _)) (h b (.tail _ (.head _))) (Nat.zero_lt_succ 255)
    simp only [Nat.zero_div, Nat.add_zero] at l2 e2
    rw [b64encode, b64quads_pad1 (b64char_facts _ l0).1 (b64char_facts _ l1).1 (b64char_facts _ l2).1
      (b64char_facts _ l2).2.1, e1, e2, Char.ofNat_toNat, Char.ofNat_toNat]
  | a :: b :: c :: rest, h => by
    obtain ⟨⟨l0, l1, l2, l3⟩, e1, e2, e3⟩ :=
      sextets (h a (.head _)) (h b (.tail _ (.head _))) (h c (.tail _ (.tail _ (.head _))))
    rw [b64encode, b64quads_full _ (b64char_facts _ l0).1 (b64char_facts _ l1).1 (b64char_facts _ l2).1
      (b64char_facts _ l3).1 (b64char_facts _ l2).2.1 (b64char_facts _ l3).2.1,
      b64_roundtrip rest fun x hx => h x (.tail _ (.tail _ (.tail _ hx))), e1, e2, e3]
    simp only [Option.map_some, Char.ofNat_toNat]

theorem b64encode_clean : ∀ (bs : Str), ∀ c ∈ b64encode bs, c ≠ '\r' ∧ c ≠ '\n'
  | [] => nofun
  | [a] => by
    simp only [b64encode, List.mem_cons, List.not_mem_nil, or_false, forall_eq_or_imp, forall_eq]
    exact ⟨b64char_clean _, b64char_clean _, by decide, by decide⟩
  | [a, b] => by
    simp only [b64encode, List.mem_cons, List.not_mem_nil, or_false, forall_eq_or_imp, forall_eq]
    exact ⟨b64char_clean _, b64char_clean _, b64char_clean _, by decide⟩
  | a :: b :: c :: rest => by
    simp only [b64encode, List.mem_cons, forall_eq_or_imp]
    exact ⟨b64char_clean _, b64char_clean _, b64char_clean _, b64char_clean _, b64encode_clean rest⟩

/-- the encoder emits neither CR nor LF, so the filter in front of `b64quads` removes nothing -/
theorem C13_b64_roundtrip (bs : Str) (h : ∀ c ∈ bs, c.toNat < 256) :
    b64decode (b64encode bs) = some bs := by
  unfold b64decode
  rw [List.filter_eq_self.mpr, b64_roundtrip bs h]
  intro c hc
  have := b64encode_clean bs c hc
  simp [this.1, this.2]


theorem b64encode_ne_nil : ∀ (bs : Str), bs ≠ [] → b64encode bs ≠ []
  | [], h => absurd rfl h
  | [_], _ => by simp [b64encode]
  | [_, _], _ => by simp [b64encode]
  | _ :: _ :: _ :: _, _ => by simp [b64encode]

theorem eqFold_length {a b : Str} (h : eqFold a b = true) : a.length = b.length := by
  unfold eqFold at h
  have := congrArg List.length (eq_of_beq h)
  simpa using this

/-- **C13_basic_accepts_encoded** — completeness with the concrete codec: for every user name
    without a colon and every password (any bytes), `<basic in any casing> <std-base64(user:pass)>`
    reaches the handler whenever the validator accepts `(user, pass)`. -/
theorem C13_basic_accepts_encoded (V : Str → Str → Outcome) (sch u p : Str) (rest : List Str)
    (hfold : eqFold sch basicLit = true) (hb : ∀ c ∈ u ++ ':' :: p, c.toNat < 256)
    (hu : ':' ∉ u) (hV : V u p = .yes) :
    basicAuth V b64decode ((sch ++ ' ' :: b64encode (u ++ ':' :: p)) :: rest)
      = some ⟨true, 200, false, [(u, p)]⟩ :=
  C13_basic_complete V b64decode sch _ u p ' ' rest
    (by rw [eqFold_length hfold]; decide) hfold (b64encode_ne_nil _ (by simp))
    (C13_b64_roundtrip _ hb) hu hV

/-! ## non-vacuity: concrete instances meeting the hypotheses -/

/-- accept exactly joe / `pw:x` -/
def vJoe : Str → Str → Outcome := fun u p =>
  if u = "joe".toList ∧ p = "pw:x".toList then .yes else .no

-- "am9lOnB3Ong=" is base64("joe:pw:x"): split at the FIRST colon, scheme in odd casing
example : basicAuth vJoe b64decode ["bAsIc am9lOnB3Ong=".toList, "Basic Zm9vOmJhcg==".toList]
    = some ⟨true, 200, false, [("joe".toList, "pw:x".toList)]⟩ := by unfold vJoe; lit_chars; decide +kernel
-- hypotheses of C13_basic_sound are satisfiable, conclusion is the expected witness
example : ∃ o, basicAuth vJoe b64decode ["bAsIc am9lOnB3Ong=".toList] = some o ∧ o.ran = true :=
  ⟨⟨true, 200, false, [("joe".toList, "pw:x".toList)]⟩, by unfold vJoe; lit_chars; decide +kernel, rfl⟩
-- CR/LF inside the text is skipped, as Go does
example : b64decode "am9l\nOnB3\r\nOng=".toList = some "joe:pw:x".toList := by lit_chars; decide +kernel
-- rejected: second header value is never looked at; bad base64 is 400 without a validator call
example : basicAuth vJoe b64decode ["Basic Zm9vOmJhcg==".toList, "Basic am9lOnB3Ong=".toList]
    = some ⟨false, 401, true, [("foo".toList, "bar".toList)]⟩ := by unfold vJoe; lit_chars; decide +kernel
example : basicAuth vJoe b64decode ["Basic am9lOnB3Ong".toList] = some ⟨false, 400, false, []⟩ := by lit_chars; decide +kernel
-- hypotheses of C13_basic_accepts_encoded
example : eqFold "BASIC".toList basicLit = true ∧ ':' ∉ "joe".toList ∧ vJoe "joe".toList "pw:x".toList = .yes ∧
    b64encode "joe:pw:x".toList = "am9lOnB3Ong=".toList := by unfold vJoe; lit_chars; decide +kernel

/-- accept exactly the key `tok`; asked about `boom` the validator itself fails with an `*echo.HTTPError` 403 -/
def vTok : Str → Outcome := fun k => if k = "tok".toList then .yes else if k = "boom".toList then .err (.http 403) else .no

def cfgDemo : KCfg :=
  ⟨(parseLookups "header:Authorization,query:key".toList "".toList).getD [], .absent, false⟩

/-- the lookup string parsed once; evaluating `parseLookups` is the slow part of the examples below -/
theorem cfgDemo_eq : cfgDemo =
    ⟨[⟨.header, "Authorization".toList, "Bearer ".toList⟩, ⟨.query, "key".toList, []⟩], .absent, false⟩ := by
  unfold cfgDemo; lit_chars; decide +kernel

example : cfgDemo.sources = [⟨.header, "Authorization".toList, "Bearer ".toList⟩, ⟨.query, "key".toList, []⟩] := by
  rw [cfgDemo_eq]
-- the first source yields a refused key and a failing validator, the second source the accepted one
example : keyAuth vTok cfgDemo
    [[("Authorization".toList, "bearer nope".toList), ("Authorization".toList, "BEARER boom".toList)],
     [("key".toList, "tok".toList)]]
    = some ⟨true, 200, 0, ["nope".toList, "boom".toList, "tok".toList]⟩ := by
  rw [cfgDemo_eq]; unfold vTok; lit_chars; decide +kernel
-- `Bearer` without the space / wrong scheme: nothing extracted, 400, validator not called
example : keyAuth vTok cfgDemo [[("Authorization".toList, "Bearertok".toList), ("Authorization".toList, "Basic tok".toList)], []]
    = some ⟨false, 400, 0, []⟩ := by rw [cfgDemo_eq]; lit_chars; decide +kernel
-- the validator's own HTTP error is the last error: its code is the status
example : keyAuth vTok cfgDemo [[("Authorization".toList, "Bearer boom".toList)], []]
    = some ⟨false, 403, 0, ["boom".toList]⟩ := by rw [cfgDemo_eq]; unfold vTok; lit_chars; decide +kernel
-- the documented opt-in
example : keyAuth vTok ⟨cfgDemo.sources, .retNil, true⟩ [[], []] = some ⟨true, 200, 1, []⟩ := by
  rw [cfgDemo_eq]; lit_chars; decide +kernel
-- the configuration-only panic of C13_key_panic_iff
example : parseLookups "headers:X-Api-Key".toList [] = some [] := by lit_chars; decide +kernel
example : keyAuth vTok ⟨[], .absent, false⟩ [] = none := by decide +kernel


/-! ## KeyLookup: the third part of a header lookup is the cut-prefix, also when it is empty -/

theorem splitOn_noSep (sep : Char) : ∀ a : Str, sep ∉ a → splitOn sep a = [a]
  | [], _ => rfl
  | c :: r, h => by
    simp only [List.mem_cons, not_or] at h
    simp [splitOn, Ne.symm h.1, splitOn_noSep sep r h.2]

theorem splitOn_append_sep (sep : Char) : ∀ (a b : Str), sep ∉ a → splitOn sep (a ++ sep :: b) = a :: splitOn sep b
  | [], b, _ => by simp [splitOn]
  | c :: r, b, h => by
    simp only [List.mem_cons, not_or] at h
    simp [splitOn, Ne.symm h.1, splitOn_append_sep sep r b h.2]

/-- a lookup whose first part is `header`: the third part, when there is one, is the cut-prefix;
    otherwise `Authorization` gets the AuthScheme followed by a blank, any other header none -/
theorem parseSource_header (scheme n : Str) (more : List Str) {source : Str}
    (h : splitOn ':' source = "header".toList :: n :: more) :
    parseSource scheme source = some (some ⟨.header, n, more.head?.getD
      (if scheme ≠ [] ∧ n = authorizationLit then
        (if hasSuffixSpace scheme then scheme else scheme ++ [' ']) else [])⟩) := by
  unfold parseSource
  rw [h]
  lit_chars
  simp only [List.cons.injEq, Char.reduceEq, false_and, if_false, and_self, if_true]
  cases more with
  | nil => dsimp only [List.head?_nil, Option.getD_none]; split <;> rfl
  | cons p _ => rfl

theorem splitOn_header (rest : Str) :
    splitOn ':' ("header".toList ++ ':' :: rest) = "header".toList :: splitOn ':' rest :=
  splitOn_append_sep ':' _ rest (by lit_chars; decide)

/-- **C13_header_cut_prefix_literal** — `header:<name>:<cut-prefix>`: the third part IS the
    cut-prefix, for every name and every AuthScheme — also when it is EMPTY (`header:Authorization:`:
    nothing is cut, the AuthScheme's back-compat `Bearer ` is not imposed). -/
theorem C13_header_cut_prefix_literal (scheme n p : Str) (hn : ':' ∉ n) (hp : ':' ∉ p) :
    parseSource scheme ("header".toList ++ ':' :: (n ++ ':' :: p)) = some (some ⟨.header, n, p⟩) :=
  parseSource_header scheme n [p] <| by
    rw [splitOn_header, splitOn_append_sep ':' n p hn, splitOn_noSep ':' p hp]

/-- without a third part the AuthScheme (plus a blank) is the cut-prefix of `Authorization`, and
    only of `Authorization` -/
theorem C13_header_default_prefix (scheme n : Str) (hn : ':' ∉ n) :
    parseSource scheme ("header".toList ++ ':' :: n) = some (some ⟨.header, n,
      if scheme ≠ [] ∧ n = authorizationLit then (if hasSuffixSpace scheme then scheme else scheme ++ [' ']) else []⟩) :=
  parseSource_header scheme n [] <| by rw [splitOn_header, splitOn_noSep ':' n hn]

/-- with an empty cut-prefix every value of the header is a key as it stands -/
theorem C13_empty_prefix_whole_value (n : Str) (nv : Str × Str) :
    keyOf ⟨.header, n, []⟩ nv = some nv.2 := rfl

-- `header:Authorization:` with the default scheme: the raw key is the key; `Bearer abc` stays `Bearer abc`
example : parseLookups "header:Authorization:".toList [] = some [⟨.header, authorizationLit, []⟩] ∧
    parseLookups "header:Authorization".toList [] = some [⟨.header, authorizationLit, "Bearer ".toList⟩] ∧
    parseLookups "header:Authorization::x".toList "Token".toList = some [⟨.header, authorizationLit, []⟩] := by lit_chars; decide +kernel
example : keyAuth (fun k => if k = "raw-api-key".toList then .yes else .no) ⟨[⟨.header, authorizationLit, []⟩], .absent, false⟩
      [[("Authorization".toList, "raw-api-key".toList)]] = some ⟨true, 200, 0, ["raw-api-key".toList]⟩ ∧
    keyAuth (fun k => if k = "abc".toList then .yes else .no) ⟨[⟨.header, authorizationLit, []⟩], .absent, false⟩
      [[("Authorization".toList, "Bearer abc".toList)]] = some ⟨false, 401, 0, ["Bearer abc".toList]⟩ := by lit_chars; decide +kernel


/-! ## the whole closures (Skipper first), the convenience constructors, `CreateExtractors` -/

/-- **C13_basic_mw_sound** — through the complete BasicAuth middleware the handler runs only when
    the configured Skipper took the request out of the middleware, or the validator said yes to the
    literally decoded credentials (conclusion of `C13_basic_sound`). -/
theorem C13_basic_mw_sound (skip : Bool) (V : Str → Str → Outcome) (dec : Str → Option Str)
    (hdrs : List Str) (o : BObs) (h : basicAuthMW skip V dec hdrs = some o) (hr : o.ran = true) :
    skip = true ∨
    ∃ auth u p, hdrs.head? = some auth ∧ Guard auth ∧ dec (auth.drop 6) = some (u ++ ':' :: p) ∧
      ':' ∉ u ∧ V u p = .yes ∧ o.calls = [(u, p)] ∧ o.status = 200 := by
  cases skip with
  | true => exact Or.inl rfl
  | false => exact Or.inr (C13_basic_sound V dec hdrs o h hr)

/-- **C13_basic_mw_skip** — a skipped request reaches the handler and the validator is not asked;
    an unskipped one is exactly `basicAuth` (so every earlier theorem applies), and the closure never
    panics. -/
theorem C13_basic_mw_skip (skip : Bool) (V : Str → Str → Outcome) (dec : Str → Option Str) (hdrs : List Str) :
    (skip = true → basicAuthMW skip V dec hdrs = some ⟨true, 200, false, []⟩) ∧
    (skip = false → basicAuthMW skip V dec hdrs = basicAuth V dec hdrs) ∧
    basicAuthMW skip V dec hdrs ≠ none := by
  cases skip with
  | true => exact ⟨fun _ => rfl, nofun, Option.some_ne_none _⟩
  | false => exact ⟨nofun, fun _ => rfl, C13_basic_no_panic V dec hdrs⟩

/-- **C13_basic_mw_calls_literal** — also through the complete closure every validator call is
    with the decoded text of the first header value split at its first colon (nothing trimmed,
    folded or re-encoded in between). -/
theorem C13_basic_mw_calls_literal (skip : Bool) (V : Str → Str → Outcome) (dec : Str → Option Str)
    (hdrs : List Str) (o : BObs) (h : basicAuthMW skip V dec hdrs = some o) :
    ∀ c ∈ o.calls, ∃ auth, hdrs.head? = some auth ∧ dec (auth.drop 6) = some (c.1 ++ ':' :: c.2) ∧ ':' ∉ c.1 := by
  cases skip with
  | true => cases h; nofun
  | false =>
    intro c hc
    obtain ⟨auth, h1, -, h3, h4⟩ := C13_basic_calls_literal V dec hdrs o h c hc
    exact ⟨auth, h1, h3, h4⟩

/-- **C13_www_value** — the challenge of a 401 names the default realm as the bare word
    `Restricted` exactly when the configured realm is empty or that word (so for `BasicAuth(fn)`);
    any other realm appears only in its quoted form. -/
theorem C13_www_value (realm quoted : Str) :
    ((realm = [] ∨ realm = defaultRealm) → wwwValue realm quoted = "basic realm=Restricted".toList) ∧
    ((realm ≠ [] ∧ realm ≠ defaultRealm) → wwwValue realm quoted = "basic realm=".toList ++ quoted) := by
  unfold wwwValue
  constructor
  · intro h
    rw [if_pos h]
    unfold defaultRealm
    lit_chars
    rfl
  · intro h
    rw [if_neg (not_or.mpr h)]

/-- **C13_key_mw_sound** — through the complete KeyAuth middleware the handler runs only when the
    Skipper took the request out, the validator said yes to a key literally present at a configured
    location, or the documented `ContinueOnIgnoredError` opt-in applies. -/
theorem C13_key_mw_sound (skip : Bool) (V : Str → Outcome) (cfg : KCfg) (data : List (List (Str × Str)))
    (o : KObs) (h : keyAuthMW skip V cfg data = some o) (hr : o.ran = true) :
    skip = true ∨
    (∃ k, o.calls.getLast? = some k ∧ V k = .yes ∧ Present cfg data k) ∨
    (cfg.cont = true ∧ cfg.eh = .retNil ∧ ∀ k ∈ o.calls, V k ≠ .yes) := by
  cases skip with
  | true => exact Or.inl rfl
  | false => exact Or.inr (C13_key_sound V cfg data o h hr)

/-- **C13_key_mw_skip** — a skipped request reaches the handler with no extractor and no validator
    involved (in particular the configuration-only panic of `C13_key_panic_iff` cannot happen for
    it); an unskipped one is exactly `keyAuth`. -/
theorem C13_key_mw_skip (skip : Bool) (V : Str → Outcome) (cfg : KCfg) (data : List (List (Str × Str))) :
    (skip = true → keyAuthMW skip V cfg data = some ⟨true, 200, 0, []⟩) ∧
    (skip = false → keyAuthMW skip V cfg data = keyAuth V cfg data) := by
  cases skip with
  | true => exact ⟨fun _ => rfl, nofun⟩
  | false => exact ⟨nofun, fun _ => rfl⟩

/-- **C13_key_ctor_default** — `KeyAuth(fn)` looks at exactly one place, the `Authorization` header
    with the cut-prefix `Bearer ` (scheme plus the appended space), has no ErrorHandler and no
    opt-in; `KeyAuthWithConfig` with empty `KeyLookup` / `AuthScheme` builds the same extractor. -/
theorem C13_key_ctor_default :
    keyCtorCfg = some ⟨[⟨.header, authorizationLit, "Bearer ".toList⟩], .absent, false⟩ ∧
    parseLookups [] [] = parseLookups defaultLookup defaultScheme := by
  have h0 : parseLookups [] [] = parseLookups defaultLookup defaultScheme := by
    simp only [parseLookups, ite_self, ↓reduceIte]
  refine ⟨?_, h0⟩
  -- the default lookup is one `header` source without a third part, so the scheme is its cut-prefix
  have hl : defaultLookup = "header".toList ++ ':' :: authorizationLit := by
    unfold defaultLookup authorizationLit; lit_chars; rfl
  have hn : ',' ∉ defaultLookup ∧ ':' ∉ authorizationLit ∧ defaultLookup ≠ [] := by
    unfold defaultLookup authorizationLit; lit_chars; decide
  rw [keyCtorCfg, h0]
  simp only [parseLookups, ite_self]
  rw [createExtractors, if_neg hn.2.2, splitOn_noSep _ _ hn.1, parseSources, parseSources, hl,
    C13_header_default_prefix _ _ hn.2.1]
  unfold defaultScheme; lit_chars; rfl

/-- **C13_key_ctor_sound** — hence behind `KeyAuth(fn)` the handler runs only for a request whose
    last validated key was approved and is the text after a case-insensitively matched `Bearer `
    prefix of one of its `Authorization` values (no opt-in exists for this constructor). -/
theorem C13_key_ctor_sound (V : Str → Outcome) (cfg : KCfg) (hc : keyCtorCfg = some cfg)
    (vals : List (Str × Str)) (o : KObs) (h : keyAuth V cfg [vals] = some o) (hr : o.ran = true) :
    ∃ k nv, o.calls.getLast? = some k ∧ V k = .yes ∧ nv ∈ vals ∧ hdrKey "Bearer ".toList nv.2 = some k := by
  cases hc.symm.trans C13_key_ctor_default.1
  rcases C13_key_sound V _ [vals] o h hr with ⟨k, hl, hv, sd, hsd, nv, hnv, hk⟩ | ⟨hcont, _, _⟩
  · have : sd = (⟨.header, authorizationLit, "Bearer ".toList⟩, vals) := by simpa using hsd
    subst this
    exact ⟨k, nv, hl, hv, hnv, by simpa [keyOf] using hk⟩
  · simp at hcont

/-- **C13_createExtractors_empty** — the exported `CreateExtractors("")` builds no extractor and
    reports no error (extractor.go:51-53), whereas the KeyAuth constructors never reach that branch:
    an empty `KeyLookup` is replaced by the default before. -/
theorem C13_createExtractors_empty (scheme : Str) :
    createExtractors [] scheme = some [] ∧
    (∀ lookups, parseLookups lookups scheme =
      createExtractors (if lookups = [] then defaultLookup else lookups)
        (if scheme = [] then defaultScheme else scheme)) ∧
    (∀ lookups, (if lookups = [] then defaultLookup else lookups) ≠ []) := by
  refine ⟨rfl, fun _ => rfl, fun lookups => ?_⟩
  split
  · unfold defaultLookup
    lit_chars
    exact List.cons_ne_nil _ _
  · assumption

/-- **C13_header_missing_only_without_values** — the statement `return nil,
    errHeaderExtractorValueMissing` behind the loop of `valuesFromHeader` (extractor.go:128) is dead:
    without a cut-prefix every value is returned, so the header extractor reports "missing" only
    when the header has no value at all. -/
theorem C13_header_missing_only_without_values (name : Str) (d : List (Str × Str))
    (h : extract ⟨.header, name, []⟩ d = .fail .headerMissing) : d = [] := by
  cases d with
  | nil => rfl
  | cons a r =>
    rcases extract_spec ⟨.header, name, []⟩ (a :: r) with ⟨e, _, hk⟩ | ⟨hk, _⟩
    · exact absurd hk (List.ne_nil_of_mem (limLoop_head (f := keyOf _) (k := a.2) rfl 0 r))
    · rw [hk] at h; cases h

/-- the limit of the param extractor: `valuesFromParam` stops after a matching parameter at index ≥ 19: on a
    route with 22 parameters of which indices 0, 5, 18-21 carry the looked-up name, the values at
    20 and 21 are never offered to the validator (a key there is outside "the first 20 values"). -/
example :
    let names : List Str := (List.range 22).map fun i => if i ∈ [0, 5, 18, 19, 20, 21] then "key".toList else "o".toList
    let d := names.zip ((List.range 22).map fun i => [Char.ofNat (97 + i)])
    extract ⟨.param, "key".toList, []⟩ d = .keys [['a'], ['f'], ['s'], ['t']] := by decide +kernel

-- the closures and constructors on concrete requests
example : basicAuthMW true vJoe b64decode [] = some ⟨true, 200, false, []⟩ ∧
    basicAuthMW false vJoe b64decode [] = some (unauthorized []) := by decide +kernel
-- the trailing line feed of `echo joe:pw:x | base64` belongs to the password: refused, literally
example : basicAuthMW false vJoe b64decode ["Basic am9lOnB3OngK".toList]
    = some (unauthorized [("joe".toList, "pw:x\n".toList)]) := by unfold vJoe; lit_chars; decide +kernel
example : wwwValue "My \"Realm\"".toList "\"My \\\"Realm\\\"\"".toList = "basic realm=\"My \\\"Realm\\\"\"".toList ∧
    wwwValue [] "\"\"".toList = "basic realm=Restricted".toList := by lit_chars; decide +kernel
example : ∃ cfg, keyCtorCfg = some cfg ∧
    keyAuth vTok cfg [[("Authorization".toList, "bearer tok".toList)]] = some ⟨true, 200, 0, ["tok".toList]⟩ ∧
    keyAuth vTok cfg [[("Authorization".toList, "Token tok".toList)]] = some ⟨false, 400, 0, []⟩ :=
  ⟨_, C13_key_ctor_default.1, by unfold vTok; lit_chars; decide +kernel, by lit_chars; decide +kernel⟩
example : keyAuthMW true vTok ⟨[], .absent, false⟩ [] = some ⟨true, 200, 0, []⟩ ∧
    keyAuthMW false vTok ⟨[], .absent, false⟩ [] = none := by decide +kernel
example : createExtractors "header:Authorization".toList [] = some [⟨.header, authorizationLit, []⟩] := by unfold authorizationLit; lit_chars; decide +kernel


/-! ## several instances on the path of one request (`authStack`) -/

theorem authStack_pass {dec : Str → Option Str} {l : ALayer} {ol : LObs} (hl : l.run dec = some ol)
    (hr : ol.ran = true) (rest : List ALayer) :
    authStack dec (l :: rest) =
      (authStack dec rest).map fun r => { r with layers := (ol.ehClass, ol.calls) :: r.layers } := by
  rw [authStack, hl]
  dsimp only
  rw [if_pos hr]
  cases authStack dec rest <;> rfl

theorem authStack_stop {dec : Str → Option Str} {l : ALayer} {ol : LObs} (hl : l.run dec = some ol)
    (hr : ol.ran = false) (rest : List ALayer) :
    authStack dec (l :: rest) =
      some ⟨false, ol.status, ol.www, (ol.ehClass, ol.calls) :: rest.map fun _ => (0, [])⟩ := by
  rw [authStack, hl]
  dsimp only
  rw [if_neg (hr ▸ Bool.false_ne_true)]

/-- **C13_stack_every_instance** — behind any stack every instance must pass the request on its own:
    the handler ran ⇒ each instance, evaluated on the request as it was sent, does not panic and
    calls `next`. -/
theorem C13_stack_every_instance (dec : Str → Option Str) : ∀ (ls : List ALayer) (o : SObs),
    authStack dec ls = some o → o.ran = true → ∀ l ∈ ls, ∃ ol, l.run dec = some ol ∧ ol.ran = true
  | [], _, _, _ => nofun
  | l :: rest, o, h, hr => by
    cases hl : l.run dec with
    | none => rw [authStack, hl] at h; cases h
    | some ol =>
      cases hran : ol.ran with
      | false => rw [authStack_stop hl hran] at h; cases h; cases hr
      | true =>
        rw [authStack_pass hl hran] at h
        obtain ⟨r, hrest, rfl⟩ := Option.map_eq_some_iff.mp h
        exact List.forall_mem_cons.mpr ⟨⟨ol, hl, hran⟩, C13_stack_every_instance dec rest r hrest hr⟩

/-- **C13_stack_complete** — and conversely: when every instance on its own passes the request as it
    was sent (e.g. each validator accepts the well-formed credentials of the request), the handler
    runs — no instance can take away what a later one is going to look at.  (The statement a
    middleware that consumes the `Authorization` header after its own success breaks.) -/
theorem C13_stack_complete (dec : Str → Option Str) : ∀ (ls : List ALayer),
    (∀ l ∈ ls, ∃ ol, l.run dec = some ol ∧ ol.ran = true) →
    ∃ o, authStack dec ls = some o ∧ o.ran = true ∧ o.status = 200 ∧ o.layers.length = ls.length
  | [], _ => ⟨_, rfl, rfl, rfl, rfl⟩
  | l :: rest, h => by
    obtain ⟨ol, hl, hran⟩ := h l (.head _)
    obtain ⟨r, hr, hrr, hst, hlen⟩ := C13_stack_complete dec rest fun l' hl' => h l' (.tail _ hl')
    rw [authStack_pass hl hran, hr]
    exact ⟨_, rfl, hrr, hst, congrArg (· + 1) hlen⟩

/-- the first instance that does not pass the request on answers it: its status and challenge are the
    response, later instances are not consulted (their validators are not called) -/
theorem C13_stack_stops_at_first (dec : Str → Option Str) (pre : List ALayer) (l : ALayer) (post : List ALayer)
    (hpre : ∀ x ∈ pre, ∃ ox, x.run dec = some ox ∧ ox.ran = true)
    (ol : LObs) (hl : l.run dec = some ol) (hran : ol.ran = false) :
    ∃ o, authStack dec (pre ++ l :: post) = some o ∧ o.ran = false ∧ o.status = ol.status ∧ o.www = ol.www ∧
      o.layers.drop (pre.length + 1) = post.map (fun _ => (0, [])) := by
  induction pre with
  | nil =>
    rw [List.nil_append, authStack_stop hl hran]
    exact ⟨_, rfl, rfl, rfl, rfl, rfl⟩
  | cons x pre ih =>
    obtain ⟨ox, hx, hxr⟩ := hpre x (.head _)
    obtain ⟨o, ho, h1, h2, h3, h4⟩ := ih fun y hy => hpre y (.tail _ hy)
    rw [List.cons_append, authStack_pass hx hxr, ho]
    exact ⟨_, rfl, h1, h2, h3, h4⟩

/-- **C13_stack_basic_layer** — the handler ran behind a stack ⇒ for every BasicAuth instance in it:
    its Skipper stood it aside, or ITS validator said yes to the literally decoded credentials of the
    request's first Authorization value. -/
theorem C13_stack_basic_layer (dec : Str → Option Str) (ls : List ALayer) (o : SObs)
    (h : authStack dec ls = some o) (hr : o.ran = true)
    (skip : Bool) (realm quoted : Str) (V : Str → Str → Outcome) (hdrs : List Str)
    (hl : ALayer.basic skip realm quoted V hdrs ∈ ls) :
    skip = true ∨ ∃ auth u p, hdrs.head? = some auth ∧ Guard auth ∧
      dec (auth.drop 6) = some (u ++ ':' :: p) ∧ ':' ∉ u ∧ V u p = .yes := by
  obtain ⟨ol, hrun, hran⟩ := C13_stack_every_instance dec ls o h hr _ hl
  rw [ALayer.run] at hrun
  cases hb : basicAuthMW skip V dec hdrs with
  | none => rw [hb] at hrun; cases hrun
  | some bo =>
    rw [hb] at hrun
    cases hrun
    rcases C13_basic_mw_sound skip V dec hdrs bo hb hran with hs | ⟨auth, u, p, h1, h2, h3, h4, h5, -⟩
    · exact Or.inl hs
    · exact Or.inr ⟨auth, u, p, h1, h2, h3, h4, h5⟩

/-- **C13_stack_key_layer** — and for every KeyAuth instance: skipped, or ITS validator approved a
    key literally present at one of ITS lookup locations, or its documented opt-in applies. -/
theorem C13_stack_key_layer (dec : Str → Option Str) (ls : List ALayer) (o : SObs)
    (h : authStack dec ls = some o) (hr : o.ran = true)
    (skip : Bool) (V : Str → Outcome) (cfg : KCfg) (data : List (List (Str × Str)))
    (hl : ALayer.key skip V cfg data ∈ ls) :
    skip = true ∨ (∃ k, V k = .yes ∧ Present cfg data k) ∨ (cfg.cont = true ∧ cfg.eh = .retNil) := by
  obtain ⟨ol, hrun, hran⟩ := C13_stack_every_instance dec ls o h hr _ hl
  rw [ALayer.run] at hrun
  cases hk : keyAuthMW skip V cfg data with
  | none => rw [hk] at hrun; cases hrun
  | some ko =>
    rw [hk] at hrun
    cases hrun
    rcases C13_key_mw_sound skip V cfg data ko hk hran with hs | ⟨k, -, hv, hp⟩ | ⟨hc, he, -⟩
    · exact Or.inl hs
    · exact Or.inr (Or.inl ⟨k, hv, hp⟩)
    · exact Or.inr (Or.inr ⟨hc, he⟩)

/-- **C13_stack_basic_accepting** — any number of BasicAuth instances (any realms, any casing of the
    scheme is the request's) whose validators all accept the request's well-formed credentials let
    the request through to the handler, each validator asked exactly once about exactly `(u, p)`. -/
theorem C13_stack_basic_accepting (dec : Str → Option Str) (sch enc u p : Str) (sep : Char) (rest : List Str)
    (hsch : sch.length = 5) (hfold : eqFold sch basicLit = true) (henc : enc ≠ [])
    (hdec : dec enc = some (u ++ ':' :: p)) (hu : ':' ∉ u)
    (ls : List ALayer)
    (hall : ∀ l ∈ ls, ∃ realm quoted V, l = .basic false realm quoted V ((sch ++ sep :: enc) :: rest) ∧ V u p = .yes) :
    ∃ o, authStack dec ls = some o ∧ o.ran = true ∧ o.status = 200 ∧ ∀ x ∈ o.layers, x = (0, [(u, p)]) := by
  induction ls with
  | nil => exact ⟨_, rfl, rfl, rfl, nofun⟩
  | cons l ls ih =>
    obtain ⟨realm, quoted, V, rfl, hV⟩ := hall l (.head _)
    obtain ⟨r, hr, hrr, hst, hlay⟩ := ih fun l' hl' => hall l' (.tail _ hl')
    have hrun : (ALayer.basic false realm quoted V ((sch ++ sep :: enc) :: rest)).run dec
        = some ⟨true, 200, [], 0, [(u, p)]⟩ := by
      rw [ALayer.run, basicAuthMW, if_neg Bool.false_ne_true,
        C13_basic_complete V dec sch enc u p sep rest hsch hfold henc hdec hu hV]
      rfl
    rw [authStack_pass hrun rfl, hr]
    exact ⟨_, rfl, hrr, hst, List.forall_mem_cons.mpr ⟨rfl, hlay⟩⟩

-- non-vacuity: BasicAuth(outer) on the root, BasicAuth(inner) on the group, KeyAuth on the route reading the
-- same header; every instance is asked about the request as sent
def vInner : Str → Str → Outcome := fun u p => if u = "joe".toList ∧ p = "pw:x".toList then .yes else .err (.http 403)
def vB64 : Str → Outcome := fun k => if k = "am9lOnB3Ong=".toList then .yes else .no
def keyOnBasic : KCfg := ⟨[⟨.header, authorizationLit, "Basic ".toList⟩], .absent, false⟩
example : authStack b64decode
    [.basic false [] [] vJoe ["bAsIc am9lOnB3Ong=".toList], .basic false "inner".toList "\"inner\"".toList vInner ["bAsIc am9lOnB3Ong=".toList],
     .key false vB64 keyOnBasic [[("Authorization".toList, "bAsIc am9lOnB3Ong=".toList)]]]
    = some ⟨true, 200, [], [(0, [("joe".toList, "pw:x".toList)]), (0, [("joe".toList, "pw:x".toList)]), (0, [("am9lOnB3Ong=".toList, [])])]⟩ := by
  unfold vJoe vInner vB64 keyOnBasic; lit_chars; decide +kernel
-- the inner instance refuses what the outer one accepts: its challenge and status are the answer, the third is not asked
example : authStack b64decode
    [.basic false [] [] vJoe ["Basic Zm9vOmJhcg==".toList, "Basic am9lOnB3Ong=".toList].reverse,
     .basic false "inner".toList "\"inner\"".toList (fun _ _ => .no) ["Basic am9lOnB3Ong=".toList],
     .key false vB64 keyOnBasic [[("Authorization".toList, "Basic am9lOnB3Ong=".toList)]]]
    = some ⟨false, 401, "basic realm=\"inner\"".toList, [(0, [("joe".toList, "pw:x".toList)]), (0, [("joe".toList, "pw:x".toList)]), (0, [])]⟩ := by
  lit_chars; decide +kernel


/-! ## the whole request head — nothing but `Authorization` counts -/

theorem HReq.values_cons_ne (m : Str) (n v name : Str) (hs : List (Str × Str)) (h : n ≠ name) :
    (⟨m, (n, v) :: hs⟩ : HReq).values name = (⟨m, hs⟩ : HReq).values name := by
  simp [HReq.values, List.filter, h]

theorem HReq.values_method (m m' : Str) (hs : List (Str × Str)) (name : Str) :
    (⟨m, hs⟩ : HReq).values name = (⟨m', hs⟩ : HReq).values name := rfl

/-- **C13_basic_req_only_authorization** — two requests with the same `Authorization` values are
    treated alike, whatever their methods and their other headers (OPTIONS with
    `Access-Control-Request-Method`, `Upgrade: websocket`, `X-Forwarded-User`, …). -/
theorem C13_basic_req_only_authorization (skip : Bool) (V : Str → Str → Outcome) (dec : Str → Option Str)
    (r r' : HReq) (h : r.values authorizationLit = r'.values authorizationLit) :
    basicAuthReq skip V dec r = basicAuthReq skip V dec r' := by
  simp [basicAuthReq, h]

/-- **C13_basic_req_sound** — for EVERY request head: the handler ran ⇒ the Skipper stood the
    middleware aside, or the validator said yes to the literally decoded credentials of the first
    `Authorization` value, and was asked exactly that. -/
theorem C13_basic_req_sound (skip : Bool) (V : Str → Str → Outcome) (dec : Str → Option Str) (r : HReq)
    (o : BObs) (h : basicAuthReq skip V dec r = some o) (hr : o.ran = true) :
    skip = true ∨ ∃ auth u p, (r.values authorizationLit).head? = some auth ∧ Guard auth ∧
      dec (auth.drop 6) = some (u ++ ':' :: p) ∧ ':' ∉ u ∧ V u p = .yes ∧ o.calls = [(u, p)] := by
  rcases C13_basic_mw_sound skip V dec _ o h hr with hs | ⟨auth, u, p, h1, h2, h3, h4, h5, h6, _⟩
  · exact Or.inl hs
  · exact Or.inr ⟨auth, u, p, h1, h2, h3, h4, h5, h6⟩

/-- **C13_basic_req_no_bypass** — a request without an `Authorization` value is answered 401 with
    the challenge and does not reach the handler, unless the configured Skipper says so: no method
    and no other header opens a way past the validator. -/
theorem C13_basic_req_no_bypass (V : Str → Str → Outcome) (dec : Str → Option Str) (r : HReq)
    (h : r.values authorizationLit = []) : basicAuthReq false V dec r = some (unauthorized []) := by
  simp [basicAuthReq, basicAuthMW, h, basicAuth, basicLit]

-- a complete CORS preflight with credentials the validator refuses, and one without credentials
example : basicAuthReq false vJoe b64decode ⟨"OPTIONS".toList,
      [("Access-Control-Request-Method".toList, "GET".toList), ("Authorization".toList, "Basic Zm9vOmJhcg==".toList),
       ("Origin".toList, "https://app.example.com".toList)]⟩
    = some (unauthorized [("foo".toList, "bar".toList)]) := by lit_chars; decide +kernel
example : basicAuthReq false vJoe b64decode ⟨"OPTIONS".toList,
      [("Access-Control-Request-Method".toList, "GET".toList), ("Upgrade".toList, "websocket".toList)]⟩
    = some (unauthorized []) := by lit_chars; decide +kernel


/-! ## a response that was already started when the middleware is entered -/

/-- **C13_commit_same_decision** — an earlier middleware having started the response changes
    nothing about who reaches the handler and what the validator is asked; only the status on the
    wire stays the one already written (and a challenge set afterwards is not sent). -/
theorem C13_commit_same_decision (committed : Option Nat) :
    (∀ o : BObs, (commitB committed o).ran = o.ran ∧ (commitB committed o).calls = o.calls) ∧
    (∀ o : KObs, (commitK committed o).ran = o.ran ∧ (commitK committed o).calls = o.calls ∧
      (commitK committed o).ehClass = o.ehClass) ∧
    (∀ o : SObs, (commitS committed o).ran = o.ran ∧ (commitS committed o).layers = o.layers) := by
  cases committed <;> simp [commitB, commitK, commitS]

/-- hence the soundness statement survives: behind BasicAuth with a response already started the
    handler still runs only after a yes to the literally decoded credentials -/
theorem C13_commit_basic_sound (committed : Option Nat) (skip : Bool) (V : Str → Str → Outcome)
    (dec : Str → Option Str) (r : HReq) (o : BObs) (h : basicAuthReq skip V dec r = some o)
    (hr : (commitB committed o).ran = true) :
    skip = true ∨ ∃ auth u p, (r.values authorizationLit).head? = some auth ∧ Guard auth ∧
      dec (auth.drop 6) = some (u ++ ':' :: p) ∧ ':' ∉ u ∧ V u p = .yes ∧ (commitB committed o).calls = [(u, p)] := by
  obtain ⟨h1, _, _⟩ := C13_commit_same_decision committed
  rw [(h1 o).1] at hr
  rw [(h1 o).2]
  exact C13_basic_req_sound skip V dec r o h hr

example : commitB (some 202) (unauthorized [("u".toList, "p".toList)]) = ⟨false, 202, false, [("u".toList, "p".toList)]⟩ := by lit_chars; decide +kernel

/-! ## keys that look encoded

No extractor decodes anything: whatever bytes net/http hands over at a lookup location — `%41`, `+`, `%zz`, base64,
character references — are the key.  For a cookie, query, form or param source the key is the WHOLE value; for a header
source the value behind the cut-prefix.  (Query and form values arrive decoded once by net/http; that decoding is the
transport's and happens before the extractor — the model's input is what net/http found.) -/

/-- **C13_key_verbatim** — what an extractor yields for one located (name, value) pair is the value itself, byte for
    byte, for every source kind except `header`; for a header source it is a suffix of the value. -/
theorem C13_key_verbatim (s : Src) (nv : Str × Str) (k : Str) (h : keyOf s nv = some k) :
    (s.kind ≠ .header → k = nv.2 ∧ ((s.kind = .cookie ∨ s.kind = .param) → nv.1 = s.name)) ∧
    (s.kind = .header → ∃ cut, nv.2 = cut ++ k ∧ cut.length = s.pre.length) := by
  obtain ⟨kind, name, pre⟩ := s
  cases kind
  case header => exact ⟨fun hne => absurd rfl hne, fun _ => hdrKey_some h⟩
  case query | form => exact ⟨fun _ => ⟨(Option.some.inj h).symm, nofun⟩, nofun⟩
  case cookie | param => exact ⟨fun _ => ⟨(cookieKey_some h).1, fun _ => (cookieKey_some h).2⟩, nofun⟩

/-- **C13_key_calls_verbatim** — hence: behind KeyAuth whose lookup sources are all cookies (or query / form / param
    sources), every key the validator is shown is the complete value of a pair net/http located at a configured
    source of the request — no unescaping, trimming or cutting, whatever bytes the value consists of. -/
theorem C13_key_calls_verbatim (V : Str → Outcome) (cfg : KCfg) (data : List (List (Str × Str)))
    (o : KObs) (h : keyAuth V cfg data = some o) (hk : ∀ s ∈ cfg.sources, s.kind ≠ .header) :
    ∀ k ∈ o.calls, ∃ sd ∈ cfg.sources.zip data, ∃ nv ∈ sd.2, nv.2 = k ∧
      ((sd.1.kind = .cookie ∨ sd.1.kind = .param) → nv.1 = sd.1.name) := by
  intro k hkm
  obtain ⟨sd, hsd, nv, hnv, hkey⟩ := C13_key_calls_literal V cfg data o h k hkm
  have hs : sd.1 ∈ cfg.sources := (List.of_mem_zip hsd).1
  have := (C13_key_verbatim sd.1 nv k hkey).1 (hk sd.1 hs)
  exact ⟨sd, hsd, nv, hnv, this.1.symm, this.2⟩

-- cookie `key=k%41z`: a validator that accepts only the unescaped text `kAz` is
-- shown `k%41z` and says no; one that accepts exactly the cookie's text says yes and the handler runs
example :
    keyAuth (fun k => if k = "kAz".toList then .yes else .no) ⟨[⟨.cookie, "key".toList, []⟩], .absent, false⟩
      [[("other".toList, "kAz".toList), ("key".toList, "k%41z".toList)]] = some ⟨false, 401, 0, ["k%41z".toList]⟩ ∧
    keyAuth (fun k => if k = "k%41z/%2Bx".toList then .yes else .no) ⟨[⟨.cookie, "key".toList, []⟩], .absent, false⟩
      [[("key".toList, "k%41z/%2Bx".toList)]] = some ⟨true, 200, 0, ["k%41z/%2Bx".toList]⟩ ∧
    keyAuth (fun k => if k = "a b".toList then .yes else .no) ⟨[⟨.header, "X-Api-Key".toList, []⟩], .absent, false⟩
      [[("X-Api-Key".toList, "a+b".toList)]] = some ⟨false, 401, 0, ["a+b".toList]⟩ := by lit_chars; decide +kernel

end C13
