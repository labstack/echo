import EchoModel.C02
import EchoProofs.C02
import EchoProofs.Spec.Irrelevant
import EchoProofs.Tree.Covered
import EchoProofs.Tree.Dedup
import EchoProofs.Lit
/-!
# C02 — registration events: groups with middleware register catch-all routes of their own

`Group.Use` registers two RouteNotFound routes, `prefix` and `prefix/*` (`C02.groupCatchAll`), so that the group's
middleware also runs for unmatched paths of the group.  These routes stay inside the group: for a plain prefix the two
patterns match exactly the (normalised) prefix and the paths below `prefix/` (`/apiary` is matched by neither
catch-all of the group `/api`), so they do not change the answer of the reference search to ANY request outside the
group — other path, same or other method; match, 405 and 404 alike; whatever else is registered (`C02_group_scope`),
wherever the `use` event stands in the event list (`C02_use_scope_expand`), and also for the table in force, where
re-registrations replace earlier ones (`C02_use_scope`).

The root group (empty prefix) is different: `"" ++ "/*"` is `/*`, NOT `//*` — its catch-all covers every path.  The
general statements (`…_gen`) are therefore in terms of `normalizeSlash (pre ++ "/")`, which is `normalizeSlash pre ++
"/"` for a non-empty prefix and `/` for the empty one; the statements with `normalizeSlash pre ++ "/"` need
`pre ≠ []` (`C02_root_group_covers_all` is the counterexample without it).
-/
namespace C02
open Router.Spec
open Router (Str routeNotFound Route normalizeSlash)

theorem C02_expand_append (a b : List Event) : expand (a ++ b) = expand a ++ expand b := by
  induction a with
  | nil => rfl
  | cons e a ih =>
    cases e with
    | route m p h => simp only [List.cons_append, expand, ih]
    | use pre h => simp only [List.cons_append, expand, ih, List.append_assoc]

theorem slashStar : "/*".toList = ['/', '*'] := by decide

theorem C02_catchall_routes (pre : Str) (h : Nat) :
    groupCatchAll pre h = [⟨routeNotFound, pre, h⟩, ⟨routeNotFound, pre ++ ['/', '*'], h + 1⟩] := by
  rw [← slashStar]; rfl

theorem C02_catchall_routes_mem (pre : Str) (h : Nat) (r : Route) (hr : r ∈ groupCatchAll pre h) :
    r.method = routeNotFound ∧ (r.path = pre ∨ r.path = pre ++ "/*".toList) := by
  simp only [groupCatchAll, List.mem_cons, List.not_mem_nil, or_false] at hr
  rcases hr with rfl | rfl
  · exact ⟨rfl, Or.inl rfl⟩
  · exact ⟨rfl, Or.inr rfl⟩

theorem expand_use (pre : Str) (h : Nat) : expand [.use pre h] = groupCatchAll pre h := by
  simp [expand]

theorem plain_normalizeSlash {pre : Str} (hp : C04.Plain pre) : C04.Plain (normalizeSlash pre) := by
  cases pre with
  | nil => intro ch hch; simp only [normalizeSlash, List.mem_singleton] at hch; subst hch; decide
  | cons c cs =>
    simp only [normalizeSlash]
    split
    · exact hp
    · intro ch hch
      rcases List.mem_cons.mp hch with rfl | h
      · decide
      · exact hp ch h

theorem normalizeSlash_append {pre : Str} (hne : pre ≠ []) (x : Str) :
    normalizeSlash (pre ++ x) = normalizeSlash pre ++ x := by
  cases pre with
  | nil => exact absurd rfl hne
  | cons c cs =>
    simp only [normalizeSlash, List.cons_append]
    split <;> rfl

theorem normalizeSlash_catchall (pre : Str) :
    normalizeSlash (pre ++ "/*".toList) = normalizeSlash (pre ++ ['/']) ++ ['*'] := by
  rw [slashStar]
  cases pre with
  | nil => simp [normalizeSlash]
  | cons c cs =>
    have e : c :: cs ++ ['/', '*'] = (c :: cs ++ ['/']) ++ ['*'] := by simp
    rw [e, normalizeSlash_append (by simp)]

theorem matches_lits (s : Str) : ∀ path : Str, Matches (lits s) path ↔ path = s := by
  induction s with
  | nil => intro path; simp [lits, Matches]
  | cons c s ih =>
    intro path
    simp only [lits, List.map_cons, Matches]
    constructor
    · rintro ⟨rest, rfl, h⟩
      rw [(ih rest).mp h]
    · rintro rfl
      exact ⟨s, rfl, (ih s).mpr rfl⟩

theorem matches_lits_any (s : Str) : ∀ path : Str, Matches (lits s ++ [.any]) path ↔ s <+: path := by
  induction s with
  | nil => intro path; simp [lits, Matches]
  | cons c s ih =>
    intro path
    simp only [lits, List.map_cons, List.cons_append, Matches]
    constructor
    · rintro ⟨rest, rfl, h⟩
      exact List.cons_prefix_cons.mpr ⟨rfl, (ih rest).mp h⟩
    · rintro ⟨t, rfl⟩
      exact ⟨s ++ t, rfl, (ih _).mpr (List.prefix_append _ _)⟩

theorem catchall_toks_prefix {pre : Str} (hp : C04.Plain pre) : (norm pre).1 = lits (normalizeSlash pre) :=
  Router.Tree.norm_plain (plain_normalizeSlash hp) rfl

theorem catchall_toks_below {pre : Str} (hp : C04.Plain pre) :
    (norm (pre ++ "/*".toList)).1 = lits (normalizeSlash (pre ++ ['/'])) ++ [.any] :=
  Router.Tree.norm_plain_star (plain_normalizeSlash (C04.plain_append hp C04.plain_slash))
    (normalizeSlash_catchall pre)

/-- **the first catch-all route of a group matches the group's prefix and nothing else** -/
theorem C02_catchall_matches_prefix {pre : Str} (hp : C04.Plain pre) (path : Str) :
    Matches (norm pre).1 path ↔ path = normalizeSlash pre := by
  rw [catchall_toks_prefix hp]; exact matches_lits _ path

/-- the second catch-all route matches exactly the paths starting with `pre/` as the router reads it
    (every prefix, the empty one included) -/
theorem C02_catchall_matches_below_gen {pre : Str} (hp : C04.Plain pre) (path : Str) :
    Matches (norm (pre ++ "/*".toList)).1 path ↔ normalizeSlash (pre ++ ['/']) <+: path := by
  rw [catchall_toks_below hp]; exact matches_lits_any _ path

/-- **the second catch-all route of a group matches exactly the paths below `prefix/`** (non-empty prefix) -/
theorem C02_catchall_matches_below {pre : Str} (hp : C04.Plain pre) (hne : pre ≠ []) (path : Str) :
    Matches (norm (pre ++ "/*".toList)).1 path ↔ ∃ rest, path = normalizeSlash pre ++ '/' :: rest := by
  rw [C02_catchall_matches_below_gen hp, normalizeSlash_append hne]
  constructor
  · rintro ⟨t, rfl⟩; exact ⟨t, by simp⟩
  · rintro ⟨rest, rfl⟩; exact ⟨rest, by simp⟩

/-- the root group (empty prefix): its second catch-all is `/*` and matches every path the router can see -/
theorem C02_catchall_matches_below_root (path : Str) :
    Matches (norm ([] ++ "/*".toList)).1 path ↔ ∃ rest, path = '/' :: rest := by
  rw [C02_catchall_matches_below_gen (fun _ h => by simp at h)]
  constructor
  · rintro ⟨t, rfl⟩; exact ⟨t, by simp [normalizeSlash]⟩
  · rintro ⟨rest, rfl⟩; exact ⟨rest, by simp [normalizeSlash]⟩

theorem catchall_irr {pre : Str} (hp : C04.Plain pre) (h : Nat) {path : Str}
    (h1 : path ≠ normalizeSlash pre) (h2 : ¬ normalizeSlash (pre ++ ['/']) <+: path) :
    ∀ x ∈ initial ((groupCatchAll pre h).map mkEntry), Irr path x.1 := by
  intro x hx
  simp only [groupCatchAll, initial, List.map_cons, List.map_nil, List.mem_cons, List.not_mem_nil,
    or_false] at hx
  rcases hx with rfl | rfl
  · refine Or.inl ⟨normalizeSlash pre, ?_, fun h => h1 h.symm⟩
    exact catchall_toks_prefix hp
  · refine Or.inr ⟨normalizeSlash (pre ++ ['/']), ?_, h2⟩
    exact catchall_toks_below hp

theorem initial_append (a b : List Entry) : initial (a ++ b) = initial a ++ initial b := by
  simp [initial]

/-- `C02_group_scope` for every prefix, the empty one included: "outside the group" is
    `path ≠ normalizeSlash pre` and `normalizeSlash (pre ++ "/")` is not a prefix of `path` -/
theorem C02_group_scope_gen {pre : Str} (hp : C04.Plain pre) (h : Nat) {path : Str}
    (h1 : path ≠ normalizeSlash pre) (h2 : ¬ normalizeSlash (pre ++ ['/']) <+: path)
    (es : List Entry) (m : Str) :
    route (es ++ (groupCatchAll pre h).map mkEntry) m path = route es m path := by
  apply route_drop
  rw [initial_append]
  have := Drop.append (Drop.refl path (initial es)) (Drop.of_irr (catchall_irr hp h h1 h2))
  rwa [List.append_nil] at this

/-- **a group's catch-all routes do not change the answer to any request outside the group**: for a plain,
    non-empty prefix `pre`, a path that is neither the (normalised) prefix nor below `prefix/`, ANY entry list and
    method, the reference search gives the same outcome with and without the two routes `Group.Use` registers. -/
theorem C02_group_scope {pre : Str} (hp : C04.Plain pre) (hne : pre ≠ []) (h : Nat) {path : Str}
    (h1 : path ≠ normalizeSlash pre) (h2 : ¬ (normalizeSlash pre ++ ['/']) <+: path)
    (es : List Entry) (m : Str) :
    route (es ++ (groupCatchAll pre h).map mkEntry) m path = route es m path :=
  C02_group_scope_gen hp h h1 (by rw [normalizeSlash_append hne]; exact h2) es m

theorem C02_group_scope_table {pre : Str} (hp : C04.Plain pre) (hne : pre ≠ []) (h : Nat) {path : Str}
    (h1 : path ≠ normalizeSlash pre) (h2 : ¬ (normalizeSlash pre ++ ['/']) <+: path)
    (rs : List Route) (m : Str) :
    routeTable (rs ++ groupCatchAll pre h) m path = routeTable rs m path := by
  unfold routeTable
  rw [List.map_append]
  exact C02_group_scope hp hne h h1 h2 _ m

theorem C02_group_scope_table_gen {pre : Str} (hp : C04.Plain pre) (h : Nat) {path : Str}
    (h1 : path ≠ normalizeSlash pre) (h2 : ¬ normalizeSlash (pre ++ ['/']) <+: path)
    (rs : List Route) (m : Str) :
    routeTable (rs ++ groupCatchAll pre h) m path = routeTable rs m path := by
  unfold routeTable
  rw [List.map_append]
  exact C02_group_scope_gen hp h h1 h2 _ m

/-- a `use` event ANYWHERE in the registration sequence (routes registered before and after it): the registered
    routes answer requests outside the group as if the event had not happened -/
theorem C02_use_scope_expand {pre : Str} (hp : C04.Plain pre) (h : Nat) {path : Str}
    (h1 : path ≠ normalizeSlash pre) (h2 : ¬ normalizeSlash (pre ++ ['/']) <+: path)
    (a b : List Event) (m : Str) :
    routeTable (expand (a ++ .use pre h :: b)) m path = routeTable (expand (a ++ b)) m path := by
  unfold routeTable
  apply route_drop
  have e : a ++ Event.use pre h :: b = a ++ ([Event.use pre h] ++ b) := rfl
  rw [e, C02_expand_append, C02_expand_append, C02_expand_append, expand_use]
  simp only [List.map_append, initial_append]
  have := Drop.append (Drop.refl path (initial ((expand a).map mkEntry)))
    (Drop.append (Drop.of_irr (catchall_irr hp h h1 h2)) (Drop.refl path (initial ((expand b).map mkEntry))))
  rwa [List.nil_append] at this

/-- every registered route has its last registration (same method, same normalised pattern) in the table in force -/
theorem C02_inForce_last (es : List Event) (r : Route) (hr : r ∈ expand es) :
    ∃ r' ∈ inForce es, Router.Tree.sameKey r r' = true :=
  Router.Tree.dedupLast_key (expand es) r hr

theorem dedupLast_pairwise : ∀ rs : List Route,
    (Router.Tree.dedupLast rs).Pairwise (fun a b => Router.Tree.sameKey a b = false) := by
  intro rs
  induction rs with
  | nil => exact List.Pairwise.nil
  | cons a rs ih =>
    simp only [Router.Tree.dedupLast]
    split
    · exact ih
    · rename_i hany
      refine List.Pairwise.cons ?_ ih
      intro b hb
      cases hs : Router.Tree.sameKey a b with
      | false => rfl
      | true => exact absurd (List.any_eq_true.mpr ⟨b, Router.Tree.dedupLast_subset rs b hb, hs⟩) hany

theorem C02_inForce_nodup (es : List Event) :
    (inForce es).Pairwise (fun a b => Router.Tree.sameKey a b = false) :=
  dedupLast_pairwise (expand es)

/-- the table in force has no two routes with the same method and normalised pattern, in the form the
    order-independence theorem `C02_perm` asks for -/
theorem C02_inForce_NoDup (es : List Event) : NoDup ((inForce es).map mkEntry) :=
  Router.Tree.uniq_dedupLast (expand es)

theorem C02_inForce_subset (es : List Event) : ∀ r ∈ inForce es, r ∈ expand es :=
  Router.Tree.dedupLast_subset (expand es)

/-! ## group scope at the level of the table in force

`inForce` drops earlier registrations of a (method, pattern) that is registered again — also earlier registrations
replaced by a group's catch-all routes, and catch-all routes replaced later.  Irrelevance for a path depends on the
pattern only, so it is compatible with that: leaving out ALL routes that are irrelevant for the path commutes with
`dedupLast`. -/

open Classical in
/-- the route matters for `path` (classically decided; only used inside proofs) -/
noncomputable def relevant (path : Str) (r : Route) : Bool := decide (¬ Irr path (norm r.path).1)

open Classical in
theorem relevant_false {path : Str} {r : Route} (h : relevant path r = false) : Irr path (norm r.path).1 := by
  unfold relevant at h
  have := of_decide_eq_false h
  exact Classical.not_not.mp this

open Classical in
theorem relevant_true {path : Str} {r : Route} (h : relevant path r = true) : ¬ Irr path (norm r.path).1 := by
  unfold relevant at h
  exact of_decide_eq_true h

theorem relevant_key {path : Str} {a b : Route} (h : Router.Tree.sameKey a b = true) :
    relevant path a = relevant path b := by
  simp only [Router.Tree.sameKey, Bool.and_eq_true, beq_iff_eq] at h
  unfold relevant
  rw [h.2]

theorem dedupLast_filter (p : Route → Bool) (hp : ∀ a b, Router.Tree.sameKey a b = true → p a = p b) :
    ∀ rs : List Route, Router.Tree.dedupLast (rs.filter p) = (Router.Tree.dedupLast rs).filter p := by
  intro rs
  induction rs with
  | nil => rfl
  | cons a rs ih =>
    cases hpa : p a with
    | true =>
      have hany : (rs.filter p).any (Router.Tree.sameKey a) = rs.any (Router.Tree.sameKey a) := by
        rw [Bool.eq_iff_iff]
        simp only [List.any_eq_true, List.mem_filter]
        constructor
        · rintro ⟨b, ⟨hb, _⟩, hs⟩; exact ⟨b, hb, hs⟩
        · rintro ⟨b, hb, hs⟩; exact ⟨b, ⟨hb, by rw [← hp a b hs, hpa]⟩, hs⟩
      simp only [List.filter_cons, hpa, if_true, Router.Tree.dedupLast, hany]
      split
      · exact ih
      · simp only [List.filter_cons, hpa, if_true, ih]
    | false =>
      simp only [List.filter_cons, hpa, Bool.false_eq_true, if_false, Router.Tree.dedupLast]
      split
      · exact ih
      · simp only [List.filter_cons, hpa, Bool.false_eq_true, if_false, ih]

theorem drop_filter_routes {path : Str} (p : Route → Bool) : ∀ rs : List Route,
    (∀ r ∈ rs, p r = false → Irr path (norm r.path).1) →
    Drop path (initial (rs.map mkEntry)) (initial ((rs.filter p).map mkEntry)) := by
  intro rs
  induction rs with
  | nil => intro _; exact .nil
  | cons a rs ih =>
    intro h
    have ih' := ih (fun r hr => h r (List.mem_cons_of_mem _ hr))
    cases hpa : p a with
    | true =>
      simp only [List.filter_cons, hpa, if_true, List.map_cons, initial] at ih' ⊢
      exact .keep _ ih'
    | false =>
      simp only [List.filter_cons, hpa, Bool.false_eq_true, if_false, List.map_cons, initial] at ih' ⊢
      exact .drop (h a List.mem_cons_self hpa) ih'

theorem routeTable_dedupLast_relevant {path : Str} {T T' : List Route}
    (h : T.filter (relevant path) = T'.filter (relevant path)) (m : Str) :
    routeTable (Router.Tree.dedupLast T) m path = routeTable (Router.Tree.dedupLast T') m path := by
  have key : ∀ X : List Route, routeTable (Router.Tree.dedupLast X) m path
      = routeTable (Router.Tree.dedupLast (X.filter (relevant path))) m path := by
    intro X
    rw [dedupLast_filter _ (fun a b => relevant_key) X]
    unfold routeTable
    exact route_drop (drop_filter_routes _ _ (fun r _ hr => relevant_false hr)) m
  rw [key T, key T', h]

/-- **a group being given middleware (`Group.Use`) anywhere in the registration sequence — re-registrations before
    and after it included — does not change what the table in force answers to any request outside the group** -/
theorem C02_use_scope {pre : Str} (hp : C04.Plain pre) (h : Nat) {path : Str}
    (h1 : path ≠ normalizeSlash pre) (h2 : ¬ normalizeSlash (pre ++ ['/']) <+: path)
    (a b : List Event) (m : Str) :
    routeTable (inForce (a ++ .use pre h :: b)) m path = routeTable (inForce (a ++ b)) m path := by
  unfold inForce
  apply routeTable_dedupLast_relevant
  have e : a ++ Event.use pre h :: b = a ++ ([Event.use pre h] ++ b) := rfl
  rw [e, C02_expand_append, C02_expand_append, C02_expand_append, expand_use]
  have hc : (groupCatchAll pre h).filter (relevant path) = [] := by
    rw [List.filter_eq_nil_iff]
    intro r hr
    have hirr := catchall_irr hp h h1 h2 ((norm r.path).1, mkEntry r) (by
      simp only [initial, List.map_map, List.mem_map, Function.comp_apply]
      exact ⟨r, hr, rfl⟩)
    intro hrel
    exact relevant_true hrel hirr
  simp only [List.filter_append, hc, List.nil_append]

theorem C02_use_scope' {pre : Str} (hp : C04.Plain pre) (hne : pre ≠ []) (h : Nat) {path : Str}
    (h1 : path ≠ normalizeSlash pre) (h2 : ¬ (normalizeSlash pre ++ ['/']) <+: path)
    (a b : List Event) (m : Str) :
    routeTable (inForce (a ++ .use pre h :: b)) m path = routeTable (inForce (a ++ b)) m path :=
  C02_use_scope hp h h1 (by rw [normalizeSlash_append hne]; exact h2) a b m

private def GET : Str := "GET".toList
private def POST : Str := "POST".toList
private def api : Str := "/api".toList

private theorem api_plain : C04.Plain api := by unfold api; lit_chars; decide +kernel

example : C04.Plain api := api_plain
example : api ≠ [] := by unfold api; lit_chars; decide +kernel

/-- `/apiary` is matched by neither catch-all of the group `/api`; `/api` and `/api/x` are -/
example : ¬ Matches (norm api).1 "/apiary".toList := by
  rw [C02_catchall_matches_prefix api_plain]; unfold api; lit_chars; decide +kernel
example : ¬ Matches (norm (api ++ "/*".toList)).1 "/apiary".toList := by
  rw [C02_catchall_matches_below_gen api_plain]; unfold api; lit_chars; decide +kernel
example : Matches (norm api).1 "/api".toList := by
  rw [C02_catchall_matches_prefix api_plain]; unfold api; lit_chars; decide +kernel
example : Matches (norm (api ++ "/*".toList)).1 "/api/x".toList := by
  rw [C02_catchall_matches_below_gen api_plain]; unfold api; lit_chars; decide +kernel

/-- routes inside and outside the group `/api`, a wildcard above it and a custom 404 for everything -/
def demoEvents : List Event :=
  [.route GET "/apiary".toList 1, .route GET "/api/users/:id".toList 2, .route POST "/:x".toList 3,
   .use api 10, .route routeNotFound "/*".toList 4, .route GET "/api/users/:id".toList 5]

example : "/apiary".toList ≠ normalizeSlash api ∧ ¬ (normalizeSlash api ++ ['/']) <+: "/apiary".toList := by
  unfold api; lit_chars; decide +kernel

private theorem apiary_outside :
    "/apiary".toList ≠ normalizeSlash api ∧ ¬ normalizeSlash (api ++ ['/']) <+: "/apiary".toList := by
  unfold api; lit_chars; decide +kernel

/-- `C02_use_scope_expand` on this case, and what the answer is: a match, a 405, the custom 404 -/
example (m : Str) : routeTable (expand demoEvents) m "/apiary".toList
    = routeTable (expand (demoEvents.take 3 ++ demoEvents.drop 4)) m "/apiary".toList :=
  C02_use_scope_expand api_plain 10 apiary_outside.1 apiary_outside.2 (demoEvents.take 3) (demoEvents.drop 4) m
example (m : Str) : routeTable (inForce demoEvents) m "/apiary".toList
    = routeTable (inForce (demoEvents.take 3 ++ demoEvents.drop 4)) m "/apiary".toList :=
  C02_use_scope api_plain 10 apiary_outside.1 apiary_outside.2 (demoEvents.take 3) (demoEvents.drop 4) m
example : routeTable (expand demoEvents) GET "/apiary".toList
    = .dispatch ⟨"/apiary".toList.map Tok.lit, GET, "/apiary".toList, [], 1⟩ [] := by
  unfold demoEvents GET POST api; lit_chars; decide +kernel
example : routeTable (expand demoEvents) POST "/apiary".toList
    = .dispatch ⟨[.lit '/', .param], POST, "/:x".toList, ["x".toList], 3⟩ ["apiary".toList] := by
  unfold demoEvents GET POST api; lit_chars; decide +kernel
example : routeTable (expand demoEvents) "PUT".toList "/apiary".toList
    = .dispatch ⟨[.lit '/', .any], routeNotFound, "/*".toList, ["*".toList], 4⟩ ["apiary".toList] := by
  unfold demoEvents GET POST api; lit_chars; decide +kernel
/-- inside the group the catch-all routes DO answer (so the scope theorem is not about dead routes) -/
example : routeTable (expand demoEvents) GET "/api/other".toList
    = .dispatch ⟨"/api/".toList.map Tok.lit ++ [.any], routeNotFound, "/api/*".toList, ["*".toList], 11⟩
        ["other".toList] := by
  unfold demoEvents GET POST api; lit_chars; decide +kernel
example : routeTable (expand (demoEvents.take 3 ++ demoEvents.drop 4)) GET "/api/other".toList
    = .dispatch ⟨[.lit '/', .any], routeNotFound, "/*".toList, ["*".toList], 4⟩ ["api/other".toList] := by
  unfold demoEvents GET POST api; lit_chars; decide +kernel

/-- the table in force: the second registration of `GET /api/users/:id` replaces the first -/
example : (inForce demoEvents).map (·.hid) = [1, 3, 10, 11, 4, 5] := by
  unfold demoEvents GET POST api; lit_chars; decide +kernel

/-- the root group is different: with the empty prefix the statement in the form "`path ≠ "/"` and `"//"` is not a
    prefix of `path`" FAILS — the second catch-all route is `/*`, not `//*`, and covers every path.  (`C04.Plain []`
    holds, so `pre ≠ []` cannot be dropped from `C02_catchall_matches_below` / `C02_group_scope`.) -/
theorem C02_root_group_covers_all :
    C04.Plain ([] : Str) ∧ "/a".toList ≠ normalizeSlash [] ∧ ¬ (normalizeSlash [] ++ ['/']) <+: "/a".toList
    ∧ route ([] ++ (groupCatchAll [] 7).map mkEntry) GET "/a".toList ≠ route [] GET "/a".toList := by
  unfold GET; lit_chars; decide +kernel

end C02
