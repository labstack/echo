import EchoModel.C19
import EchoProofs.Lit
/-!
# C19 — theorems about the proxy model (balancers, retry loop, rewrite rules)

* `C19_next_member`, `C19_no_panic`      — `Next` returns a current target, `nil` iff there is none,
                                            and never indexes out of range, in EVERY state (any `i`,
                                            any stored last index), hence after every op sequence
* `C19_add_remove`, `C19_names_unique`,
  `C19_removed_not_used`, `C19_added_kept` — membership under AddTarget / RemoveTarget
* `C19_rr_fair`, `C19_rr_cycle`          — round-robin fairness for all `n ≥ 1`, all window lengths `k`
* `C19_retry_bound`, `C19_retry_next_target` — the retry loop: its runs for every configuration (`RunG`),
                                            `proxyLoop` as the default one (`loopG_default`)
* `C19_linearizable`                     — mutex-atomic operations: every concurrent history is a
                                            sequential history of the model
* `C19_rewrite_order_irrelevant`         — first-match rewriting does not depend on rule order when
                                            all matching rules agree (in particular: at most one matches)
-/
namespace C19

/-! ## A. `Next` returns a member and never panics -/

theorem pickAt_lt {ts : List Target} {i : Nat} (h : i < ts.length) :
    pickAt ts i = .tgt ts[i] := by
  simp [pickAt, List.getElem?_eq_getElem h]

theorem pickAt_mem {ts : List Target} {i : Nat} (h : i < ts.length) :
    ∃ t, pickAt ts i = .tgt t ∧ t ∈ ts :=
  ⟨ts[i], pickAt_lt h, List.getElem_mem h⟩

/-- the index round robin uses for a first-time pick -/
def norm (n i : Nat) : Nat := if i ≥ n then 0 else i
def succIdx (n p : Nat) : Nat := if p + 1 ≥ n then 0 else p + 1

theorem norm_lt {n i : Nat} (h : 0 < n) : norm n i < n := by
  unfold norm; split <;> omega
theorem succIdx_lt {n p : Nat} (h : 0 < n) : succIdx n p < n := by
  unfold succIdx; split <;> omega

/-- the index round robin picks over `n ≥ 2` targets (with fewer there is nothing to choose): the one after
    the stored index, else the normalised global index `i` -/
def rrIdx (n i : Nat) : Option Nat → Nat
  | some l => succIdx n l
  | none => norm n i

theorem rrIdx_lt {n : Nat} (i : Nat) (last : Option Nat) (h : 0 < n) : rrIdx n i last < n := by
  cases last
  · exact norm_lt h
  · exact succIdx_lt h

theorem nextRR_eq (b : Bal) (last : Option Nat) :
    nextRR b last =
      if b.targets.length = 0 then (b, last, .nil)
      else if b.targets.length = 1 then (b, last, pickAt b.targets 0)
      else match last with
        | some l => (b, some (succIdx b.targets.length l), pickAt b.targets (succIdx b.targets.length l))
        | none => ({ b with i := norm b.targets.length b.i + 1 }, some (norm b.targets.length b.i),
                    pickAt b.targets (norm b.targets.length b.i)) := by
  cases last <;> rfl

theorem nextRR_two (b : Bal) (last : Option Nat) (h : 2 ≤ b.targets.length) :
    nextRR b last =
      match last with
      | some l => (b, some (succIdx b.targets.length l), pickAt b.targets (succIdx b.targets.length l))
      | none => ({ b with i := norm b.targets.length b.i + 1 }, some (norm b.targets.length b.i),
                  pickAt b.targets (norm b.targets.length b.i)) := by
  rw [nextRR_eq, if_neg (by omega), if_neg (by omega)]

theorem nextRR_targets (b : Bal) (last : Option Nat) : (nextRR b last).1.targets = b.targets := by
  rw [nextRR_eq]
  split
  · rfl
  · split
    · rfl
    · cases last <;> rfl

theorem nextRR_retry_bal (b : Bal) (l : Nat) : (nextRR b (some l)).1 = b := by
  rw [nextRR_eq]
  split
  · rfl
  · split <;> rfl

theorem nextRandom_eq (b : Bal) (d : Nat) :
    nextRandom b d =
      if b.targets.length = 0 then .nil
      else if b.targets.length = 1 then pickAt b.targets 0 else pickAt b.targets d := rfl

theorem nextRandom_spec (b : Bal) (d : Nat) (hd : d < b.targets.length ∨ b.targets.length ≤ 1) :
    (b.targets = [] ∧ nextRandom b d = .nil) ∨ (∃ t, nextRandom b d = .tgt t ∧ t ∈ b.targets) := by
  rw [nextRandom_eq]
  split
  · exact .inl ⟨List.length_eq_zero_iff.mp ‹_›, rfl⟩
  · right
    split
    · exact pickAt_mem (by omega)
    · exact pickAt_mem (by omega)

theorem nextRR_pick (b : Bal) (last : Option Nat) :
    (nextRR b last).2.2 = nextRandom b (rrIdx b.targets.length b.i last) := by
  rw [nextRR_eq, nextRandom_eq]
  split
  · rfl
  · split
    · rfl
    · cases last <;> rfl

theorem idxOfName_lt (ts : List Target) (nm : List Char) (d : Nat) (h : idxOfName ts nm = some d) :
    d < ts.length := by
  induction ts generalizing d with
  | nil => cases h
  | cons t ts ih =>
    rw [idxOfName] at h
    split at h
    · cases h; exact Nat.zero_lt_succ _
    · obtain ⟨e, he, rfl⟩ := Option.map_eq_some_iff.mp h
      exact Nat.succ_lt_succ (ih e he)

theorem pick_cases {ts : List Target} {p : Pick} {rr : Bool}
    (h : (ts = [] ∧ p = .nil) ∨ ∃ t, p = .tgt t ∧ t ∈ ts) :
    (Res.pick p = .pick .nil ∧ ts = []) ∨ (∃ t, Res.pick p = .pick (.tgt t) ∧ t ∈ ts) ∨
    (Res.pick p = .notMember ∧ rr = false) := by
  rcases h with ⟨he, rfl⟩ | ⟨t, rfl, hm⟩
  · exact .inl ⟨rfl, he⟩
  · exact .inr (.inl ⟨t, rfl, hm⟩)

/-- the random balancer, draw recovered from the name the real balancer returned -/
theorem nextOf_hint (b : Bal) (last : Option Nat) (nm : List Char) :
    nextOf false b last (some nm) =
      match idxOfName b.targets nm with
      | some d => (b, last, .pick (nextRandom b d))
      | none => (b, last, .notMember) := rfl

theorem nextOf_spec (rr : Bool) (b : Bal) (last : Option Nat) (hint : Option (List Char)) :
    let r := (nextOf rr b last hint).2.2
    (r = .pick .nil ∧ b.targets = []) ∨ (∃ t, r = .pick (.tgt t) ∧ t ∈ b.targets) ∨
    (r = .notMember ∧ rr = false) := by
  cases rr with
  | true =>
    refine pick_cases (nextRR_pick b last ▸ nextRandom_spec b _ ?_)
    exact (Nat.eq_zero_or_pos b.targets.length).symm.imp (rrIdx_lt b.i last) (fun h => by omega)
  | false =>
    cases hint with
    | none => exact pick_cases (nextRandom_spec b 0 (by omega))
    | some nm =>
      rw [nextOf_hint]
      cases hi : idxOfName b.targets nm with
      | none => exact .inr (.inr ⟨rfl, rfl⟩)
      | some d => exact pick_cases (nextRandom_spec b d (.inl (idxOfName_lt _ _ _ hi)))

theorem nextOf_targets (rr : Bool) (b : Bal) (last : Option Nat) (hint : Option (List Char)) :
    (nextOf rr b last hint).1.targets = b.targets := by
  cases rr with
  | true => exact nextRR_targets b last
  | false =>
    cases hint with
    | none => rfl
    | some nm => rw [nextOf_hint]; cases idxOfName b.targets nm <;> rfl

theorem nextOf_fst {rr b last hint b' l' r} (hn : nextOf rr b last hint = (b', l', r)) :
    b'.targets = b.targets := by
  rw [← nextOf_targets rr b last hint, hn]

theorem nextOf_nil {rr b last hint b' l'} (hn : nextOf rr b last hint = (b', l', .pick .nil)) :
    b.targets = [] := by
  have := nextOf_spec rr b last hint
  rw [hn] at this
  simpa using this

theorem nextOf_tgt {rr b last hint b' l' t} (hn : nextOf rr b last hint = (b', l', .pick (.tgt t))) :
    t ∈ b.targets := by
  have := nextOf_spec rr b last hint
  rw [hn] at this
  simpa using this

theorem nextOf_other {rr b last hint b' l' r} (hn : nextOf rr b last hint = (b', l', r))
    (h1 : r = .pick .nil → False) (h2 : ∀ t, r = .pick (.tgt t) → False) : r = .notMember ∧ rr = false := by
  have := nextOf_spec rr b last hint
  rw [hn] at this
  rcases this with ⟨h, _⟩ | ⟨t, h, _⟩ | h
  · exact (h1 h).elim
  · exact (h2 t h).elim
  · exact h

theorem stepOp_add (s : St) (t : Target) :
    stepOp s (.add t) = ({ s with bal := (addTarget s.bal t).1 }, .bool (addTarget s.bal t).2) := rfl

theorem stepOp_remove (s : St) (nm : List Char) :
    stepOp s (.remove nm) = ({ s with bal := (removeTarget s.bal nm).1 }, .bool (removeTarget s.bal nm).2) := rfl

theorem stepOp_next (s : St) (c : Nat) (hint : Option (List Char)) :
    stepOp s (.next c hint) =
      ({ s with bal := (nextOf s.rr s.bal (ctxGet s.ctxs c) hint).1,
                ctxs := ctxSet s.ctxs c (nextOf s.rr s.bal (ctxGet s.ctxs c) hint).2.1 },
       (nextOf s.rr s.bal (ctxGet s.ctxs c) hint).2.2) := rfl

/-- in every state (every target list, every global index `i`, every
    stored last index — also stale ones from before a removal), `Next` on a context returns
    `nil` exactly if the balancer is empty and otherwise one of the CURRENT targets. -/
theorem C19_next_member (s : St) (c : Nat) (hint : Option (List Char)) :
    let r := (stepOp s (.next c hint)).2
    (r = .pick .nil ∧ s.bal.targets = []) ∨ (∃ t, r = .pick (.tgt t) ∧ t ∈ s.bal.targets) ∨
    (r = .notMember ∧ s.rr = false) :=
  nextOf_spec s.rr s.bal (ctxGet s.ctxs c) hint

/-- the random balancer with a genuine draw `Intn(len)` -/
theorem C19_next_member_random (b : Bal) (d : Nat) (hd : d < b.targets.length) :
    ∃ t, nextRandom b d = .tgt t ∧ t ∈ b.targets := by
  rcases nextRandom_spec b d (Or.inl hd) with ⟨he, _⟩ | h
  · rw [he] at hd; cases hd
  · exact h

theorem stepOp_tgt_mem {s : St} {o : Op} {t : Target} (h : (stepOp s o).2 = .pick (.tgt t)) :
    t ∈ s.bal.targets := by
  cases o with
  | add x => cases h
  | remove n => cases h
  | next c hint => exact nextOf_tgt (b' := _) (l' := _) (by rw [← h]; rfl)

theorem stepOp_nil_empty {s : St} {o : Op} (h : (stepOp s o).2 = .pick .nil) : s.bal.targets = [] := by
  cases o with
  | add x => cases h
  | remove n => cases h
  | next c hint => exact nextOf_nil (b' := _) (l' := _) (by rw [← h]; rfl)

theorem stepOp_no_panic (s : St) (o : Op) : (stepOp s o).2 ≠ .pick .panic := by
  cases o with
  | add t => nofun
  | remove nm => nofun
  | next c hint =>
    rcases C19_next_member s c hint with ⟨h, _⟩ | ⟨t, h, _⟩ | ⟨h, _⟩ <;> rw [h] <;> nofun

theorem runOps_cons (s : St) (o : Op) (os : List Op) :
    runOps s (o :: os) = ((runOps (stepOp s o).1 os).1, (stepOp s o).2 :: (runOps (stepOp s o).1 os).2) := rfl

theorem runOps_invariant {P : St → Prop} {Q : Res → Prop} (ops : List Op)
    (hstep : ∀ s, P s → ∀ o ∈ ops, P (stepOp s o).1 ∧ Q (stepOp s o).2) :
    ∀ s, P s → P (runOps s ops).1 ∧ ∀ r ∈ (runOps s ops).2, Q r := by
  induction ops with
  | nil => exact fun s h => ⟨h, fun r hr => nomatch hr⟩
  | cons o os ih =>
    intro s h
    have h1 := hstep s h o (List.mem_cons_self ..)
    have h2 := ih (fun s hs o ho => hstep s hs o (List.mem_cons_of_mem _ ho)) _ h1.1
    rw [runOps_cons]
    exact ⟨h2.1, List.forall_mem_cons.mpr ⟨h1.2, h2.2⟩⟩

/-- no operation of any operation sequence, from any state, indexes the
    target slice out of range. -/
theorem C19_no_panic (ops : List Op) : ∀ s : St, ∀ r ∈ (runOps s ops).2, r ≠ .pick .panic :=
  fun s => (runOps_invariant (P := fun _ => True) ops (fun s _ o _ => ⟨trivial, stepOp_no_panic s o⟩) s trivial).2

-- non-vacuity: a stale last index (5) after the list shrank to 2 targets is handled by wrapping
example : (nextRR ⟨[⟨['a'], 0⟩, ⟨['b'], 1⟩], 7⟩ (some 5)).2.2 = .tgt ⟨['a'], 0⟩ := by decide
example : (nextRR ⟨[⟨['a'], 0⟩, ⟨['b'], 1⟩], 7⟩ none).2.2 = .tgt ⟨['a'], 0⟩ := by decide

/-! ## B. AddTarget / RemoveTarget -/

def NamesUnique (ts : List Target) : Prop := ts.Pairwise (fun a b => a.name ≠ b.name)

theorem hasName_iff (ts : List Target) (nm : List Char) : hasName ts nm = true ↔ ∃ t ∈ ts, t.name = nm := by
  simp [hasName]

theorem hasName_false_iff (ts : List Target) (nm : List Char) :
    hasName ts nm = false ↔ ∀ t ∈ ts, t.name ≠ nm := by
  rw [← Bool.not_eq_true, hasName_iff]; simp

theorem addTarget_of_present {b : Bal} {t : Target} (h : hasName b.targets t.name = true) :
    addTarget b t = (b, false) := by
  rw [addTarget, if_pos h]

theorem addTarget_of_absent {b : Bal} {t : Target} (h : hasName b.targets t.name = false) :
    addTarget b t = ({ b with targets := b.targets ++ [t] }, true) := by
  rw [addTarget, h]; rfl

theorem removeTarget_of_present {b : Bal} {nm : List Char} (h : hasName b.targets nm = true) :
    removeTarget b nm = ({ b with targets := b.targets.eraseP (fun t => t.name == nm) }, true) := by
  rw [removeTarget, if_pos h]

theorem removeTarget_of_absent {b : Bal} {nm : List Char} (h : hasName b.targets nm = false) :
    removeTarget b nm = (b, false) := by
  rw [removeTarget, h]; rfl

/-- **C19_add_remove (AddTarget)** — returns `false` exactly if the name is taken and then
    changes nothing; otherwise appends the target: no existing target is lost, the order of
    the others is kept. -/
theorem C19_add (b : Bal) (t : Target) :
    ((addTarget b t).2 = false ↔ ∃ x ∈ b.targets, x.name = t.name) ∧
    ((addTarget b t).2 = false → (addTarget b t).1 = b) ∧
    ((addTarget b t).2 = true → (addTarget b t).1.targets = b.targets ++ [t] ∧ (addTarget b t).1.i = b.i) ∧
    (∀ x ∈ b.targets, x ∈ (addTarget b t).1.targets) := by
  cases h : hasName b.targets t.name with
  | true =>
    rw [addTarget_of_present h]
    exact ⟨⟨fun _ => (hasName_iff _ _).mp h, fun _ => rfl⟩, fun _ => rfl, nofun, fun x hx => hx⟩
  | false =>
    rw [addTarget_of_absent h]
    refine ⟨⟨nofun, fun ⟨x, hx, hn⟩ => absurd hn ((hasName_false_iff _ _).mp h x hx)⟩, nofun,
      fun _ => ⟨rfl, rfl⟩, fun x hx => List.mem_append_left _ hx⟩

theorem eraseP_name_mem (ts : List Target) (nm : List Char) (hu : NamesUnique ts) (x : Target) :
    x ∈ ts.eraseP (fun t => t.name == nm) ↔ x ∈ ts ∧ x.name ≠ nm := by
  induction ts with
  | nil => simp
  | cons t ts ih =>
    obtain ⟨hhead, hu'⟩ := List.pairwise_cons.mp hu
    by_cases hn : t.name = nm
    · -- the head goes, and by uniqueness nothing in the tail has its name
      subst hn
      rw [List.eraseP_cons_of_pos (by simp), List.mem_cons]
      exact ⟨fun hx => ⟨.inr hx, fun h => hhead x hx h.symm⟩, fun ⟨hx, hne⟩ => hx.resolve_left fun h => hne (h ▸ rfl)⟩
    · rw [List.eraseP_cons_of_neg (by simpa using hn), List.mem_cons, List.mem_cons, ih hu']
      constructor
      · rintro (rfl | ⟨hx, hne⟩)
        · exact ⟨.inl rfl, hn⟩
        · exact ⟨.inr hx, hne⟩
      · rintro ⟨rfl | hx, hne⟩
        · exact .inl rfl
        · exact .inr ⟨hx, hne⟩

theorem removeTarget_sublist (b : Bal) (nm : List Char) :
    (removeTarget b nm).1.targets.Sublist b.targets := by
  cases h : hasName b.targets nm with
  | true => rw [removeTarget_of_present h]; exact List.eraseP_sublist
  | false => rw [removeTarget_of_absent h]; exact List.Sublist.refl _

/-- **C19_add_remove (RemoveTarget)** — returns `true` exactly if the name exists; with unique
    names it deletes exactly the named target: afterwards the members are the old members
    with another name (so the removed one is gone and nobody else is). -/
theorem C19_remove (b : Bal) (nm : List Char) (hu : NamesUnique b.targets) :
    ((removeTarget b nm).2 = true ↔ ∃ x ∈ b.targets, x.name = nm) ∧
    ((removeTarget b nm).2 = false → (removeTarget b nm).1 = b) ∧
    (∀ x, x ∈ (removeTarget b nm).1.targets ↔ x ∈ b.targets ∧ x.name ≠ nm) ∧
    (removeTarget b nm).1.targets.Sublist b.targets := by
  cases h : hasName b.targets nm with
  | true =>
    rw [removeTarget_of_present h]
    exact ⟨⟨fun _ => (hasName_iff _ _).mp h, fun _ => rfl⟩, nofun, eraseP_name_mem _ _ hu, List.eraseP_sublist⟩
  | false =>
    have hf := (hasName_false_iff _ _).mp h
    rw [removeTarget_of_absent h]
    exact ⟨⟨nofun, fun ⟨x, hx, hn⟩ => absurd hn (hf x hx)⟩, fun _ => rfl,
      fun x => ⟨fun hx => ⟨hx, hf x hx⟩, fun hx => hx.1⟩, List.Sublist.refl _⟩

theorem mem_addTarget {b : Bal} {t x : Target} (hx : x ∈ (addTarget b t).1.targets) : x ∈ b.targets ∨ x = t := by
  cases h : hasName b.targets t.name with
  | true => rw [addTarget_of_present h] at hx; exact .inl hx
  | false => rw [addTarget_of_absent h] at hx; simpa using hx

theorem addTarget_unique (b : Bal) (t : Target) (hu : NamesUnique b.targets) :
    NamesUnique (addTarget b t).1.targets := by
  cases h : hasName b.targets t.name with
  | true => rw [addTarget_of_present h]; exact hu
  | false =>
    rw [addTarget_of_absent h]
    refine List.pairwise_append.mpr ⟨hu, List.pairwise_singleton .., fun a ha c hc => ?_⟩
    rw [List.mem_singleton.mp hc]
    exact (hasName_false_iff _ _).mp h a ha

theorem removeTarget_unique (b : Bal) (nm : List Char) (hu : NamesUnique b.targets) :
    NamesUnique (removeTarget b nm).1.targets :=
  List.Pairwise.sublist (removeTarget_sublist b nm) hu

theorem stepOp_unique (s : St) (o : Op) (hu : NamesUnique s.bal.targets) :
    NamesUnique (stepOp s o).1.bal.targets := by
  cases o with
  | add t => exact addTarget_unique s.bal t hu
  | remove nm => exact removeTarget_unique s.bal nm hu
  | next c hint => rw [stepOp_next, nextOf_targets]; exact hu

/-- names stay unique along every operation sequence. -/
theorem C19_names_unique (ops : List Op) :
    ∀ s : St, NamesUnique s.bal.targets → NamesUnique (runOps s ops).1.bal.targets :=
  fun s h => (runOps_invariant (Q := fun _ => True) ops (fun s hs o _ => ⟨stepOp_unique s o hs, trivial⟩) s h).1

def Op.addsName (nm : List Char) : Op → Prop
  | .add t => t.name = nm
  | _ => False
def Op.removesName (nm : List Char) : Op → Prop
  | .remove n => n = nm
  | _ => False

theorem stepOp_absent (s : St) (o : Op) (nm : List Char) (hno : ¬ o.addsName nm)
    (h : ∀ t ∈ s.bal.targets, t.name ≠ nm) : ∀ t ∈ (stepOp s o).1.bal.targets, t.name ≠ nm := by
  intro x hx
  cases o with
  | add t =>
    rcases mem_addTarget hx with hx | rfl
    · exact h x hx
    · exact hno
  | remove n => exact h x ((removeTarget_sublist s.bal n).subset hx)
  | next c hint => rw [stepOp_next, nextOf_targets] at hx; exact h x hx

/-- once `RemoveTarget(nm)` has been executed (names unique), no
    later `Next` of ANY continuation that does not add the name again returns a target of that
    name — whatever indices are stored in the balancer or in request contexts. -/
theorem C19_removed_not_used (ops : List Op) (nm : List Char) :
    ∀ s : St, (∀ t ∈ s.bal.targets, t.name ≠ nm) → (∀ o ∈ ops, ¬ o.addsName nm) →
      ∀ t, .pick (.tgt t) ∈ (runOps s ops).2 → t.name ≠ nm :=
  fun s habs hno t ht =>
    (runOps_invariant (P := fun s => ∀ t ∈ s.bal.targets, t.name ≠ nm)
      (Q := fun r => ∀ t, r = .pick (.tgt t) → t.name ≠ nm) ops
      (fun s hs o ho => ⟨stepOp_absent s o nm (hno o ho) hs, fun t hr => hs t (stepOp_tgt_mem hr)⟩)
      s habs).2 _ ht t rfl

theorem removeTarget_absent (b : Bal) (nm : List Char) (hu : NamesUnique b.targets) :
    ∀ t ∈ (removeTarget b nm).1.targets, t.name ≠ nm :=
  fun t ht => (((C19_remove b nm hu).2.2.1 t).mp ht).2

theorem stepOp_kept (s : St) (o : Op) (t : Target) (hno : ¬ o.removesName t.name)
    (h : t ∈ s.bal.targets) : t ∈ (stepOp s o).1.bal.targets := by
  cases o with
  | add x => exact (C19_add s.bal x).2.2.2 t h
  | remove n =>
    rw [stepOp_remove]
    cases hn : hasName s.bal.targets n with
    | true =>
      rw [removeTarget_of_present hn]
      exact (List.mem_eraseP_of_neg (by simpa using fun e => hno e.symm)).mpr h
    | false => rw [removeTarget_of_absent hn]; exact h
  | next c hint => rw [stepOp_next, nextOf_targets]; exact h

/-- a target that is in the list (e.g. just added) stays in the list
    along every operation sequence that does not remove its name. -/
theorem C19_added_kept (ops : List Op) (t : Target) :
    ∀ s : St, t ∈ s.bal.targets → (∀ o ∈ ops, ¬ o.removesName t.name) →
      t ∈ (runOps s ops).1.bal.targets :=
  fun s h hno => (runOps_invariant (Q := fun _ => True) ops
    (fun s hs o ho => ⟨stepOp_kept s o t (hno o ho) hs, trivial⟩) s h).1

/-- AddTarget never loses a target and appends
    iff the name is new; RemoveTarget (unique names) deletes exactly the named target; names
    stay unique under both. -/
theorem C19_add_remove (b : Bal) (hu : NamesUnique b.targets) (t : Target) (nm : List Char) :
    (∀ x ∈ b.targets, x ∈ (addTarget b t).1.targets) ∧
    ((addTarget b t).2 = true → t ∈ (addTarget b t).1.targets) ∧
    NamesUnique (addTarget b t).1.targets ∧
    (∀ x, x ∈ (removeTarget b nm).1.targets ↔ x ∈ b.targets ∧ x.name ≠ nm) ∧
    NamesUnique (removeTarget b nm).1.targets := by
  refine ⟨(C19_add b t).2.2.2, ?_, addTarget_unique b t hu, (C19_remove b nm hu).2.2.1,
    removeTarget_unique b nm hu⟩
  intro h
  rw [((C19_add b t).2.2.1 h).1]
  exact List.mem_append_right _ (List.mem_singleton_self t)

-- non-vacuity
example : NamesUnique [⟨['a'], 0⟩, ⟨['b'], 1⟩, ⟨['A'], 1⟩] := by
  simp [NamesUnique]
example : (removeTarget ⟨[⟨['a'], 0⟩, ⟨['b'], 1⟩, ⟨['c'], 2⟩], 2⟩ ['b']).1.targets
    = [⟨['a'], 0⟩, ⟨['c'], 2⟩] := by decide
-- the quirk that makes `NamesUnique` necessary: the constructor accepts duplicate names and
-- RemoveTarget then leaves the second one in place
example : (removeTarget ⟨[⟨['a'], 0⟩, ⟨['a'], 1⟩], 0⟩ ['a']).1.targets = [⟨['a'], 1⟩] := by decide

/-! ## C. round-robin fairness -/

/-- `k` successive first-time picks (fresh contexts: no last index) -/
def firstPicks : Bal → Nat → List Pick
  | _, 0 => []
  | b, k + 1 => (nextRR b none).2.2 :: firstPicks (nextRR b none).1 k

/-- the cyclic index walk `p, p+1, …, n-1, 0, 1, …` -/
def walk (n : Nat) : Nat → Nat → List Nat
  | _, 0 => []
  | p, k + 1 => p :: walk n (succIdx n p) k

theorem succIdx_of_lt {n p : Nat} (h : p + 1 < n) : succIdx n p = p + 1 := if_neg (Nat.not_le.mpr h)
theorem succIdx_of_ge {n p : Nat} (h : n ≤ p + 1) : succIdx n p = 0 := if_pos h

theorem firstPicks_eq_walk (k : Nat) : ∀ b : Bal, 0 < b.targets.length →
    firstPicks b k = (walk b.targets.length (norm b.targets.length b.i) k).map (pickAt b.targets) := by
  induction k with
  | zero => intro b _; rfl
  | succ k ih =>
    intro b hpos
    rw [firstPicks, walk, List.map_cons]
    by_cases h1 : b.targets.length = 1
    · -- single target: shortcut, the balancer does not change, the walk stays at 0
      have hn : norm b.targets.length b.i = 0 := Nat.lt_one_iff.mp (h1 ▸ norm_lt hpos)
      rw [nextRR_eq, if_neg (Nat.ne_of_gt hpos), if_pos h1, ih b hpos, hn, succIdx_of_ge (Nat.le_of_eq h1)]
    · -- the stored index is one past the pick, and normalising it is taking the successor
      rw [nextRR_two b none (by omega)]
      exact congrArg _ (ih { b with i := norm b.targets.length b.i + 1 } hpos)

/-- cyclic distance from `p` to `j` -/
def dist (n p j : Nat) : Nat := if p ≤ j then j - p else n - p + j

theorem dist_of_le {n p j : Nat} (h : p ≤ j) : dist n p j = j - p := if_pos h
theorem dist_of_gt {n p j : Nat} (h : j < p) : dist n p j = n - p + j := if_neg (Nat.not_le.mpr h)

theorem dist_lt (n p j : Nat) (hp : p < n) (hj : j < n) : dist n p j < n := by
  rcases Nat.lt_or_ge j p with h | h
  · rw [dist_of_gt h]
    exact Nat.lt_of_lt_of_le (Nat.add_lt_add_left h _) (Nat.le_of_eq (Nat.sub_add_cancel (Nat.le_of_lt hp)))
  · rw [dist_of_le h]
    exact Nat.lt_of_le_of_lt (Nat.sub_le _ _) hj

theorem dist_succIdx (n p j : Nat) (hp : p < n) (hj : j < n) (hpj : p ≠ j) :
    dist n (succIdx n p) j + 1 = dist n p j := by
  rcases Nat.lt_or_ge (p + 1) n with hw | hw
  · rw [succIdx_of_lt hw]
    rcases Nat.lt_or_gt_of_ne hpj with h | h
    · rw [dist_of_le (show p + 1 ≤ j from h), dist_of_le (Nat.le_of_lt h), Nat.sub_add_eq,
        Nat.sub_add_cancel (Nat.sub_pos_of_lt h)]
    · rw [dist_of_gt (show j < p + 1 from Nat.lt_succ_of_lt h), dist_of_gt h, Nat.sub_add_eq, Nat.add_right_comm,
        Nat.sub_add_cancel (Nat.sub_pos_of_lt hp)]
  · -- `p` is the last position: the walk wraps to 0, and `j` lies before `p`
    obtain rfl : n = p + 1 := Nat.le_antisymm hw hp
    have h : j < p := Nat.lt_of_le_of_ne (Nat.le_of_lt_succ hj) (Ne.symm hpj)
    rw [succIdx_of_ge hw, dist_of_le (Nat.zero_le j), dist_of_gt h, Nat.sub_zero, Nat.add_sub_cancel_left,
      Nat.add_comm]

theorem dist_succIdx_self (n p : Nat) (hp : p < n) : dist n (succIdx n p) p = n - 1 := by
  rcases Nat.lt_or_ge (p + 1) n with hw | hw
  · rw [succIdx_of_lt hw, dist_of_gt (Nat.lt_succ_self p)]
    exact Nat.eq_sub_of_add_eq (by rw [Nat.add_assoc]; exact Nat.sub_add_cancel (Nat.le_of_lt hw))
  · obtain rfl : n = p + 1 := Nat.le_antisymm hw hp
    rw [succIdx_of_ge hw, dist_of_le (Nat.zero_le p), Nat.sub_zero, Nat.add_sub_cancel]

/-- position `j` is met after `dist n p j` steps and then every `n` steps.
    (The arithmetic is spelt out with `Nat` lemmas: `omega` on these truncated subtractions is several
    times dearer to check than the rest of the fairness proof.) -/
theorem count_walk (n : Nat) (hn : 0 < n) (j : Nat) (hj : j < n) (k : Nat) :
    ∀ p, p < n → (walk n p k).count j = (k + n - 1 - dist n p j) / n := by
  induction k with
  | zero =>
    intro p hp
    rw [Nat.zero_add]
    exact (Nat.div_eq_of_lt (Nat.lt_of_le_of_lt (Nat.sub_le _ _) (Nat.sub_lt hn Nat.one_pos))).symm
  | succ k ih =>
    intro p hp
    rw [walk, List.count_cons, ih _ (succIdx_lt hn), Nat.add_right_comm k 1 n, Nat.add_sub_cancel]
    by_cases hpj : p = j
    · -- at `j`: one more hit, `(k + n - 1 - (n - 1)) / n + 1 = (k + n - 0) / n`
      subst hpj
      rw [dist_of_le (Nat.le_refl p), dist_succIdx_self n p hp, beq_self_eq_true, if_pos rfl,
        Nat.add_sub_assoc hn, Nat.add_sub_cancel, Nat.sub_self, Nat.sub_zero, Nat.add_div_right _ hn]
    · -- elsewhere: no hit, one step closer, `k + n - 1 - d = k + n - (d + 1)`
      rw [← dist_succIdx n p j hp hj hpj, if_neg (by simpa using hpj), Nat.add_zero, Nat.sub_sub, Nat.add_comm 1]

theorem walk_lt (n : Nat) (hn : 0 < n) (k : Nat) : ∀ p, p < n → ∀ x ∈ walk n p k, x < n := by
  induction k with
  | zero => intro p _ x h; simp [walk] at h
  | succ k ih =>
    intro p hp x h
    simp only [walk, List.mem_cons] at h
    rcases h with rfl | h
    · exact hp
    · exact ih _ (succIdx_lt hn) x h

/-- **C19_rr_fair (index form)** — for EVERY number of targets `n ≥ 1`, every start state and
    every window length `k`: target position `j` is picked `⌊k/n⌋` or `⌈k/n⌉` times among `k`
    consecutive first-time picks; the exact count is given. -/
theorem C19_rr_fair_idx (n : Nat) (hn : 0 < n) (p j k : Nat) (hp : p < n) (hj : j < n) :
    k / n ≤ (walk n p k).count j ∧ (walk n p k).count j ≤ (k + n - 1) / n := by
  rw [count_walk n hn j hj k p hp]
  have := dist_lt n p j hp hj
  exact ⟨Nat.div_le_div_right (by omega), Nat.div_le_div_right (Nat.sub_le _ _)⟩

theorem count_map_pickAt (ts : List Target) (hnd : ts.Nodup) (j : Nat) (hj : j < ts.length)
    (l : List Nat) (hl : ∀ x ∈ l, x < ts.length) :
    (l.map (pickAt ts)).count (.tgt ts[j]) = l.count j := by
  induction l with
  | nil => rfl
  | cons a l ih =>
    have ha : a < ts.length := hl a (by simp)
    have ih' := ih (fun x hx => hl x (by simp [hx]))
    simp only [List.map_cons, List.count_cons, ih', pickAt_lt ha]
    congr 1
    by_cases haj : a = j
    · subst haj; simp
    · have : ts[a] ≠ ts[j] := fun h => haj ((List.getElem_inj hnd).mp h)
      simp [haj, this]

/-- round robin over a fixed list of `n ≥ 1` distinct targets, from ANY
    balancer state (any global index, also one left behind by removals): among `k` consecutive
    first-time picks every target is chosen at least `⌊k/n⌋` and at most `⌈k/n⌉` times; hence
    per-target counts differ by at most one. -/
theorem C19_rr_fair (b : Bal) (hnd : b.targets.Nodup) (t : Target) (ht : t ∈ b.targets) (k : Nat) :
    k / b.targets.length ≤ (firstPicks b k).count (.tgt t) ∧
    (firstPicks b k).count (.tgt t) ≤ (k + b.targets.length - 1) / b.targets.length := by
  obtain ⟨j, hj, rfl⟩ := List.getElem_of_mem ht
  have hn : 0 < b.targets.length := by omega
  rw [firstPicks_eq_walk k b hn,
    count_map_pickAt b.targets hnd j hj _ (walk_lt _ hn k _ (norm_lt hn))]
  exact C19_rr_fair_idx _ hn _ j k (norm_lt hn) hj

theorem ceil_le_floor_succ (k n : Nat) (hn : 0 < n) : (k + n - 1) / n ≤ k / n + 1 :=
  Nat.le_trans (Nat.div_le_div_right (Nat.sub_le _ 1)) (Nat.le_of_eq (Nat.add_div_right k hn))

/-- corollary in the wording of the property: counts of two targets differ by at most one -/
theorem C19_rr_fair_diff (b : Bal) (hnd : b.targets.Nodup) (t u : Target) (ht : t ∈ b.targets)
    (hu : u ∈ b.targets) (k : Nat) :
    (firstPicks b k).count (.tgt t) ≤ (firstPicks b k).count (.tgt u) + 1 :=
  Nat.le_trans (C19_rr_fair b hnd t ht k).2
    (Nat.le_trans (ceil_le_floor_succ k _ (List.length_pos_of_mem ht)) (Nat.succ_le_succ (C19_rr_fair b hnd u hu k).1))

/-- `n` consecutive first-time picks visit every target exactly once. -/
theorem C19_rr_cycle (b : Bal) (hnd : b.targets.Nodup) (t : Target) (ht : t ∈ b.targets) :
    (firstPicks b b.targets.length).count (.tgt t) = 1 := by
  have h := C19_rr_fair b hnd t ht b.targets.length
  have hn : 0 < b.targets.length := List.length_pos_of_mem ht
  rw [Nat.div_self hn, show b.targets.length + b.targets.length - 1 = b.targets.length - 1 + b.targets.length by omega,
    Nat.add_div_right _ hn, Nat.div_eq_of_lt (Nat.sub_lt hn Nat.one_pos)] at h
  exact Nat.le_antisymm h.2 h.1

-- non-vacuity: three targets, global index left at 7 by earlier removals, 5 picks: 2,2,1
example : firstPicks ⟨[⟨['a'], 0⟩, ⟨['b'], 1⟩, ⟨['c'], 2⟩], 7⟩ 5
    = [.tgt ⟨['a'], 0⟩, .tgt ⟨['b'], 1⟩, .tgt ⟨['c'], 2⟩, .tgt ⟨['a'], 0⟩, .tgt ⟨['b'], 1⟩] := by decide

/-! ## D. the retry loop

`loopG` is the `for` loop of `ProxyWithConfig` under every configuration, `proxyLoop` the same loop under the
default one (HTTP request, plain balancer, default RetryFilter: `loopG_default`).  The runs of the loop are
described once, for `loopG` (`RunG`); this section reads off that description what holds for `proxyLoop`,
EchoProofs/C19Cfg.lean what holds for every configuration. -/

/-- an attempt that did not produce an upstream answer: no target, or a dead target -/
def Failed (env : Env) (r : Res) : Prop :=
  r = .pick .nil ∨ ∃ t, r = .pick (.tgt t) ∧ env.alive t = false

/-- the proxy itself answers 502 -/
def Is502 (o : Outcome) : Prop := o = .badGateway ∨ o = .noTarget

/-- the `k`-th `Next`/`NextTarget` call is not answered with an error -/
def NoProvErr (env : EnvG) (k : Nat) : Prop := (if env.provider then env.provErr k else none) = none

/-- declarative description of the runs of the loop over a target list `ts`:
    `RunG env ts closed retries k fc picks fcalls out` -/
inductive RunG (env : EnvG) (ts : List Target) : Bool → Nat → Nat → Nat → List Res → List Err → OutG → Prop where
  | provErr (closed r k fc e) : env.provider = true → env.provErr k = some e →
      RunG env ts closed r k fc [] [] (.failed e)
  | noTarget (closed r k fc) : NoProvErr env k → ts = [] →
      RunG env ts closed r k fc [.pick .nil] [] (.failed (.http 502))
  | relayed (closed r k fc t) : NoProvErr env k → t ∈ ts → attemptErr env closed t = none →
      RunG env ts closed r k fc [.pick (.tgt t)] [] (.relayed t)
  | giveUp (closed k fc t e) : NoProvErr env k → t ∈ ts → attemptErr env closed t = some e →
      RunG env ts closed 0 k fc [.pick (.tgt t)] [] (.failed e)
  | declined (closed m k fc t e) : NoProvErr env k → t ∈ ts → attemptErr env closed t = some e →
      env.filter fc e = false → RunG env ts closed (m + 1) k fc [.pick (.tgt t)] [e] (.failed e)
  | retry (closed m k fc t e rs fs o) : NoProvErr env k → t ∈ ts → attemptErr env closed t = some e →
      env.filter fc e = true → RunG env ts true m (k + 1) (fc + 1) rs fs o →
      RunG env ts closed (m + 1) k fc (.pick (.tgt t) :: rs) (e :: fs) o
  | notMember (closed r k fc) : NoProvErr env k → env.rr = false →
      RunG env ts closed r k fc [.notMember] [] .panic

/-- the loop is a `RunG` over the (unchanged) target list: the cases of the loop body are the constructors -/
theorem loopG_run (env : EnvG) (retries : Nat) (closed : Bool) (k fc : Nat) (b : Bal) (last : Option Nat)
    (hints : List (List Char)) :
    RunG env b.targets closed retries k fc (loopG env retries closed k fc b last hints).picks
      (loopG env retries closed k fc b last hints).fcalls (loopG env retries closed k fc b last hints).out ∧
    (loopG env retries closed k fc b last hints).bal.targets = b.targets := by
  fun_induction loopG env retries closed k fc b last hints with
  | case1 r closed k fc b last hints e hp =>
    split at hp
    · exact ⟨.provErr _ _ _ _ e ‹_› hp, rfl⟩
    · cases hp
  | case2 r closed k fc b last hints hp b' l' hn => exact ⟨.noTarget _ _ _ _ hp (nextOf_nil hn), nextOf_fst hn⟩
  | case3 r closed k fc b last hints hp b' l' t ha hn =>
    exact ⟨.relayed _ _ _ _ t hp (nextOf_tgt hn) ha, nextOf_fst hn⟩
  | case4 closed k fc b last hints hp b' l' t e ha hn =>
    exact ⟨.giveUp _ _ _ t e hp (nextOf_tgt hn) ha, nextOf_fst hn⟩
  | case5 closed k fc b last hints hp b' l' t e ha m hf R hn ih =>
    rw [nextOf_fst hn] at ih
    exact ⟨.retry _ _ _ _ t e _ _ _ hp (nextOf_tgt hn) ha hf ih.1, ih.2⟩
  | case6 closed k fc b last hints hp b' l' t e ha m hf hn =>
    exact ⟨.declined _ _ _ _ t e hp (nextOf_tgt hn) ha (Bool.eq_false_iff.mpr hf), nextOf_fst hn⟩
  | case7 r closed k fc b last hints hp b' l' x hn h1 h2 =>
    obtain ⟨rfl, hr⟩ := nextOf_other hn h1 h2
    exact ⟨.notMember _ _ _ _ hp hr, nextOf_fst hn⟩

theorem RunG.bounds {env ts closed r k fc rs fs o} (h : RunG env ts closed r k fc rs fs o) :
    rs.length ≤ r + 1 ∧ fs.length ≤ r ∧ fs.length ≤ rs.length ∧ rs.length ≤ fs.length + 1 := by
  induction h with
  | retry closed m k fc t e rs fs o _ _ _ _ _ ih => simp only [List.length_cons]; omega
  | _ => simp

theorem RunG.one_le {env ts closed r k fc rs fs o} (h : RunG env ts closed r k fc rs fs o)
    (hp : env.provider = false) : 1 ≤ rs.length := by
  cases h with
  | provErr _ _ _ _ _ hp' => rw [hp] at hp'; cases hp'
  | _ => exact Nat.succ_le_succ (Nat.zero_le _)

theorem RunG.no_panic {env ts closed r k fc rs fs o} (h : RunG env ts closed r k fc rs fs o)
    (hr : env.rr = true) : o ≠ .panic := by
  induction h with
  | notMember _ _ _ _ _ h => rw [hr] at h; cases h
  | retry _ _ _ _ _ _ _ _ _ _ _ _ _ _ ih => exact ih
  | _ => nofun

theorem attemptErr_http {env : EnvG} (hw : env.ws = false) (c : Bool) (t : Target) :
    attemptErr env c t =
      if env.canceled then some (.http 499)
      else if env.alive t && !(env.bodyOnce && c) then none else some (.http 502) := by
  rw [attemptErr, hw]; rfl

theorem attemptErr_none {env : EnvG} {c : Bool} {t : Target} (h : attemptErr env c t = none) :
    env.alive t = true := by
  cases ha : env.alive t with
  | true => rfl
  | false =>
    -- a dead target fails the dial of a websocket attempt and the round trip of an HTTP attempt
    revert h
    rw [attemptErr, ha]
    cases env.ws <;> cases env.canceled <;> nofun

theorem RunG.first_ok {env ts closed r k fc rs fs o} (h : RunG env ts closed r k fc rs fs o) {t : Target}
    (hf : rs.head? = some (.pick (.tgt t))) (ha : attemptErr env closed t = none) :
    o = .relayed t ∧ rs = [.pick (.tgt t)] := by
  cases h with
  | relayed => cases hf; exact ⟨rfl, rfl⟩
  | giveUp _ _ _ _ _ _ _ ha' | declined _ _ _ _ _ _ _ _ ha' | retry _ _ _ _ _ _ _ _ _ _ _ ha' =>
    cases hf; rw [ha] at ha'; cases ha'
  | provErr | noTarget | notMember => cases hf

/-- a failed attempt after which the loop went on: the RetryFilter accepted its error -/
def Retried (env : EnvG) (x : Res) : Prop :=
  ∃ t c e n, x = .pick (.tgt t) ∧ attemptErr env c t = some e ∧ env.filter n e = true

theorem getLast?_dropLast_cons {α : Type} {x y : α} {rs : List α} (h : rs.getLast? = some y) :
    (x :: rs).getLast? = some y ∧ (x :: rs).dropLast = x :: rs.dropLast := by
  obtain ⟨z, zs, rfl⟩ := List.exists_cons_of_ne_nil (l := rs) (by rintro rfl; cases h)
  exact ⟨h, rfl⟩

theorem RunG.all_failed {env ts closed r k fc rs fs o} (h : RunG env ts closed r k fc rs fs o)
    (e : Err) (ho : o = .failed e) :
    ∀ x ∈ rs, x = .pick .nil ∨ Retried env x ∨ ∃ t c, x = .pick (.tgt t) ∧ attemptErr env c t = some e := by
  induction h with
  | provErr => nofun
  | noTarget => exact List.forall_mem_singleton.mpr (.inl rfl)
  | giveUp closed k fc t e' _ _ ha | declined closed m k fc t e' _ _ ha _ =>
    cases ho
    exact List.forall_mem_singleton.mpr (.inr (.inr ⟨t, closed, rfl, ha⟩))
  | retry closed m k fc t e' rs fs o _ _ ha hf _ ih =>
    exact List.forall_mem_cons.mpr ⟨.inr (.inl ⟨t, closed, e', fc, rfl, ha, hf⟩), ih ho⟩
  | relayed | notMember => cases ho

theorem RunG.relayed_spec {env ts closed r k fc rs fs o} (h : RunG env ts closed r k fc rs fs o)
    (t : Target) (ho : o = .relayed t) :
    env.alive t = true ∧ t ∈ ts ∧ rs.getLast? = some (.pick (.tgt t)) ∧ ∀ x ∈ rs.dropLast, Retried env x := by
  induction h with
  | relayed closed r k fc t' _ hm ha => cases ho; exact ⟨attemptErr_none ha, hm, rfl, nofun⟩
  | retry closed m k fc t' e' rs fs o _ _ ha hf _ ih =>
    obtain ⟨hal, hm, hl, hr⟩ := ih ho
    rw [(getLast?_dropLast_cons hl).1, (getLast?_dropLast_cons hl).2]
    exact ⟨hal, hm, rfl, List.forall_mem_cons.mpr ⟨⟨t', closed, e', fc, rfl, ha, hf⟩, hr⟩⟩
  | provErr | noTarget | giveUp | declined | notMember => cases ho

/-! ### `proxyLoop` is `loopG` under the default configuration -/

def outG_of : Outcome → OutG
  | .noTarget => .failed (.http 502)
  | .relayed t => .relayed t
  | .badGateway => .failed (.http 502)
  | .clientClosed => .failed (.http 499)
  | .panic => .panic

theorem outG_of_relayed {o : Outcome} {t : Target} (h : outG_of o = .relayed t) : o = .relayed t := by
  cases o <;> cases h
  rfl

theorem loopG_default (g : EnvG) (hw : g.ws = false) (hp : g.provider = false) (hf : g.filter = defaultFilter)
    (rc : Nat) : ∀ closed k fc b last hints,
    let R := loopG g rc closed k fc b last hints
    let P := proxyLoop ⟨g.rr, g.alive, g.canceled, g.bodyOnce⟩ rc closed b last hints
    R.bal = P.1 ∧ R.last = P.2.1 ∧ R.picks = P.2.2.1 ∧ R.out = outG_of P.2.2.2 := by
  -- one pass over the turn of both loops; only the retrying leaf looks at `rc`
  induction rc using Nat.strongRecOn with
  | ind rc ih =>
    intro closed k fc b last hints
    dsimp only
    rw [loopG.eq_def, proxyLoop.eq_def]
    simp only [hp, Bool.false_eq_true, if_false]
    rcases nextOf g.rr b last hints.head? with ⟨b', l', r⟩
    rcases r with x | q | _
    · simp [outG_of]
    · rcases q with _ | t | _
      · simp [outG_of]
      · simp only [attemptErr_http hw]
        cases hc : g.canceled with
        | true => cases rc <;> simp [outG_of, hf, defaultFilter]
        | false =>
          cases hd : (g.alive t && !(g.bodyOnce && closed)) with
          | true => simp [outG_of]
          | false =>
            cases rc with
            | zero => simp [outG_of]
            | succ m =>
              have := ih m (Nat.lt_succ_self m) true (k + 1) (fc + 1) b' l' hints.tail
              simp only [hc] at this
              simp [hf, defaultFilter, this]
      · simp [outG_of]
    · simp [outG_of]

/-- the configuration `proxyLoop` runs under -/
def Env.toG (env : Env) : EnvG :=
  ⟨env.rr, env.alive, env.canceled, env.bodyOnce, false, false, false, fun _ => none, defaultFilter⟩

theorem proxyLoop_run (env : Env) (rc : Nat) (closed : Bool) (b : Bal) (last : Option Nat) (hints : List (List Char)) :
    ∃ fs, RunG env.toG b.targets closed rc 0 0 (proxyLoop env rc closed b last hints).2.2.1 fs
        (outG_of (proxyLoop env rc closed b last hints).2.2.2) ∧
      (proxyLoop env rc closed b last hints).1.targets = b.targets := by
  have h := loopG_default env.toG rfl rfl rfl rc closed 0 0 b last hints
  have hr := loopG_run env.toG rc closed 0 0 b last hints
  rw [h.1, h.2.2.1, h.2.2.2] at hr
  exact ⟨_, hr⟩

theorem attemptErr_502 {env : Env} (hb : env.bodyOnce = false) {c : Bool} {t : Target}
    (h : attemptErr env.toG c t = some (.http 502)) : env.alive t = false := by
  rw [attemptErr_http rfl] at h
  cases ha : env.alive t with
  | false => rfl
  | true => simp [Env.toG, ha, hb] at h

theorem Retried.failed {env : Env} (hb : env.bodyOnce = false) {x : Res} (h : Retried env.toG x) : Failed env x := by
  obtain ⟨t, c, e, n, rfl, ha, hf⟩ := h
  cases eq_of_beq (show (e == Err.http 502) = true from hf)
  exact .inr ⟨t, rfl, attemptErr_502 hb ha⟩

/-- holds unconditionally (also for F16 runs): one request causes at
    least one and at most `RetryCount + 1` calls of `Next`, and the target list is not touched. -/
theorem C19_retry_attempts (env : Env) (rc : Nat) (closed : Bool) (b : Bal) (last : Option Nat)
    (hints : List (List Char)) :
    1 ≤ (proxyLoop env rc closed b last hints).2.2.1.length ∧
    (proxyLoop env rc closed b last hints).2.2.1.length ≤ rc + 1 ∧
    (proxyLoop env rc closed b last hints).1.targets = b.targets :=
  have ⟨_, h, ht⟩ := proxyLoop_run env rc closed b last hints
  ⟨h.one_le rfl, h.bounds.1, ht⟩

/-- FULL statement of the retry clause of the property, for one request (fresh context, body
    not yet touched): at most `RetryCount + 1` attempts, and the proxy answers 502 only if every
    attempt failed, i.e. hit no target or a dead one.
    It does NOT hold for the code as it is (finding F16, see the witness below); what holds is
    `C19_retry_bound_partial`. -/
def RetryBoundFull (env : Env) (rc : Nat) (b : Bal) (hints : List (List Char)) : Prop :=
  (proxyLoop env rc false b none hints).2.2.1.length ≤ rc + 1 ∧
  (Is502 (proxyLoop env rc false b none hints).2.2.2 →
    ∀ x ∈ (proxyLoop env rc false b none hints).2.2.1, Failed env x)

/-- negation witness (F16): round robin over [dead `a`, live `b`], RetryCount 1, a request with
    a body behind a real `http.Server`: the retry reaches the live target `b`, cannot send the
    closed body, and the client gets 502. -/
example : ¬ RetryBoundFull ⟨true, fun t => t.url == 1, false, true⟩ 1
    ⟨[⟨['a'], 0⟩, ⟨['b'], 1⟩], 0⟩ [] := by
  intro h
  have h502 : Is502 (proxyLoop ⟨true, fun t => t.url == 1, false, true⟩ 1 false
      ⟨[⟨['a'], 0⟩, ⟨['b'], 1⟩], 0⟩ none []).2.2.2 := Or.inl (by decide)
  have hmem : Res.pick (.tgt ⟨['b'], 1⟩) ∈ (proxyLoop ⟨true, fun t => t.url == 1, false, true⟩ 1 false
      ⟨[⟨['a'], 0⟩, ⟨['b'], 1⟩], 0⟩ none []).2.2.1 := by decide
  rcases h.2 h502 _ hmem with h | ⟨t, ht, hd⟩
  · cases h
  · cases ht; simp at hd

/-- the retry clause for requests whose body can be sent again
    (`bodyOnce = false`: no body, or a body whose `Close` does not invalidate it — everything
    except a non-empty body behind a real `http.Server`, F16).  For every liveness pattern,
    RetryCount, balancer kind and state, stored last index and draw sequence:
    * between 1 and `RetryCount + 1` attempts;
    * the proxy answers 502 only if EVERY attempt failed (no target, or a dead target);
    * a relayed answer comes from the last attempted target, which is alive and a current
      target, and every earlier attempt hit a dead target;
    * round robin never panics. -/
theorem C19_retry_bound_partial (env : Env) (hb : env.bodyOnce = false) (rc : Nat) (closed : Bool)
    (b : Bal) (last : Option Nat) (hints : List (List Char)) :
    let R := proxyLoop env rc closed b last hints
    1 ≤ R.2.2.1.length ∧ R.2.2.1.length ≤ rc + 1 ∧
    (Is502 R.2.2.2 → ∀ x ∈ R.2.2.1, Failed env x) ∧
    (∀ t, R.2.2.2 = .relayed t → env.alive t = true ∧ t ∈ b.targets ∧
        R.2.2.1.getLast? = some (.pick (.tgt t)) ∧ ∀ x ∈ R.2.2.1.dropLast, Failed env x) ∧
    (env.rr = true → R.2.2.2 ≠ .panic) := by
  intro R
  obtain ⟨fs, hrun, _⟩ := proxyLoop_run env rc closed b last hints
  refine ⟨hrun.one_le rfl, hrun.bounds.1, fun h5 x hx => ?_, fun t ho => ?_,
    fun hr hp => hrun.no_panic hr (congrArg outG_of hp)⟩
  · -- both of the proxy's own 502s are the error 502 of the configurable loop
    have ho : outG_of R.2.2.2 = .failed (.http 502) := by rcases h5 with h | h <;> rw [h] <;> rfl
    rcases hrun.all_failed _ ho x hx with h | h | ⟨t, c, rfl, ha⟩
    · exact .inl h
    · exact h.failed hb
    · exact .inr ⟨t, rfl, attemptErr_502 hb ha⟩
  · obtain ⟨ha, hm, hl, hf⟩ := hrun.relayed_spec t (congrArg outG_of ho)
    exact ⟨ha, hm, hl, fun x hx => (hf x hx).failed hb⟩

theorem C19_retry_bound_full_of_replayable (env : Env) (hb : env.bodyOnce = false) (rc : Nat)
    (b : Bal) (hints : List (List Char)) : RetryBoundFull env rc b hints :=
  ⟨(C19_retry_bound_partial env hb rc false b none hints).2.1,
   (C19_retry_bound_partial env hb rc false b none hints).2.2.1⟩

/-- F16 is the only deviation: whatever the body, if the FIRST attempted target of a request is
    alive (and the client has not gone away) its answer is relayed — no 502, no retry. -/
theorem C19_retry_first_alive (env : Env) (rc : Nat) (b : Bal) (last : Option Nat)
    (hints : List (List Char)) (t : Target) (hc : env.canceled = false)
    (hf : (proxyLoop env rc false b last hints).2.2.1.head? = some (.pick (.tgt t)))
    (ha : env.alive t = true) :
    (proxyLoop env rc false b last hints).2.2.2 = .relayed t ∧
    (proxyLoop env rc false b last hints).2.2.1 = [.pick (.tgt t)] := by
  obtain ⟨fs, hrun, _⟩ := proxyLoop_run env rc false b last hints
  have hok : attemptErr env.toG false t = none := by
    rw [attemptErr_http rfl]; simp [Env.toG, hc, ha]
  exact ⟨outG_of_relayed (hrun.first_ok hf hok).1, (hrun.first_ok hf hok).2⟩

-- non-vacuity of the partial theorem: [dead, dead, live], RetryCount 2 → three attempts, relayed
example : (proxyLoop ⟨true, fun t => t.url == 2, false, false⟩ 2 false
    ⟨[⟨['a'], 0⟩, ⟨['b'], 1⟩, ⟨['c'], 2⟩], 0⟩ none []).2.2
    = ([.pick (.tgt ⟨['a'], 0⟩), .pick (.tgt ⟨['b'], 1⟩), .pick (.tgt ⟨['c'], 2⟩)], .relayed ⟨['c'], 2⟩) := by
  decide
-- … and RetryCount 1 → two attempts, 502
example : (proxyLoop ⟨true, fun t => t.url == 2, false, false⟩ 1 false
    ⟨[⟨['a'], 0⟩, ⟨['b'], 1⟩, ⟨['c'], 2⟩], 0⟩ none []).2.2
    = ([.pick (.tgt ⟨['a'], 0⟩), .pick (.tgt ⟨['b'], 1⟩)], .badGateway) := by
  decide

/-! ### round robin retries go to the NEXT target -/

/-- the picks follow the cyclic order starting at index `i` -/
def ChainAt (ts : List Target) : Nat → List Res → Prop
  | _, [] => True
  | i, r :: rs => r = .pick (pickAt ts i) ∧ ChainAt ts (succIdx ts.length i) rs

theorem nextOf_rr {b : Bal} {last hint b' l' r} (h2 : 2 ≤ b.targets.length)
    (hn : nextOf true b last hint = (b', l', r)) :
    l' = some (rrIdx b.targets.length b.i last) ∧ r = .pick (pickAt b.targets (rrIdx b.targets.length b.i last)) := by
  simp only [nextOf, if_true, nextRR_two b last h2] at hn
  cases last <;> cases hn <;> exact ⟨rfl, rfl⟩

/-- Every turn of the loop picks at `rrIdx` and stores that index, so the next turn picks at its successor.
    Only the turn that retries has a tail. -/
theorem loopG_chain (env : EnvG) (hr : env.rr = true) (rc : Nat) (closed : Bool) (k fc : Nat) (b : Bal)
    (last : Option Nat) (hints : List (List Char)) (h2 : 2 ≤ b.targets.length) :
    ChainAt b.targets (rrIdx b.targets.length b.i last) (loopG env rc closed k fc b last hints).picks := by
  fun_induction loopG env rc closed k fc b last hints with
  | case1 => trivial
  | case5 closed k fc b last hints hp b' l' t e ha m hf R hn ih =>
    rw [hr] at hn
    obtain ⟨rfl, hpk⟩ := nextOf_rr h2 hn
    rw [nextOf_fst hn] at ih
    exact ⟨hpk, ih h2⟩
  | case2 _ _ _ _ _ _ _ _ _ _ hn | case3 _ _ _ _ _ _ _ _ _ _ _ _ hn | case4 _ _ _ _ _ _ _ _ _ _ _ _ hn
  | case6 _ _ _ _ _ _ _ _ _ _ _ _ _ _ hn | case7 _ _ _ _ _ _ _ _ _ _ _ hn =>
    rw [hr] at hn
    exact ⟨(nextOf_rr h2 hn).2, trivial⟩

theorem succIdx_ne (n i : Nat) (h2 : 2 ≤ n) (hi : i < n) : succIdx n i ≠ i := by
  unfold succIdx; split <;> omega

theorem ChainAt.adjacent_ne (ts : List Target) (hnd : ts.Nodup) (h2 : 2 ≤ ts.length) :
    ∀ (rs : List Res) (i : Nat), i < ts.length → ChainAt ts i rs →
      ∀ k a c, rs[k]? = some a → rs[k + 1]? = some c → a ≠ c := by
  intro rs
  induction rs with
  | nil => intro i _ _ k a c h; cases h
  | cons r rs ih =>
    intro i hi ⟨hr, hrest⟩ k a c ha hc
    have hs : succIdx ts.length i < ts.length := succIdx_lt (Nat.zero_lt_of_lt hi)
    cases k with
    | succ k => exact ih _ hs hrest k a c ha hc
    | zero =>
      cases rs with
      | nil => cases hc
      | cons r2 rs2 =>
        -- the first two picks sit at `i` and at its successor, which are different positions of a list without repetition
        cases ha; cases hc
        rw [hr, hrest.1, pickAt_lt hi, pickAt_lt hs]
        exact fun h => succIdx_ne _ _ h2 hi ((List.getElem_inj hnd).mp (Pick.tgt.inj (Res.pick.inj h))).symm

/-- round robin with at least two (distinct) targets: the
    attempts of one request walk the target list cyclically (each retry uses the target AFTER
    the one that just failed), so two consecutive attempts never use the same target.  Holds
    for every stored last index, RetryCount and liveness pattern (and also for F16 runs). -/
theorem C19_retry_next_target (env : Env) (hr : env.rr = true) (rc : Nat) (closed : Bool) (b : Bal)
    (last : Option Nat) (hints : List (List Char)) (hnd : b.targets.Nodup) (h2 : 2 ≤ b.targets.length) :
    (∃ i, i < b.targets.length ∧ ChainAt b.targets i (proxyLoop env rc closed b last hints).2.2.1) ∧
    ∀ k a c, (proxyLoop env rc closed b last hints).2.2.1[k]? = some a →
      (proxyLoop env rc closed b last hints).2.2.1[k + 1]? = some c → a ≠ c := by
  have h := loopG_chain env.toG hr rc closed 0 0 b last hints h2
  rw [(loopG_default env.toG rfl rfl rfl rc closed 0 0 b last hints).2.2.1] at h
  have hi := rrIdx_lt b.i last (Nat.zero_lt_of_lt h2)
  exact ⟨⟨_, hi, h⟩, ChainAt.adjacent_ne _ hnd h2 _ _ hi h⟩

/-- the parts of the retry clause that hold for ALL runs
    (attempt bound, round robin moves to the next target, a first live target is relayed)
    together with the 502 clause for replayable bodies (the full 502 clause fails: F16). -/
theorem C19_retry_bound (env : Env) (rc : Nat) (b : Bal) (hints : List (List Char)) :
    let R := proxyLoop env rc false b none hints
    (1 ≤ R.2.2.1.length ∧ R.2.2.1.length ≤ rc + 1) ∧
    (env.bodyOnce = false → Is502 R.2.2.2 → ∀ x ∈ R.2.2.1, Failed env x) ∧
    (env.rr = true → b.targets.Nodup → 2 ≤ b.targets.length →
      ∀ k a c, R.2.2.1[k]? = some a → R.2.2.1[k + 1]? = some c → a ≠ c) := by
  intro R
  have h := C19_retry_attempts env rc false b none hints
  exact ⟨⟨h.1, h.2.1⟩, fun hb => (C19_retry_bound_partial env hb rc false b none hints).2.2.1,
    fun hr hnd h2 => (C19_retry_next_target env hr rc false b none hints hnd h2).2⟩

/-! ## E. linearizability of concurrent balancer histories

Every exported balancer operation (`AddTarget`, `RemoveTarget`, `Next`) runs its whole body
between `mutex.Lock()` and the deferred `Unlock()`.  TRUSTED (not provable about a model):
`sync.Mutex` makes these critical sections mutually exclusive and establishes happens-before
between them, and an echo context is only used by the goroutine serving its request.  Under
that assumption a concurrent execution is a sequence of events

    inv t op   — goroutine `t` calls an operation            (before it takes the lock)
    lin t      — `t` runs the critical section: one atomic `stepOp` on the shared state
    ret t      — the call returns the result computed in the critical section

interleaved arbitrarily between goroutines (`Sys.step`).  The theorem says: the operations in
the order of their `lin` events form a SEQUENTIAL history of the model (`runOps`) with
exactly the results the callers got and the same final state, and each operation's `lin` lies
strictly between its `inv` and `ret`, hence the sequential order respects real-time
precedence.  So every property proved above for all sequential op sequences (membership,
no panic, no use after removal, no lost target) transfers to every concurrent history. -/

structure Done where
  tid : Nat
  op : Op
  res : Res
  tInv : Nat
  tLin : Nat

structure Completed where
  d : Done
  tRet : Nat

inductive Pend where
  | idle
  | invoked (op : Op) (tInv : Nat)
  | done (d : Done)

inductive Ev where
  | inv (tid : Nat) (op : Op)
  | lin (tid : Nat)
  | ret (tid : Nat)

structure Sys where
  st : St
  pend : Nat → Pend
  now : Nat
  lin : List Done
  completed : List Completed

def setPend (f : Nat → Pend) (t : Nat) (p : Pend) : Nat → Pend := fun u => if u = t then p else f u

/-- one event of a concurrent execution; `none` = the event is not enabled (ill-formed history) -/
def Sys.step (σ : Sys) : Ev → Option Sys
  | .inv t op =>
    match σ.pend t with
    | .idle => some { σ with pend := setPend σ.pend t (.invoked op σ.now), now := σ.now + 1 }
    | _ => none
  | .lin t =>
    match σ.pend t with
    | .invoked op tInv =>
      let d : Done := ⟨t, op, (stepOp σ.st op).2, tInv, σ.now⟩
      some { σ with st := (stepOp σ.st op).1, pend := setPend σ.pend t (.done d), now := σ.now + 1,
                    lin := σ.lin ++ [d] }
    | _ => none
  | .ret t =>
    match σ.pend t with
    | .done d => some { σ with pend := setPend σ.pend t .idle, now := σ.now + 1,
                               completed := σ.completed ++ [⟨d, σ.now⟩] }
    | _ => none

def Sys.run : Sys → List Ev → Option Sys
  | σ, [] => some σ
  | σ, e :: es => match σ.step e with
    | some σ' => σ'.run es
    | none => none

def Sys.init (s : St) : Sys := ⟨s, fun _ => .idle, 0, [], []⟩

theorem runOps_append (ops1 ops2 : List Op) : ∀ s : St,
    runOps s (ops1 ++ ops2) =
      ((runOps (runOps s ops1).1 ops2).1, (runOps s ops1).2 ++ (runOps (runOps s ops1).1 ops2).2) := by
  induction ops1 with
  | nil => intro s; simp [runOps]
  | cons o os ih => intro s; simp [runOps, ih]

structure LinInv (s0 : St) (σ : Sys) : Prop where
  seq : runOps s0 (σ.lin.map (·.op)) = (σ.st, σ.lin.map (·.res))
  linTime : ∀ d ∈ σ.lin, d.tInv < d.tLin ∧ d.tLin < σ.now
  sorted : σ.lin.Pairwise (fun a b => a.tLin < b.tLin)
  compl : ∀ c ∈ σ.completed, c.d ∈ σ.lin ∧ c.d.tLin < c.tRet ∧ c.tRet < σ.now
  pendInv : ∀ t op ti, σ.pend t = .invoked op ti → ti < σ.now
  pendDone : ∀ t d, σ.pend t = .done d → d ∈ σ.lin

theorem LinInv.init (s0 : St) : LinInv s0 (Sys.init s0) := by
  refine ⟨by simp [Sys.init, runOps], by simp [Sys.init], by simp [Sys.init], by simp [Sys.init],
    ?_, ?_⟩ <;> simp [Sys.init]

theorem setPend_cases {f : Nat → Pend} {t u : Nat} {p q : Pend} (h : setPend f t p u = q) : p = q ∨ f u = q := by
  unfold setPend at h
  split at h
  · exact .inl h
  · exact .inr h

theorem LinInv.step {s0 : St} {σ σ' : Sys} (h : LinInv s0 σ) (e : Ev) (hs : σ.step e = some σ') :
    LinInv s0 σ' := by
  -- every event advances the clock by one, so the bounds `< now` of the old state survive
  have lt1 : ∀ {x}, x < σ.now → x < σ.now + 1 := Nat.lt_succ_of_lt
  have hlin := fun d hd => And.intro (h.linTime d hd).1 (lt1 (h.linTime d hd).2)
  have hcompl := fun c hc => And.intro (h.compl c hc).1 (And.intro (h.compl c hc).2.1 (lt1 (h.compl c hc).2.2))
  cases e with
  | inv t op =>
    simp only [Sys.step] at hs
    split at hs
    · cases hs
      exact ⟨h.seq, hlin, h.sorted, hcompl,
        fun u op' ti hp => (setPend_cases hp).elim (fun e => by cases e; exact Nat.lt_succ_self _)
          (fun e => lt1 (h.pendInv u op' ti e)),
        fun u d hp => (setPend_cases hp).elim nofun (h.pendDone u d)⟩
    · cases hs
  | lin t =>
    simp only [Sys.step] at hs
    split at hs
    · rename_i op tInv hpend
      cases hs
      have hti := h.pendInv t op tInv hpend
      refine ⟨?_, ?_, ?_, fun c hc => ⟨List.mem_append_left _ (hcompl c hc).1, (hcompl c hc).2⟩,
        fun u op' ti hp => (setPend_cases hp).elim nofun (fun e => lt1 (h.pendInv u op' ti e)),
        fun u d hp => (setPend_cases hp).elim (fun e => by cases e; exact List.mem_append_right _ (List.mem_singleton_self _))
          (fun e => List.mem_append_left _ (h.pendDone u d e))⟩
      · simp only [List.map_append, List.map_cons, List.map_nil]
        rw [runOps_append, h.seq]
        rfl
      · exact List.forall_mem_append.mpr ⟨hlin, List.forall_mem_singleton.mpr ⟨hti, Nat.lt_succ_self _⟩⟩
      · exact List.pairwise_append.mpr ⟨h.sorted, List.pairwise_singleton .., fun a ha b hb =>
          List.mem_singleton.mp hb ▸ (h.linTime a ha).2⟩
    · cases hs
  | ret t =>
    simp only [Sys.step] at hs
    split at hs
    · rename_i d hpend
      cases hs
      have hd := h.pendDone t d hpend
      exact ⟨h.seq, hlin, h.sorted,
        List.forall_mem_append.mpr ⟨hcompl, List.forall_mem_singleton.mpr ⟨hd, (h.linTime d hd).2, Nat.lt_succ_self _⟩⟩,
        fun u op' ti hp => (setPend_cases hp).elim nofun (fun e => lt1 (h.pendInv u op' ti e)),
        fun u d' hp => (setPend_cases hp).elim nofun (h.pendDone u d')⟩
    · cases hs

theorem LinInv.run {s0 : St} (es : List Ev) : ∀ {σ σ' : Sys}, LinInv s0 σ → σ.run es = some σ' →
    LinInv s0 σ' := by
  induction es with
  | nil => intro σ σ' h hr; simp [Sys.run] at hr; subst hr; exact h
  | cons e es ih =>
    intro σ σ' h hr
    simp only [Sys.run] at hr
    split at hr
    · rename_i σ1 hs
      exact ih (h.step e hs) hr
    · cases hr

/-- for every initial balancer state and EVERY well-formed concurrent
    execution (any number of goroutines, any interleaving of invocations, critical sections
    and returns), the operations ordered by their critical sections are a sequential run of
    the model: same results as the callers received, same final state; every completed call
    is in that order with its `lin` strictly inside its `inv`/`ret` interval, so an operation
    that returned before another was invoked is ordered before it. -/
theorem C19_linearizable (s0 : St) (es : List Ev) (σ : Sys) (hrun : (Sys.init s0).run es = some σ) :
    runOps s0 (σ.lin.map (·.op)) = (σ.st, σ.lin.map (·.res)) ∧
    σ.lin.Pairwise (fun a b => a.tLin < b.tLin) ∧
    (∀ c ∈ σ.completed, c.d ∈ σ.lin ∧ c.d.tInv < c.d.tLin ∧ c.d.tLin < c.tRet) ∧
    (∀ a ∈ σ.completed, ∀ d ∈ σ.lin, a.tRet < d.tInv → a.d.tLin < d.tLin) := by
  have h := LinInv.run es (LinInv.init s0) hrun
  refine ⟨h.seq, h.sorted, ?_, ?_⟩
  · intro c hc
    have := h.compl c hc
    exact ⟨this.1, (h.linTime _ this.1).1, this.2.1⟩
  · intro a ha d hd hlt
    have h1 := (h.compl a ha).2.1
    have h2 := (h.linTime d hd).1
    omega

-- non-vacuity: two goroutines; B's Next runs inside A's RemoveTarget call interval
example : ∃ σ, (Sys.init ⟨true, ⟨[⟨['a'], 0⟩, ⟨['b'], 1⟩], 0⟩, []⟩).run
    [.inv 0 (.remove ['a']), .inv 1 (.next 0 none), .lin 1, .lin 0, .ret 0, .ret 1, .inv 1 (.next 1 none), .lin 1, .ret 1]
      = some σ ∧ σ.lin.map (·.res) = [.pick (.tgt ⟨['a'], 0⟩), .bool true, .pick (.tgt ⟨['b'], 1⟩)] := by
  refine ⟨_, rfl, ?_⟩
  decide

/-! ## F. rewrite rules: first match, and why Go's map iteration order does not matter -/

/-- `rewrite` applies the FIRST rule (in iteration order) that matches, exactly once -/
theorem C19_rewrite_first_match (rs1 rs2 : List Rule) (r : Rule) (uri u : List Char)
    (hno : ∀ x ∈ rs1, x.apply uri = none) (hr : r.apply uri = some u) :
    rewrite (rs1 ++ r :: rs2) uri = u := by
  induction rs1 with
  | nil => simp [rewrite, hr]
  | cons x xs ih =>
    have hx : x.apply uri = none := hno x (by simp)
    simp only [List.cons_append, rewrite, hx]
    exact ih (fun y hy => hno y (by simp [hy]))

theorem rewrite_cases (rs : List Rule) (uri : List Char) :
    ((∀ x ∈ rs, x.apply uri = none) ∧ rewrite rs uri = uri) ∨ ∃ r ∈ rs, r.apply uri = some (rewrite rs uri) := by
  induction rs with
  | nil => exact .inl ⟨nofun, rfl⟩
  | cons x xs ih =>
    rw [rewrite]
    cases hx : x.apply uri with
    | some u => exact .inr ⟨x, List.mem_cons_self .., hx⟩
    | none =>
      exact ih.imp (fun h => ⟨List.forall_mem_cons.mpr ⟨hx, h.1⟩, h.2⟩)
        fun ⟨r, hr, h⟩ => ⟨r, List.mem_cons_of_mem _ hr, h⟩

/-- no rule matches: the request URL is left alone -/
theorem C19_rewrite_no_match (rs : List Rule) (uri : List Char) (hno : ∀ x ∈ rs, x.apply uri = none) :
    rewrite rs uri = uri := by
  rcases rewrite_cases rs uri with h | ⟨r, hr, h⟩
  · exact h.2
  · rw [hno r hr] at h; cases h

/-- `rewriteURL` ranges over a Go map (random order).  If all
    rules that match a request agree on the result — in particular if at most one rule
    matches — the outcome is the same for every iteration order. -/
theorem C19_rewrite_order_irrelevant (rs rs' : List Rule) (hp : rs.Perm rs') (uri : List Char)
    (hag : ∀ x ∈ rs, ∀ y ∈ rs, ∀ u v, x.apply uri = some u → y.apply uri = some v → u = v) :
    rewrite rs uri = rewrite rs' uri := by
  -- either nothing matches in both orders, or each order's result is the result of a rule of `rs`, and those agree
  rcases rewrite_cases rs uri with ⟨hno, h⟩ | ⟨r, hr, h⟩ <;>
    rcases rewrite_cases rs' uri with ⟨hno', h'⟩ | ⟨r', hr', h'⟩
  · rw [h, h']
  · rw [hno r' (hp.symm.subset hr')] at h'; cases h'
  · rw [hno' r (hp.subset hr)] at h; cases h
  · exact hag r hr r' (hp.symm.subset hr') _ _ h h'

-- the documented examples of ProxyConfig.Rewrite
example : rewrite [⟨"/old".toList, "/new".toList⟩, ⟨"/api/*".toList, "/$1".toList⟩,
    ⟨"/users/*/orders/*".toList, "/user/$1/order/$2".toList⟩] "/users/7/orders/9?x=1".toList
    = "/user/7/order/9?x=1".toList := by lit_chars; decide +kernel
-- not anchored at the start: a suffix match replaces the whole request target
example : rewrite [⟨"/old".toList, "/new".toList⟩] "/pre/old".toList = "/new".toList := by lit_chars; decide +kernel
-- `$` anchors at the end: a query string prevents a star-less rule from matching
example : rewrite [⟨"/old".toList, "/new".toList⟩] "/old?x=1".toList = "/old?x=1".toList := by lit_chars; decide +kernel
-- lazy stars split at the FIRST separator
example : (Rule.apply ⟨"/t/*/s/*".toList, "/$2/$1".toList⟩ "/t/a/s/b/s/c".toList)
    = some "/b/s/c/a".toList := by lit_chars; decide +kernel

end C19
