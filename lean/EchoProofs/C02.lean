import EchoModel.C02
import EchoProofs.Spec.Basics
import EchoProofs.Lit
/-!
# C02 — theorems about the order-free priority search (layer L1)

The outcome depends only on the *set* of routes, never on their order (`C02_perm`); a path equal to a
registered literal route is served by that route; a request that some registered pattern matches for its
method is dispatched (never 404/405) — also when deeper wildcard or parameter routes exist only for other
methods (full backtracking, `C02_complete`); a host table is used for exactly that Host value.

The radix tree of router.go (layer L3, `Router.find ∘ Router.build`) is tied to this specification by
the refinement proof in `EchoProofs/Tree/*` (`find_eq_route_ok`; `tree_order_free` is `C02_perm` on the tree
model); both layers are also compared with the real code on every run (checks C01 and C02 share their
generators).
-/
namespace C02
open Router.Spec
open Router (Str routeNotFound Route)

/-- outcomes agree up to the order of the Allow set -/
def OutEquiv : Outcome → Outcome → Prop
  | .dispatch e v, .dispatch e' v' => e = e' ∧ v = v'
  | .notFound, .notFound => True
  | .methodNotAllowed a, .methodNotAllowed a' => a.Perm a'
  | _, _ => False

/-- no structurally identical duplicates: no two entries with the same tokens and method -/
def NoDup (es : List Entry) : Prop := Uniq (initial es)

theorem bound_perm {r r' : R} (h : r.Perm r') : bound r = bound r' := by
  unfold bound
  exact (h.map _).sum_nat

theorem allowOf_perm {a b : List Entry} (h : a.Perm b) : (allowOf a).Perm (allowOf b) := by
  unfold allowOf
  exact List.Perm.cons _ ((h.map _).filter _)

theorem finish_rel {x y : Res × Best} (h : RRel x y) : OutEquiv (finish x) (finish y) := by
  obtain ⟨res, b⟩ := x
  obtain ⟨res', b'⟩ := y
  obtain ⟨hres, hb⟩ := h
  simp only at hres hb
  subst hres
  cases res with
  | hit e v => exact ⟨rfl, rfl⟩
  | miss =>
    match b, b', hb with
    | none, none, _ => trivial
    | some bl, some bl', ⟨hp, hu⟩ =>
      simp only [finish]
      rw [← findNF_perm hp hu, ← isHandler_perm hp]
      cases findNF bl with
      | some e => exact ⟨rfl, rfl⟩
      | none =>
        simp only
        split
        · exact allowOf_perm hp
        · trivial

theorem finish_search_perm {r r' : R} (h : r.Perm r') (hu : Uniq r) (m path : Str) :
    OutEquiv (finish (search m (bound r + 1) r path [] none))
      (finish (search m (bound r' + 1) r' path [] none)) := by
  rw [← bound_perm h]
  exact finish_rel (search_perm m _ h hu path [] (best := none) (best' := none) trivial)

/-- **C02_perm** — for a fixed set of routes the outcome of every request is the same
    whatever the order of registration. -/
theorem C02_perm (es es' : List Entry) (h : es.Perm es') (hnd : NoDup es) (m path : Str) :
    OutEquiv (route es m path) (route es' m path) :=
  finish_search_perm (h.map _) hnd m path

def lits (p : Str) : List Tok := p.map Tok.lit

theorem search_literal (m : Str) (e : Entry) (hm : e.method = m) (hne : m ≠ routeNotFound) :
    ∀ (fuel : Nat) (r : R) (path : Str) (vals : List Str) (best : Best),
      (lits path, e) ∈ r → Uniq r → path.length < fuel →
      (search m fuel r path vals best).1 = .hit e vals := by
  intro fuel
  induction fuel with
  | zero => intro r path vals best _ _ h; omega
  | succ fuel ih =>
    intro r path vals best hmem hu hlen
    simp only [search]
    cases path with
    | nil =>
      have he : e ∈ ends r := mem_ends.mpr hmem
      have hh : isHandler (ends r) = true := isHandler_of_mem he (hm ▸ hne)
      have hf := findM_eq_of_mem (uniq_ends hu) he hm hne
      simp [stepEnd, hh, hf]
    | cons c rest =>
      have hd : (lits rest, e) ∈ deriv (.lit c) r := mem_deriv.mpr hmem
      have hne' := deriv_ne_nil_of_mem hmem
      have hrec := ih (deriv (.lit c) r) rest vals best hd (uniq_deriv _ hu) (by simpa using hlen)
      simp only [stepEnd, List.isEmpty_cons, Bool.false_eq_true, if_false, litStep, hne']
      generalize search m fuel (deriv (.lit c) r) rest vals best = s at hrec
      obtain ⟨res, b⟩ := s
      simp only at hrec
      subst hrec
      rfl

/-- **C02_literal_wins** — a path equal to a registered literal route is always served by
    that route (with no parameter values), whatever else is registered. -/
theorem C02_literal_wins (es : List Entry) (hnd : NoDup es) (e : Entry) (he : e ∈ es)
    (path : Str) (hlit : e.toks = lits path) (hne : e.method ≠ routeNotFound) :
    route es e.method path = .dispatch e [] := by
  have hmem : (lits path, e) ∈ initial es := List.mem_map.mpr ⟨e, he, by rw [hlit]⟩
  have hb := bound_ge_of_mem hmem
  exact finish_hit (search_literal e.method e rfl hne _ _ path [] none hmem hnd
    (by simp [lits] at hb; omega))

/-- declarative matching of a request path by a token list (the conservative reading: a
    named parameter takes the maximal `/`-free run — which may be empty only when the path
    goes on — and a wildcard takes the rest, possibly empty) -/
def Matches : List Tok → Str → Prop
  | [], p => p = []
  | .lit c :: ts, p => ∃ rest, p = c :: rest ∧ Matches ts rest
  | .param :: ts, p => p ≠ [] ∧ Matches ts (p.drop (p.takeWhile (· ≠ '/')).length)
  | .any :: _, _ => True

def IsHit (x : Res × Best) : Prop := ∃ e v, x.1 = .hit e v

theorem orElse_isHit_left {x : Res × Best} {k : Best → Res × Best} (h : IsHit x) :
    IsHit (orElse x k) := by
  obtain ⟨res, b⟩ := x
  obtain ⟨e, v, h⟩ := h
  cases h
  exact ⟨e, v, rfl⟩

theorem orElse_isHit_right {x : Res × Best} {k : Best → Res × Best} (h : ∀ b, IsHit (k b)) :
    IsHit (orElse x k) := by
  obtain ⟨res, b⟩ := x
  cases res with
  | hit e v => exact ⟨e, v, rfl⟩
  | miss => exact h b

theorem search_complete (m : Str) (hne : m ≠ routeNotFound) :
    ∀ (fuel : Nat) (r : R) (path : Str) (vals : List Str) (best : Best) (ts : List Tok) (e : Entry),
      (ts, e) ∈ r → e.method = m → AnyLastR r → Matches ts path → ts.length < fuel →
      IsHit (search m fuel r path vals best) := by
  intro fuel
  induction fuel with
  | zero => intro r path vals best ts e _ _ _ _ h; omega
  | succ fuel ih =>
    intro r path vals best ts e hmem hm hal hmatch hlen
    simp only [search]
    cases ts with
    | nil =>
      simp only [Matches] at hmatch
      subst hmatch
      have he : e ∈ ends r := mem_ends.mpr hmem
      have hh : isHandler (ends r) = true := isHandler_of_mem he (hm ▸ hne)
      obtain ⟨e', hf⟩ := findM_isSome_of_mem he hm hne
      simp only [stepEnd, List.isEmpty_nil, if_true, hh, hf]
      exact ⟨e', vals, rfl⟩
    | cons t ts' =>
      generalize stepEnd m (ends r) path best = s1
      obtain ⟨e1, b1⟩ := s1
      cases e1 with
      | some e1 => exact ⟨e1, vals, rfl⟩
      | none =>
        simp only
        have hlen' : ts'.length < fuel := by simpa using hlen
        cases t with
        | lit c =>
          obtain ⟨rest, rfl, hm'⟩ := hmatch
          apply orElse_isHit_left
          simp only [litStep, deriv_ne_nil_of_mem hmem, Bool.false_eq_true, if_false]
          exact ih _ _ _ _ ts' e (mem_deriv.mpr hmem) hm (anyLastR_deriv hal) hm' hlen'
        | param =>
          obtain ⟨hpne, hm'⟩ := hmatch
          apply orElse_isHit_right
          intro b2
          apply orElse_isHit_left
          unfold paramStep
          have hpe : path.isEmpty = false := by cases path <;> simp_all
          simp only [hpe, deriv_ne_nil_of_mem hmem, Bool.false_eq_true, or_self, if_false]
          by_cases hleaf : (deriv .param r).all (·.1.isEmpty) = true
          · have hts : ts' = [] := by
              have := List.all_eq_true.mp hleaf _ (mem_deriv.mpr hmem)
              simpa using this
            subst hts
            simp only [paramValue, hleaf, if_true, List.drop_length]
            exact ih _ _ _ _ [] e (mem_deriv.mpr hmem) hm (anyLastR_deriv hal) (by simp [Matches]) hlen'
          · simp only [paramValue, hleaf, Bool.false_eq_true, if_false]
            exact ih _ _ _ _ ts' e (mem_deriv.mpr hmem) hm (anyLastR_deriv hal) hm' hlen'
        | any =>
          apply orElse_isHit_right
          intro b2
          apply orElse_isHit_right
          intro b3
          unfold anyStep
          simp only [deriv_ne_nil_of_mem hmem, Bool.false_eq_true, if_false]
          have hts : ts' = [] := by
            have := hal _ hmem
            simpa [anyLast] using this
          subst hts
          have he : e ∈ ends (deriv .any r) := mem_ends.mpr (mem_deriv.mpr hmem)
          obtain ⟨e', hf⟩ := findM_isSome_of_mem he hm hne
          simp only [stepAny, hf]
          exact ⟨e', _, rfl⟩

/-- **C02_complete** — if some registered pattern matches the request path for the
    request's method, the request is dispatched to a registered handler: never the router's
    own 404 or 405, also when a deeper wildcard or parameter route exists only for other
    methods.  (`hal`: in every pattern `*` is the last token — text after `*` is out of scope.) -/
theorem C02_complete (es : List Entry) (hal : ∀ e ∈ es, anyLast e.toks = true)
    (e : Entry) (he : e ∈ es) (hne : e.method ≠ routeNotFound) (path : Str)
    (hmatch : Matches e.toks path) :
    ∃ e' vals, route es e.method path = .dispatch e' vals := by
  have hmem : (e.toks, e) ∈ initial es := List.mem_map.mpr ⟨e, he, rfl⟩
  have hb := bound_ge_of_mem hmem
  obtain ⟨e', v, h⟩ := search_complete e.method hne (bound (initial es) + 1) (initial es) path [] none
    e.toks e hmem rfl (anyLastR_initial hal) hmatch (by omega)
  exact ⟨e', v, finish_hit h⟩

/-- **C02_host_exact** — a request whose Host value is registered is routed with that
    host's table. -/
theorem C02_host_exact {α} (hosts : List (Str × α)) (dflt : α) (host : Str) (t : α)
    (h : hosts.find? (·.1 = host) = some (host, t)) : routeHost hosts dflt host = t := by
  simp [routeHost, h]

/-- **C02_host_other** — whichever table serves a request, it is either the default one or
    the table registered for exactly the request's Host value: a host table is never used
    for another Host. -/
theorem C02_host_other {α} (hosts : List (Str × α)) (dflt : α) (host : Str) :
    routeHost hosts dflt host = dflt ∨ (host, routeHost hosts dflt host) ∈ hosts := by
  unfold routeHost
  cases h : hosts.find? (·.1 = host) with
  | none => exact Or.inl rfl
  | some x =>
    obtain ⟨hn, t⟩ := x
    right
    have hm := List.mem_of_find?_eq_some h
    have hp := List.find?_some h
    simp only [decide_eq_true_eq] at hp
    subst hp
    exact hm

def tbl (l : List (String × String)) : List Entry :=
  (l.zipIdx.map fun ((m, p), i) => (⟨m.toList, p.toList, i⟩ : Route)).map mkEntry

/-- the F1 table: `GET /*`, `POST /ab/*`; `GET /ab/x` is served by `GET /*` -/
example : route (tbl [("GET", "/*"), ("POST", "/ab/*")]) "GET".toList "/ab/x".toList
    = .dispatch (mkEntry ⟨"GET".toList, "/*".toList, 0⟩) ["ab/x".toList] := by
  simp only [tbl, List.zipIdx_cons, List.zipIdx_nil, List.map_cons, List.map_nil]
  lit_chars
  decide +kernel

example : Matches (mkEntry ⟨"GET".toList, "/*".toList, 0⟩).toks "/ab/x".toList := by
  lit_chars
  simp [mkEntry, norm, normAux, Router.normalizeSlash, Matches]

end C02
