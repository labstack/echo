import EchoModel.C01
import EchoProofs.Tree.Dirty
import EchoProofs.Tree.PvLength
import EchoProofs.Lit
/-!
# C01 — `Router.Find` used directly on a context the application made

`Router.Find` is public.  The context it is handed may have been created with `Echo.NewContext` (possibly before
further routes were registered), its values may have been set (`SetParamValues`), grown (`SetParamNames`), it may have
served earlier lookups and may or may not have been reset.  Model: `C01.CtxOp`, `C01.runCtx`, `C01.findAfter`
(`EchoModel/C01.lean`).  Only the value slice matters for the next lookup, and of the value slice only its LENGTH,
which a lookup never changes.  As long as no context is made while the table is still narrower than the final one
(`CtxOp.keepsSize`), the slice keeps at least `maxParam` slots, no lookup indexes out of range, and the probed lookup
gives exactly what a freshly reset context gives (`C01_ctx_eq_fresh`), so the C01 statement holds for it
(`C01_ctx_sound`).  A context with FEWER slots than `maxParam` (made before the widest route was registered) either
indexes out of range or gives the fresh-context answer (`C01_short_ctx`).
-/
namespace C01
open Router Router.Spec Router.Tree

/-- the operation does not make the context too small for the table `t`: a context may only be made when the routes
    registered so far already need as many value slots as the whole table -/
def CtxOp.keepsSize (t : List Route) : CtxOp → Prop
  | .newCtx k => maxParam t ≤ maxParam (t.take k)
  | _ => True

instance (t : List Route) (op : CtxOp) : Decidable (op.keepsSize t) := by
  cases op <;> unfold CtxOp.keepsSize <;> infer_instance

/-- **a lookup keeps the length of the value slice** -/
theorem C01_findVals_length {t : List Route} {m p : Str} {pv pv' : List Str}
    (h : findVals t m p pv = some pv') : pv'.length = pv.length := by
  unfold findVals at h
  simp only at h
  split at h
  · cases h
  · simp only [Option.some.injEq] at h
    rw [← h]
    exact findNode_pv_length p m (build t) _

theorem setParamValues_length (pv vs : List Str) : pv.length ≤ (setParamValues pv vs).length := by
  unfold setParamValues
  split
  · omega
  · simp only [List.length_append, List.length_drop]; omega

theorem setParamNames_length (pv : List Str) (n : Nat) : pv.length ≤ (setParamNames pv n).length := by
  unfold setParamNames
  simp

theorem resetVals_length (t : List Route) (pv : List Str) :
    pv.length ≤ (resetVals t pv).length ∧ maxParam t ≤ (resetVals t pv).length := by
  unfold resetVals
  simp only [List.length_replicate]
  omega

theorem stepCtx_sized {t : List Route} {pv pv' : List Str} {op : CtxOp} (hpv : maxParam t ≤ pv.length)
    (hop : op.keepsSize t) (h : stepCtx t pv op = some pv') : maxParam t ≤ pv'.length := by
  cases op with
  | newCtx k =>
    simp only [stepCtx, Option.some.injEq] at h
    rw [← h, List.length_replicate]
    exact hop
  | setVals vs =>
    simp only [stepCtx, Option.some.injEq] at h
    rw [← h]
    exact Nat.le_trans hpv (setParamValues_length pv vs)
  | setNames n =>
    simp only [stepCtx, Option.some.injEq] at h
    rw [← h]
    exact Nat.le_trans hpv (setParamNames_length pv n)
  | find m p =>
    simp only [stepCtx] at h
    rw [C01_findVals_length h]
    exact hpv
  | reset =>
    simp only [stepCtx, Option.some.injEq] at h
    rw [← h]
    exact (resetVals_length t pv).2

/-- **the slice stays wide enough**: starting with at least `maxParam t` slots, after any sequence of context
    operations that keep the size the slice has at least `maxParam t` slots -/
theorem C01_ctx_sized (t : List Route) : ∀ (ops : List CtxOp) (pv pv' : List Str), maxParam t ≤ pv.length →
    (∀ op ∈ ops, op.keepsSize t) → runCtx t pv ops = some pv' → maxParam t ≤ pv'.length := by
  intro ops
  induction ops with
  | nil =>
    intro pv pv' hpv _ h
    simp only [runCtx, Option.some.injEq] at h
    rw [← h]; exact hpv
  | cons op ops ih =>
    intro pv pv' hpv hops h
    simp only [runCtx] at h
    cases hs : stepCtx t pv op with
    | none => rw [hs] at h; cases h
    | some pv1 =>
      rw [hs] at h
      exact ih pv1 pv' (stepCtx_sized hpv (hops op List.mem_cons_self) hs)
        (fun o ho => hops o (List.mem_cons_of_mem _ ho)) h

theorem findVals_ne_none {t : List Route} (hok : okTable t = true) (m p : Str) {pv : List Str}
    (hpv : maxParam t ≤ pv.length) : findVals t m p pv ≠ none := by
  unfold findVals
  simp only
  split
  · rename_i hp
    exact absurd (find_of_panicked hp) (tree_no_panic_forward t hok m p pv hpv)
  · intro h; cases h

/-- **no lookup of the sequence indexes out of range** -/
theorem C01_ctx_no_panic (t : List Route) (hok : okTable t = true) : ∀ (ops : List CtxOp) (pv : List Str),
    maxParam t ≤ pv.length → (∀ op ∈ ops, op.keepsSize t) → runCtx t pv ops ≠ none := by
  intro ops
  induction ops with
  | nil => intro pv _ _ h; simp [runCtx] at h
  | cons op ops ih =>
    intro pv hpv hops
    simp only [runCtx]
    cases hs : stepCtx t pv op with
    | none =>
      exfalso
      cases op with
      | find m p => exact findVals_ne_none hok m p hpv hs
      | newCtx k => simp [stepCtx] at hs
      | setVals vs => simp [stepCtx] at hs
      | setNames n => simp [stepCtx] at hs
      | reset => simp [stepCtx] at hs
    | some pv1 =>
      exact ih pv1 (stepCtx_sized hpv (hops op List.mem_cons_self) hs)
        (fun o ho => hops o (List.mem_cons_of_mem _ ho))

/-- on a slice of at least `maxParam` slots the lookup gives the fresh-context answer (content: `find_content_irrelevant`,
    spare slots: `find_replicate_frame`) -/
theorem find_eq_fresh (t : List Route) (hok : okTable t = true) (m p : Str) (pv : List Str)
    (hpv : maxParam t ≤ pv.length) :
    find (build t) m p pv = find (build t) m p (List.replicate (maxParam t) []) := by
  rw [find_content_irrelevant t hok m p pv hpv]
  have hnp := find_table_no_panic_ok t m p (maxParam t) (Nat.le_refl _) hok
  have := find_replicate_frame (build t) m p (maxParam t) hnp (pv.length - maxParam t)
  rw [← this]
  congr 2
  omega

/-- **whatever the application did to the context before (values set, names set, earlier lookups, resets,
    a new context made when the table was already as wide as it is now), the probed lookup gives exactly what a
    freshly reset context gives.** -/
theorem C01_ctx_eq_fresh (t : List Route) (hok : okTable t = true) (ops : List CtxOp)
    (hops : ∀ op ∈ ops, op.keepsSize t) (m p : Str) :
    findAfter t ops m p = find (build t) m p (List.replicate (maxParam t) []) := by
  have hlen : maxParam t ≤ (List.replicate (maxParam t) ([] : Str)).length := by simp
  unfold findAfter
  cases h : runCtx t (List.replicate (maxParam t) []) ops with
  | none => exact absurd h (C01_ctx_no_panic t hok ops _ hlen hops)
  | some pv =>
    simp only
    exact find_eq_fresh t hok m p pv (C01_ctx_sized t ops _ pv hlen hops h)

theorem C01_ctx_probe_no_panic (t : List Route) (hok : okTable t = true) (ops : List CtxOp)
    (hops : ∀ op ∈ ops, op.keepsSize t) (m p : Str) : findAfter t ops m p ≠ .panic := by
  rw [C01_ctx_eq_fresh t hok ops hops m p]
  exact find_table_no_panic_ok t m p (maxParam t) (Nat.le_refl _) hok

/-- **C01 for the router used directly on an application-made context**: whatever the probed lookup
    dispatches to, the observed values are those of the request path (the pattern instantiated with them rebuilds the
    path, one value per marker, no `/` in a parameter followed by text) — or it is the F3 fallback and the values are
    blank.  No value set by the application and no text of an earlier lookup shows up. -/
theorem C01_ctx_sound (t : List Route) (hok : okTable t = true) (ops : List CtxOp)
    (hops : ∀ op ∈ ops, op.keepsSize t) (m p : Str) (rm : RouteMethod) (vals : List Str)
    (h : findAfter t ops m p = .dispatch rm vals) :
    (inst (norm rm.ppath).1 vals = some p ∧ SlashFree (norm rm.ppath).1 vals
        ∧ vals.length = arity (norm rm.ppath).1)
    ∨ ((∃ w, inst (norm rm.ppath).1 w = some p) ∧ vals = rm.pnames.map (fun _ => [])) := by
  rw [C01_ctx_eq_fresh t hok ops hops m p] at h
  exact tree_sound_ok t m p (maxParam t) (Nat.le_refl _) hok rm vals h

/-- **a lookup on a context with fewer value slots than `maxParam` either indexes out of range or gives exactly the
    fresh-context answer** (`pv` arbitrary: any length, any content).  A run that does not panic never touched a slot
    beyond the slice (`find_frame`), so it is the run on the slice padded to `maxParam` slots. -/
theorem C01_short_ctx (t : List Route) (hok : okTable t = true) (m p : Str) (pv : List Str) :
    find (build t) m p pv = .panic
    ∨ find (build t) m p pv = find (build t) m p (List.replicate (maxParam t) []) := by
  by_cases hlen : maxParam t ≤ pv.length
  · exact Or.inr (find_eq_fresh t hok m p pv hlen)
  · by_cases hp : find (build t) m p pv = .panic
    · exact Or.inl hp
    · refine Or.inr ?_
      have hf := find_frame (build t) m p pv (List.replicate (maxParam t - pv.length) []) hp
      rw [← hf]
      exact find_eq_fresh t hok m p _ (by simp only [List.length_append, List.length_replicate]; omega)

/-- without any size discipline: the probed lookup after ANY sequence of context operations either ends in an
    index out of range (the probe or one of the earlier lookups) or gives the fresh-context answer -/
theorem C01_ctx_short_or_fresh (t : List Route) (hok : okTable t = true) (ops : List CtxOp) (m p : Str) :
    findAfter t ops m p = .panic
    ∨ findAfter t ops m p = find (build t) m p (List.replicate (maxParam t) []) := by
  unfold findAfter
  cases runCtx t (List.replicate (maxParam t) []) ops with
  | none => exact Or.inl rfl
  | some pv => exact C01_short_ctx t hok m p pv

private def GET : Str := "GET".toList
private def POST : Str := "POST".toList

/-- a table with a split node, parameters, an in-segment parameter and a wildcard; the routes needing two value
    slots come last -/
def demoCtx : List Route :=
  [⟨GET, "/users".toList, 1⟩, ⟨GET, "/usage".toList, 2⟩, ⟨GET, "/users/:id".toList, 3⟩, ⟨GET, "/*".toList, 6⟩,
   ⟨POST, "/users/:id/files/*".toList, 4⟩, ⟨GET, "/users/:id/files/v:ver".toList, 5⟩]

/-- what an application might do before the probed lookup: a context made when five of the six routes were
    registered (already two slots), values set (more than there are slots: the slice is replaced), a lookup that
    backtracks out of a parameter branch into the wildcard, names set, a second lookup, a reset, a short value list -/
def demoOps : List CtxOp :=
  [.newCtx 5, .setVals ["S1".toList, "S2/x".toList, "S3".toList], .find GET "/users/42/files/x".toList,
   .setNames 5, .find POST "/users/7/files/a/b".toList, .reset, .setVals ["T".toList]]

example : okTable demoCtx = true := by
  unfold demoCtx GET POST; lit_chars; decide +kernel
example : maxParam demoCtx = 2 := by
  unfold demoCtx GET POST; lit_chars; decide +kernel
example : ∀ op ∈ demoOps, op.keepsSize demoCtx := by
  unfold demoCtx demoOps GET POST; lit_chars; decide +kernel
/-- the slice really is dirty and of another length when the probe starts -/
example : runCtx demoCtx (List.replicate (maxParam demoCtx) []) demoOps
    = some ["T".toList, [], [], [], []] := by
  unfold demoCtx demoOps GET POST; lit_chars; decide +kernel
example : runCtx demoCtx (List.replicate (maxParam demoCtx) []) (demoOps.take 5)
    = some ["7".toList, "a/b".toList, "S3".toList, [], []] := by
  unfold demoCtx demoOps GET POST; lit_chars; decide +kernel

example : findAfter demoCtx demoOps GET "/users/42/files/v7".toList
    = find (build demoCtx) GET "/users/42/files/v7".toList (List.replicate (maxParam demoCtx) []) :=
  C01_ctx_eq_fresh demoCtx (by unfold demoCtx GET POST; lit_chars; decide +kernel) demoOps
    (by unfold demoCtx demoOps GET POST; lit_chars; decide +kernel) _ _
example : findAfter demoCtx demoOps GET "/users/42/files/v7".toList
    = .dispatch ⟨"/users/:id/files/v:ver".toList, ["id".toList, "ver".toList], 5⟩ ["42".toList, "7".toList] := by
  unfold demoCtx demoOps GET POST; lit_chars; decide +kernel
example : findAfter demoCtx (demoOps.take 5) GET "/users/42".toList
    = .dispatch ⟨"/users/:id".toList, ["id".toList], 3⟩ ["42".toList] := by
  unfold demoCtx demoOps GET POST; lit_chars; decide +kernel
example : (inst (norm "/users/:id/files/v:ver".toList).1 ["42".toList, "7".toList]
      = some "/users/42/files/v7".toList) := by
  lit_chars; decide +kernel

/-- the size discipline cannot be dropped: a context made when only four routes were registered has one slot; the
    lookup of a two-parameter route on it indexes out of range … -/
example : ¬ (CtxOp.newCtx 4).keepsSize demoCtx := by
  unfold demoCtx GET POST; lit_chars; decide +kernel
example : findAfter demoCtx [.newCtx 4] GET "/users/42/files/v7".toList = .panic := by
  unfold demoCtx GET POST; lit_chars; decide +kernel
/-- … while a lookup that stays within the one slot gives the fresh-context answer (`C01_short_ctx`, both cases) -/
example : findAfter demoCtx [.newCtx 4] GET "/users/42".toList
    = find (build demoCtx) GET "/users/42".toList (List.replicate (maxParam demoCtx) []) := by
  unfold demoCtx GET POST; lit_chars; decide +kernel
example : find (build demoCtx) GET "/users/42/files/v7".toList ["OLD".toList] = .panic := by
  unfold demoCtx GET POST; lit_chars; decide +kernel
example : find (build demoCtx) GET "/users/42".toList ["OLD".toList]
    = .dispatch ⟨"/users/:id".toList, ["id".toList], 3⟩ ["42".toList] := by
  unfold demoCtx GET POST; lit_chars; decide +kernel
/-- an empty slice: static routes still work; a path that only the wildcard route `/*` matches needs a slot and
    indexes out of range -/
example : find (build demoCtx) GET "/usage".toList [] = .dispatch ⟨"/usage".toList, [], 2⟩ [] := by
  unfold demoCtx GET POST; lit_chars; decide +kernel
example : find (build demoCtx) GET "/x".toList [] = .panic := by
  unfold demoCtx GET POST; lit_chars; decide +kernel

end C01
