import EchoModel.C11
import EchoProofs.Lit
/-!
# C11 — theorems about the CORS model

`Glob` is an inductive specification of the pattern language the property names (`*` any run of
characters, `?` exactly one, everything else literal, whole string); `glob_iff` shows the
executable matcher of the model decides it.  All theorems quantify over every allow-list, every
flag combination and every origin (valid in the sense of `ValidOrigin` where the statement is about
what an entry *means*).

The middleware is analysed once, on the complete model: `serveFull` has one equation per outcome of a
request (skipped, no Origin, `AllowOriginFunc` failed, refused, granted), and every statement about it is a
case analysis over these; where only the grant matters, over two: the answer is bare or granted
(`serveFull_bare_or_granted`).  The core model `serve` is the complete one without `AllowOriginFunc`, Skipper and
the other headers (`serve_eq_full`), so its theorems are corollaries.

The later sections put the middleware into its surroundings: several instances on the path of one request
(`serveStack`), the request head it is given (`reqOf`), a response that an earlier middleware has already
touched or started (`serveEntry`), and the set-up script of assignments to the package variable
`DefaultCORSConfig` and constructor calls that builds the instances (`setup`).
-/
namespace C11

/-- the pattern language of the property, as an independent inductive specification: `*` stands for
    any run of characters (also the empty one), `?` for exactly one character, every other
    character for itself, and the whole string must be matched -/
inductive Glob : Str → Str → Prop
  | nil : Glob [] []
  | star (x : Str) {p s t : Str} : s = x ++ t → Glob p t → Glob ('*' :: p) s
  | any (c : Char) {p t : Str} : Glob p t → Glob ('?' :: p) (c :: t)
  | lit (a : Char) {p t : Str} : a ≠ '*' → a ≠ '?' → Glob p t → Glob (a :: p) (a :: t)

theorem anySuffix_iff (f : Str → Bool) : ∀ s : Str,
    anySuffix f s = true ↔ ∃ x t, s = x ++ t ∧ f t = true
  | [] => ⟨fun h => ⟨[], [], rfl, h⟩, fun ⟨_, _, hs, hf⟩ => by
      obtain ⟨-, rfl⟩ := List.append_eq_nil_iff.mp hs.symm; exact hf⟩
  | c :: s => by
    simp only [anySuffix, Bool.or_eq_true, anySuffix_iff f s]
    constructor
    · rintro (h | ⟨x, t, rfl, hf⟩)
      · exact ⟨[], _, rfl, h⟩
      · exact ⟨c :: x, t, rfl, hf⟩
    · rintro ⟨_ | ⟨a, x⟩, t, hs, hf⟩
      · exact .inl (hs ▸ hf)
      · cases hs; exact .inr ⟨x, t, rfl, hf⟩

theorem glob_iff : ∀ (p s : Str), glob p s = true ↔ Glob p s := by
  refine fun p s => ⟨fun h => ?_, fun h => ?_⟩
  · induction p generalizing s with
    | nil => cases s with
      | nil => exact .nil
      | cons _ _ => cases h
    | cons a p ih =>
      unfold glob at h
      split at h
      · next ha =>
        subst ha
        obtain ⟨x, t, hs, hf⟩ := (anySuffix_iff _ _).mp h
        exact .star x hs (ih _ hf)
      · next ha =>
        cases s with
        | nil => cases h
        | cons c t =>
          simp only [Bool.and_eq_true, Bool.or_eq_true, decide_eq_true_eq] at h
          by_cases hq : a = '?'
          · subst hq; exact .any c (ih _ h.2)
          · obtain rfl := h.1.resolve_left hq
            exact .lit a ha hq (ih _ h.2)
  · induction h with
    | nil => rfl
    | star x hs _ ih => unfold glob; rw [if_pos rfl, anySuffix_iff]; exact ⟨x, _, hs, ih⟩
    | any c _ ih => simp [glob, ih]
    | lit a h1 _ _ ih => simp [glob, h1, ih]

/-- a common prefix, whatever wildcard characters it contains, can be put in front of both sides -/
theorem Glob.prepend : ∀ (a : Str) {p t : Str}, Glob p t → Glob (a ++ p) (a ++ t)
  | [], _, _, h => h
  | c :: a, p, t, h => by
    have ih := Glob.prepend a h
    by_cases hs : c = '*'
    · subst hs; exact Glob.star ['*'] rfl ih
    · by_cases hq : c = '?'
      · subst hq; exact Glob.any '?' ih
      · exact Glob.lit c hs hq ih

theorem Glob.refl (a : Str) : Glob a a := by
  simpa using Glob.prepend a Glob.nil

/-! ## strings.Index -/

theorem indexChar_append (ch : Char) : ∀ (s r : Str), ch ∉ s → indexChar ch (s ++ ch :: r) = some s.length
  | [], r, _ => by simp [indexChar]
  | c :: s, r, h => by
    simp only [List.mem_cons, not_or] at h
    have hc : ¬ c = ch := fun e => h.1 e.symm
    simp [indexChar, hc, indexChar_append ch s r h.2]

theorem indexChar_some (ch : Char) (s : Str) (k : Nat) (h : indexChar ch s = some k) :
    s = s.take k ++ ch :: s.drop (k + 1) ∧ ch ∉ s.take k := by
  fun_induction indexChar ch s generalizing k with
  | case1 => cases h
  | case2 t => cases h; simp
  | case3 c t hc ih =>
    obtain ⟨j, hj, rfl⟩ := Option.map_eq_some_iff.mp h
    obtain ⟨h1, h2⟩ := ih j hj
    exact ⟨congrArg (c :: ·) h1, by simpa [Ne.symm hc] using h2⟩

theorem indexChar_colon (s r : Str) (hs : ':' ∉ s) : indexChar ':' (s ++ sep ++ r) = some s.length := by
  rw [List.append_assoc]; exact indexChar_append ':' s _ hs

theorem indexOf_sep_append : ∀ (s r : Str), ':' ∉ s → indexOf sep (s ++ sep ++ r) = some s.length
  | [], r, _ => by simp [indexOf, sep, List.isPrefixOf]
  | c :: s, r, h => by
    simp only [List.mem_cons, not_or] at h
    have hp : sep.isPrefixOf (c :: (s ++ sep ++ r)) = false := by
      simp [sep, List.isPrefixOf, h.1]
    simp only [List.cons_append, indexOf, hp, Bool.false_eq_true, if_false, indexOf_sep_append s r h.2]
    rfl

theorem drop_sep (s x : Str) : (s ++ sep ++ x).drop (s.length + 3) = x :=
  List.drop_left' (l₁ := s ++ sep) (by simp [sep])

/-! ## strings.Split -/

/-- `"." + l₁ + "." + l₂ + …` -/
def joinTail (ls : List Str) : Str := (ls.map ('.' :: ·)).flatten

theorem joinTail_append (a b : List Str) : joinTail (a ++ b) = joinTail a ++ joinTail b := by
  simp [joinTail]

/-- joining the fields of `strings.Split(s, ".")` with dots gives `s` back -/
theorem split1_join : ∀ s : Str, (split1 '.' s).1 ++ joinTail (split1 '.' s).2 = s
  | [] => rfl
  | c :: r => by
    unfold split1
    by_cases hc : c = '.'
    · rw [if_pos hc, hc]; exact congrArg ('.' :: ·) (split1_join r)
    · rw [if_neg hc]; exact congrArg (c :: ·) (split1_join r)

/-! ## the label loop -/

/-- the (repaired) loop accepts only when the reversed pattern labels are some labels `L`
    followed by a final `*`, and the reversed domain labels are `L` followed by at least one more -/
theorem labelLoop_true (ds ps : List Str) (h : labelLoop ds ps = true) :
    ∃ L D, ps = L ++ [star] ∧ ds = L ++ D ∧ D ≠ [] := by
  fun_induction labelLoop ds ps with
  | case1 => cases h
  | case2 => cases h
  | case3 v ds ps =>
    obtain rfl : ps = [] := by simpa using h
    exact ⟨[], v :: ds, rfl, rfl, nofun⟩
  | case4 => cases h
  | case5 v ds p ps _ hv ih =>
    obtain ⟨L, D, rfl, rfl, h3⟩ := ih h
    exact ⟨p :: L, D, rfl, Decidable.of_not_not hv ▸ rfl, h3⟩

/-- on the labels of two authorities: the entry's authority is `*` followed by the dot-labels that end the
    origin's authority, which has at least one more label in front — so the entry's authority matches as a pattern -/
theorem labelLoop_glob (hh pr : Str)
    (h : labelLoop (splitOn '.' hh).reverse (splitOn '.' pr).reverse = true) : Glob pr hh := by
  obtain ⟨L, D, h1, h2, h3⟩ := labelLoop_true _ _ h
  have e1 : splitOn '.' pr = star :: L.reverse := by simpa using congrArg List.reverse h1
  have e2 : splitOn '.' hh = D.reverse ++ L.reverse := by simpa using congrArg List.reverse h2
  cases hDr : D.reverse with
  | nil => exact absurd (by simpa using hDr) h3
  | cons d0 D' =>
    rw [hDr] at e2
    simp only [splitOn, List.cons_append, List.cons.injEq] at e1 e2
    have jp := split1_join pr
    have jh := split1_join hh
    rw [e1.1, e1.2] at jp
    rw [e2.1, e2.2, joinTail_append] at jh
    rw [← jp, ← jh]
    exact Glob.star (d0 ++ joinTail D') (by simp) (Glob.refl _)

/-! ## matchSubdomain implies the glob reading of the entry -/

/-- a syntactically valid origin: printable ASCII, `scheme "://" host[:port]`, a single `://`
    (no `:` or `/` in the scheme, no `/` after the separator).  The proofs below use only the
    decomposition with a non-empty scheme and `':' ∉ scheme`; printability is what makes `glob` exact for Go's regexp. -/
structure ValidOrigin (o : Str) : Prop where
  printable : ∀ c ∈ o, 0x20 < c.toNat ∧ c.toNat < 0x7f
  shape : ∃ s h, o = s ++ sep ++ h ∧ s ≠ [] ∧ h ≠ [] ∧ ':' ∉ s ∧ '/' ∉ s ∧ '/' ∉ h

theorem ValidOrigin.ne_nil {o : Str} (hv : ValidOrigin o) : o ≠ [] := by
  obtain ⟨s, h, rfl, hs, -⟩ := hv.shape
  simp [hs]

/-- an allow-list entry is origin-shaped: its first colon, if it has one, is the colon of `://` -/
def PatScheme (p : Str) : Prop := ∀ a b, p = a ++ ':' :: b → ':' ∉ a → ∃ r, b = '/' :: '/' :: r

theorem matchScheme_shape (s hh p : Str) (hs : ':' ∉ s) (hp : PatScheme p)
    (h : matchScheme (s ++ sep ++ hh) p = true) : ∃ r, p = s ++ sep ++ r := by
  unfold matchScheme at h
  rw [indexChar_colon s hh hs] at h
  cases hpi : indexChar ':' p with
  | none => rw [hpi] at h; cases h
  | some pi =>
    rw [hpi] at h
    simp only [beq_iff_eq, List.append_assoc, List.take_left] at h
    obtain ⟨hdec, hnc⟩ := indexChar_some ':' p pi hpi
    rw [← h] at hdec hnc
    obtain ⟨r, hb⟩ := hp s _ hdec hnc
    rw [hb] at hdec
    exact ⟨r, hdec.trans (by simp [sep])⟩

/-- **C11_matchSubdomain_glob** — whenever (the repaired) `matchSubdomain` accepts a valid origin
    for an origin-shaped entry, the entry read as a `*`/`?` pattern over the WHOLE origin matches
    it.  (False before the F9 repair: see `F9_witness`.) -/
theorem C11_matchSubdomain_glob (o p : Str) (hv : ValidOrigin o) (hp : PatScheme p)
    (h : matchSubdomain o p = true) : Glob p o := by
  obtain ⟨s, hh, rfl, _, _, hs, _, _⟩ := hv.shape
  unfold matchSubdomain at h
  by_cases hms : matchScheme (s ++ sep ++ hh) p = true
  · obtain ⟨pr, rfl⟩ := matchScheme_shape s hh p hs hp hms
    rw [hms, indexOf_sep_append s hh hs, indexOf_sep_append s pr hs] at h
    simp only [drop_sep] at h
    by_cases hlen : hh.length > 253
    · rw [if_neg (by simp), if_pos hlen] at h
      cases h
    · rw [if_neg (by simp), if_neg hlen] at h
      simpa using Glob.prepend (s ++ sep) (labelLoop_glob hh pr h)
  · rw [if_pos (by simpa using hms)] at h
    cases h

/-! ## the middleware -/

/-- the configuration allows the origin: the `*` entry, literal equality, or an entry that matches
    the whole origin as a `*`/`?` pattern -/
def Allowed (allow : List Str) (o : Str) : Prop :=
  star ∈ allow ∨ o ∈ allow ∨ ∃ p ∈ allow, Glob p o

/-- `Allowed` in terms of the executable matcher (so that a closed instance can be evaluated) -/
theorem Allowed_iff (allow : List Str) (o : Str) :
    Allowed allow o ↔ star ∈ allow ∨ o ∈ allow ∨ allow.any (fun p => glob p o) = true := by
  simp only [Allowed, List.any_eq_true, glob_iff]

/-- the allow loop stops at an entry: `*` (value `*`, or the origin under the unsafe flag), the origin itself,
    or an entry `matchSubdomain` accepts -/
theorem allowLoop_sound (cfg : Cfg) (o : Str) (os : List Str) (hne : allowLoop cfg o os ≠ []) :
    ∃ e ∈ os, (e = star ∧ (allowLoop cfg o os = star ∨ allowLoop cfg o os = o)) ∨
      ((e = o ∨ matchSubdomain o e = true) ∧ allowLoop cfg o os = o) := by
  fun_induction allowLoop cfg o os with
  | case1 => exact absurd rfl hne
  | case2 e rest h1 => exact ⟨e, List.mem_cons_self, .inl ⟨h1.1, .inr rfl⟩⟩
  | case3 e rest _ h2 =>
    refine ⟨e, List.mem_cons_self, ?_⟩
    rcases h2 with rfl | rfl
    · exact .inl ⟨rfl, .inl rfl⟩
    · exact .inr ⟨.inl rfl, rfl⟩
  | case4 e rest _ _ h3 => exact ⟨e, List.mem_cons_self, .inr ⟨.inr h3, rfl⟩⟩
  | case5 e rest _ _ _ ih =>
    obtain ⟨e', he', hh⟩ := ih hne
    exact ⟨e', List.mem_cons_of_mem _ he', hh⟩

theorem allowLoop_complete (cfg : Cfg) (o : Str) (ho : o ≠ []) (os : List Str)
    (h : star ∈ os ∨ o ∈ os) : allowLoop cfg o os ≠ [] := by
  fun_induction allowLoop cfg o os with
  | case1 => simp at h
  | case2 => exact ho
  | case3 e rest _ h2 =>
    rcases h2 with rfl | rfl
    · exact List.cons_ne_nil _ _
    · exact ho
  | case4 => exact ho
  | case5 e rest _ h2 _ ih =>
    have h2 := not_or.mp h2
    exact ih (h.imp (fun m => (List.mem_cons.mp m).resolve_left (Ne.symm h2.1))
      fun m => (List.mem_cons.mp m).resolve_left (Ne.symm h2.2))

theorem allowOrigin_cases (cfg : Cfg) (o : Str) (h : allowOrigin cfg o ≠ []) :
    ∃ e ∈ effOrigins cfg, (e = star ∧ (allowOrigin cfg o = star ∨ allowOrigin cfg o = o)) ∨
      ((e = o ∨ matchSubdomain o e = true ∨ glob e o = true) ∧ allowOrigin cfg o = o) := by
  generalize ha : allowOrigin cfg o = a at h ⊢
  unfold allowOrigin at ha
  by_cases hl : allowLoop cfg o (effOrigins cfg) ≠ []
  · rw [if_pos hl] at ha
    obtain ⟨e, he, hh⟩ := allowLoop_sound cfg o _ hl
    rw [ha] at hh
    exact ⟨e, he, hh.imp_right (.imp_left (.imp_right .inl))⟩
  · rw [if_neg hl] at ha
    by_cases hg : o.length ≤ 253 + 3 + 5 ∧ (indexOf sep o).isSome = true
    · rw [if_pos hg] at ha
      by_cases hany : (patterns cfg).any (fun p => glob p o) = true
      · rw [if_pos hany] at ha
        obtain ⟨p, hpm, hgl⟩ := List.any_eq_true.mp hany
        exact ⟨p, (List.mem_filter.mp hpm).1, .inr ⟨.inr (.inr hgl), ha.symm⟩⟩
      · rw [if_neg hany] at ha
        exact absurd ha.symm h
    · rw [if_neg hg] at ha
      exact absurd ha.symm h

theorem allowOrigin_value (cfg : Cfg) (o : Str) (h : allowOrigin cfg o ≠ []) :
    allowOrigin cfg o = star ∨ allowOrigin cfg o = o := by
  obtain ⟨_, _, ⟨_, h⟩ | ⟨_, h⟩⟩ := allowOrigin_cases cfg o h
  · exact h
  · exact .inr h

theorem allowOrigin_sound (cfg : Cfg) (o : Str) (hv : ValidOrigin o)
    (hp : ∀ p ∈ effOrigins cfg, PatScheme p) (h : allowOrigin cfg o ≠ []) :
    ((allowOrigin cfg o = star ∧ star ∈ effOrigins cfg) ∨ allowOrigin cfg o = o) ∧
    Allowed (effOrigins cfg) o := by
  obtain ⟨e, he, ⟨rfl, ha⟩ | ⟨hm, ha⟩⟩ := allowOrigin_cases cfg o h
  · exact ⟨ha.imp_left (⟨·, he⟩), .inl he⟩
  · refine ⟨.inr ha, .inr ?_⟩
    rcases hm with rfl | hm | hm
    · exact .inl he
    · exact .inr ⟨e, he, C11_matchSubdomain_glob o e hv (hp e he) hm⟩
    · exact .inr ⟨e, he, (glob_iff e o).mp hm⟩

theorem allowOrigin_complete (cfg : Cfg) (o : Str) (ho : o ≠ [])
    (hlen : o.length ≤ 261) (hsep : (indexOf sep o).isSome = true)
    (hc : ∀ p ∈ effOrigins cfg, compiles p = true)
    (ha : Allowed (effOrigins cfg) o) : allowOrigin cfg o ≠ [] := by
  unfold allowOrigin
  by_cases hl : allowLoop cfg o (effOrigins cfg) ≠ []
  · rwa [if_pos hl]
  · rw [if_neg hl, if_pos ⟨hlen, hsep⟩]
    have hloop := mt (allowLoop_complete cfg o ho (effOrigins cfg)) hl
    rcases ha with h | h | ⟨p, hpm, hg⟩
    · exact absurd (.inl h) hloop
    · exact absurd (.inr h) hloop
    · have hps : p ≠ star := fun e => hloop (.inl (e ▸ hpm))
      have hany : (patterns cfg).any (fun p => glob p o) = true :=
        List.any_eq_true.mpr ⟨p, List.mem_filter.mpr ⟨hpm, by simp [hps, hc p hpm]⟩, (glob_iff p o).mpr hg⟩
      rw [if_pos hany]
      exact ho

/-- the origin the middleware looks at: first value of the Origin header, `[]` when absent -/
def Req.origin (r : Req) : Str := r.origins.headD []

def FReq.origin (fr : FReq) : Str := fr.core.origin

/-! ## the complete middleware (`serveFull`), outcome by outcome -/

theorem decideOrigin_none {fc : Full} (hf : fc.func = none) (o : Str) :
    decideOrigin fc o = .ok (allowOrigin fc.core o) := by
  simp only [decideOrigin, hf]

theorem decideOrigin_func {fc : Full} {f : Str → FRes} (hf : fc.func = some f) (o : Str) :
    decideOrigin fc o = match f o with
      | .err st => .error st
      | .allow => .ok o
      | .deny => .ok [] := by
  simp only [decideOrigin, hf]
  rfl

/-- the `Allow` response header: the router's value, read on OPTIONS only (`routerAllowMethods`) -/
def allowHdrOf (fr : FReq) : Option Str :=
  if (if fr.core.preflight then fr.routerAllow else []) = [] then none
  else some (if fr.core.preflight then fr.routerAllow else [])

/-- the model reads the Origin with `headD`; the statements name it `fr.origin` -/
theorem headD_origin (fr : FReq) : fr.core.origins.headD [] = fr.origin := rfl

/-- **C11_skip** — a request the configured Skipper takes out of the middleware reaches the handler
    and the middleware adds nothing to the response (no ACAO / ACAC / Vary / Allow / preflight headers). -/
theorem C11_skip (fc : Full) (fr : FReq) (hs : fr.skip = true) :
    serveFull fc fr = noHeaders ⟨200, true, none, false, []⟩ none := by
  simp only [serveFull, hs, if_true]

section
variable {fc : Full} {fr : FReq}

theorem serveFull_noOrigin (hs : fr.skip = false) (h0 : fr.origin = []) :
    serveFull fc fr = noHeaders ⟨if fr.core.preflight then 204 else 200, !fr.core.preflight, none, false,
      [varyOrigin]⟩ (allowHdrOf fr) := by
  simp only [serveFull, headD_origin, hs, h0, allowHdrOf, if_true]
  cases fr.core.preflight <;> rfl

theorem serveFull_failed {st : Nat} (hs : fr.skip = false) (h0 : fr.origin ≠ [])
    (hd : decideOrigin fc fr.origin = .error st) :
    serveFull fc fr = noHeaders ⟨st, false, none, false, [varyOrigin]⟩ (allowHdrOf fr) := by
  simp only [serveFull, headD_origin, hs, h0, hd, allowHdrOf, if_false]
  rfl

theorem serveFull_refused (hs : fr.skip = false) (h0 : fr.origin ≠ [])
    (hd : decideOrigin fc fr.origin = .ok []) :
    serveFull fc fr = noHeaders ⟨if fr.core.preflight then 204 else 401, false, none, false, [varyOrigin]⟩
      (allowHdrOf fr) := by
  simp only [serveFull, headD_origin, hs, h0, hd, allowHdrOf, if_false, if_true]
  cases fr.core.preflight <;> rfl

theorem serveFull_granted {a : Str} (hs : fr.skip = false) (h0 : fr.origin ≠ [])
    (hd : decideOrigin fc fr.origin = .ok a) (ha : a ≠ []) (hp : fr.core.preflight = false) :
    serveFull fc fr = ⟨⟨200, true, some a, fc.core.creds, [varyOrigin]⟩, none, none, none,
      (if joinComma fc.expose = [] then none else some (joinComma fc.expose)), none⟩ := by
  simp only [serveFull, headD_origin, hs, h0, hd, ha, hp, if_false]
  rfl

theorem serveFull_granted_preflight {a : Str} (hs : fr.skip = false) (h0 : fr.origin ≠ [])
    (hd : decideOrigin fc fr.origin = .ok a) (ha : a ≠ []) (hp : fr.core.preflight = true) :
    serveFull fc fr = ⟨⟨204, false, some a, fc.core.creds, varyOrigin :: varyPreflight⟩,
      (if fr.routerAllow = [] then none else some fr.routerAllow),
      some (if fc.methods = [] ∧ fr.routerAllow ≠ [] then fr.routerAllow
        else joinComma (if fc.methods = [] then fc.dfltMethods else fc.methods)),
      (if joinComma fc.headers ≠ [] then some (joinComma fc.headers)
        else if fr.reqHeaders ≠ [] then some fr.reqHeaders else none),
      none, (if fc.maxAge = 0 then none else some (maxAgeStr fc.maxAge))⟩ := by
  simp only [serveFull, headD_origin, hs, h0, hd, ha, hp, if_false, if_true]
  rfl
end

theorem decideOrigin_error {fc : Full} {o : Str} {st : Nat} (h : decideOrigin fc o = .error st) :
    ∃ f, fc.func = some f ∧ f o = .err st := by
  cases hf : fc.func with
  | none => rw [decideOrigin_none hf] at h; cases h
  | some f =>
    rw [decideOrigin_func hf] at h
    refine ⟨f, rfl, ?_⟩
    cases hfo : f o with
    | err st' => rw [hfo] at h; cases h; rfl
    | allow => rw [hfo] at h; cases h
    | deny => rw [hfo] at h; cases h

/-- the outcomes of the origin decision, one equation of `serveFull` each -/
theorem decision_cases (fc : Full) (o : Str) :
    o = [] ∨ o ≠ [] ∧ ((∃ st, decideOrigin fc o = .error st) ∨ decideOrigin fc o = .ok [] ∨
      ∃ a, a ≠ [] ∧ decideOrigin fc o = .ok a) := by
  by_cases h0 : o = []
  · exact .inl h0
  · refine .inr ⟨h0, ?_⟩
    cases decideOrigin fc o with
    | error st => exact .inl ⟨st, rfl⟩
    | ok a =>
      by_cases ha : a = []
      · exact .inr (.inl (ha ▸ rfl))
      · exact .inr (.inr ⟨a, ha, rfl⟩)

/-- an answer is bare (`noHeaders`, and neither ACAO nor credentials in its core), or the decision granted the
    Origin of an unskipped request and `serveFull_granted` / `serveFull_granted_preflight` describe it -/
theorem serveFull_bare_or_granted (fc : Full) (fr : FReq) :
    (∃ o al, serveFull fc fr = noHeaders o al ∧ o.acao = none ∧ o.acac = false) ∨
    (fr.skip = false ∧ fr.origin ≠ [] ∧ ∃ a, decideOrigin fc fr.origin = .ok a ∧ a ≠ []) := by
  cases hs : fr.skip
  · rcases decision_cases fc fr.origin with h0 | ⟨h0, ⟨st, hd⟩ | hd | ⟨a, ha, hd⟩⟩
    · exact .inl ⟨_, _, serveFull_noOrigin hs h0, rfl, rfl⟩
    · exact .inl ⟨_, _, serveFull_failed hs h0 hd, rfl, rfl⟩
    · exact .inl ⟨_, _, serveFull_refused hs h0 hd, rfl, rfl⟩
    · exact .inr ⟨rfl, h0, a, hd, ha⟩
  · exact .inl ⟨_, _, C11_skip fc fr hs, rfl, rfl⟩

theorem serveFull_acao (fc : Full) (fr : FReq) (v : Str) :
    (serveFull fc fr).core.acao = some v ↔
      fr.skip = false ∧ fr.origin ≠ [] ∧ decideOrigin fc fr.origin = .ok v ∧ v ≠ [] := by
  refine ⟨fun h => ?_, fun ⟨hs, h0, hd, ha⟩ => ?_⟩
  · rcases serveFull_bare_or_granted fc fr with ⟨o, al, he, ho, -⟩ | ⟨hs, h0, a, hd, ha⟩
    · rw [he] at h
      cases ho.symm.trans h
    · have : some a = some v := by
        cases hp : fr.core.preflight
        · rwa [serveFull_granted hs h0 hd ha hp] at h
        · rwa [serveFull_granted_preflight hs h0 hd ha hp] at h
      cases this
      exact ⟨hs, h0, hd, ha⟩
  · cases hp : fr.core.preflight
    · rw [serveFull_granted hs h0 hd ha hp]
    · rw [serveFull_granted_preflight hs h0 hd ha hp]

/-- **serveFull_core** — with `AllowOriginFunc` unset and a Skipper that does not skip, the complete
    middleware answers exactly as the core model on status / handler / ACAO / ACAC / Vary; hence
    `C11_acao_sound`, `C11_acao_complete`, `C11_disallowed_blocked`, … speak about it. -/
theorem serveFull_core (fc : Full) (fr : FReq) (hf : fc.func = none) (hs : fr.skip = false) :
    (serveFull fc fr).core = serve fc.core fr.core := by
  have hd := decideOrigin_none hf fr.origin
  have hor : fr.core.origins.headD [] = fr.origin := rfl
  unfold serve
  simp only [hor]
  by_cases h0 : fr.origin = []
  · rw [serveFull_noOrigin hs h0, if_pos h0]
    cases fr.core.preflight <;> rfl
  · rw [if_neg h0]
    by_cases ha : allowOrigin fc.core fr.origin = []
    · rw [serveFull_refused hs h0 (ha ▸ hd), if_pos ha]
      cases fr.core.preflight <;> rfl
    · rw [if_neg ha]
      cases hp : fr.core.preflight
      · rw [serveFull_granted hs h0 hd ha hp]; rfl
      · rw [serveFull_granted_preflight hs h0 hd ha hp]; rfl

/-- **C11_full_acao_sound** — the complete middleware (any Skipper answer, `AllowOriginFunc` unset):
    Access-Control-Allow-Origin only for an allowed origin, value `*` or the Origin verbatim. -/
theorem C11_full_acao_sound (fc : Full) (fr : FReq) (v : Str) (hf : fc.func = none)
    (hv : ValidOrigin fr.origin) (hp : ∀ p ∈ effOrigins fc.core, PatScheme p)
    (h : (serveFull fc fr).core.acao = some v) :
    ((v = star ∧ star ∈ effOrigins fc.core) ∨ v = fr.origin) ∧ Allowed (effOrigins fc.core) fr.origin := by
  obtain ⟨_, _, hd, hne⟩ := (serveFull_acao fc fr v).mp h
  rw [decideOrigin_none hf] at hd
  cases hd
  exact allowOrigin_sound fc.core fr.origin hv hp hne

/-- **C11_func_sound** — with `AllowOriginFunc` set the allow-list is ignored: ACAO is emitted only
    when the function, asked about the request's Origin verbatim, allowed it, and its value is
    that Origin verbatim (never `*`). -/
theorem C11_func_sound (fc : Full) (fr : FReq) (f : Str → FRes) (v : Str) (hf : fc.func = some f)
    (h : (serveFull fc fr).core.acao = some v) :
    v = fr.origin ∧ f fr.origin = .allow ∧ fr.skip = false := by
  obtain ⟨hs, _, hd, hne⟩ := (serveFull_acao fc fr v).mp h
  rw [decideOrigin_func hf] at hd
  cases hfo : f fr.origin with
  | err st => rw [hfo] at hd; cases hd
  | allow => rw [hfo] at hd; cases hd; exact ⟨rfl, rfl, hs⟩
  | deny => rw [hfo] at hd; cases hd; exact absurd rfl hne

/-- **C11_func_blocks** — when the function does not allow the Origin, nothing is granted and the
    handler does not run; its error is what the middleware returns (also on a preflight). -/
theorem C11_func_blocks (fc : Full) (fr : FReq) (f : Str → FRes) (hf : fc.func = some f)
    (hs : fr.skip = false) (ho : fr.origin ≠ []) (hna : f fr.origin ≠ .allow) :
    (serveFull fc fr).core.acao = none ∧ (serveFull fc fr).core.acac = false ∧
    (serveFull fc fr).core.ran = false ∧
    (∀ st, f fr.origin = .err st → (serveFull fc fr).core.status = st) ∧
    (f fr.origin = .deny → (serveFull fc fr).core.status = if fr.core.preflight then 204 else 401) := by
  have hd := decideOrigin_func hf fr.origin
  cases hfo : f fr.origin with
  | allow => exact absurd hfo hna
  | err st =>
    rw [hfo] at hd
    rw [serveFull_failed hs ho hd]
    exact ⟨rfl, rfl, rfl, fun _ h => by cases h; rfl, nofun⟩
  | deny =>
    rw [hfo] at hd
    rw [serveFull_refused hs ho hd]
    exact ⟨rfl, rfl, rfl, nofun, fun _ => rfl⟩

/-- **C11_full_credentials** — Access-Control-Allow-Credentials only when enabled, only together
    with ACAO, never on a skipped request — whichever way the origin was decided. -/
theorem C11_full_credentials (fc : Full) (fr : FReq) (h : (serveFull fc fr).core.acac = true) :
    fc.core.creds = true ∧ (serveFull fc fr).core.acao ≠ none ∧ fr.skip = false := by
  rcases serveFull_bare_or_granted fc fr with ⟨o, al, he, -, hc⟩ | ⟨hs, h0, a, hd, ha⟩
  · rw [he] at h
    cases hc.symm.trans h
  · cases hp : fr.core.preflight
    · rw [serveFull_granted hs h0 hd ha hp] at h ⊢; exact ⟨h, nofun, hs⟩
    · rw [serveFull_granted_preflight hs h0 hd ha hp] at h ⊢; exact ⟨h, nofun, hs⟩

/-- **C11_full_preflight** — an OPTIONS request that is not skipped never runs the handler and is
    answered 204, the one exception being an error returned by `AllowOriginFunc`. -/
theorem C11_full_preflight (fc : Full) (fr : FReq) (hs : fr.skip = false) (hp : fr.core.preflight = true) :
    (serveFull fc fr).core.ran = false ∧
    ((serveFull fc fr).core.status = 204 ∨
     ∃ f st, fc.func = some f ∧ f fr.origin = .err st ∧ (serveFull fc fr).core.status = st) := by
  rcases decision_cases fc fr.origin with h0 | ⟨h0, ⟨st, hd⟩ | hd | ⟨a, ha, hd⟩⟩
  · rw [serveFull_noOrigin hs h0, hp]; exact ⟨rfl, .inl rfl⟩
  · rw [serveFull_failed hs h0 hd]
    obtain ⟨f, hf, hfo⟩ := decideOrigin_error hd
    exact ⟨rfl, .inr ⟨f, st, hf, hfo, rfl⟩⟩
  · rw [serveFull_refused hs h0 hd, hp]; exact ⟨rfl, .inl rfl⟩
  · rw [serveFull_granted_preflight hs h0 hd ha hp]; exact ⟨rfl, .inl rfl⟩

theorem serveFull_ran (fc : Full) (fr : FReq) (h : (serveFull fc fr).core.ran = true) :
    (serveFull fc fr).core.status = 200 ∧
    (fr.skip = true ∨
      (fr.core.preflight = false ∧ (fr.origin = [] ∨ (serveFull fc fr).core.acao ≠ none))) := by
  cases hs : fr.skip
  · rcases decision_cases fc fr.origin with h0 | ⟨h0, ⟨st, hd⟩ | hd | ⟨a, ha, hd⟩⟩
    · rw [serveFull_noOrigin hs h0] at h ⊢
      have hp : fr.core.preflight = false := by simpa [noHeaders] using h
      exact ⟨if_neg (by simp [hp]), .inr ⟨hp, .inl h0⟩⟩
    · rw [serveFull_failed hs h0 hd] at h; cases h
    · rw [serveFull_refused hs h0 hd] at h; cases h
    · cases hp : fr.core.preflight
      · rw [serveFull_granted hs h0 hd ha hp]; exact ⟨rfl, .inr ⟨rfl, .inr nofun⟩⟩
      · rw [serveFull_granted_preflight hs h0 hd ha hp] at h; cases h
  · rw [C11_skip fc fr hs]; exact ⟨rfl, .inl rfl⟩

/-- **C11_full_ran** — the handler runs only for a skipped request, a request without Origin, or
    a non-preflight request that was granted ACAO. -/
theorem C11_full_ran (fc : Full) (fr : FReq) (h : (serveFull fc fr).core.ran = true) :
    fr.skip = true ∨
    (fr.core.preflight = false ∧ (fr.origin = [] ∨ (serveFull fc fr).core.acao ≠ none)) :=
  (serveFull_ran fc fr h).2

theorem maxAgeStr_neg (n : Int) (h : n < 0) : maxAgeStr n = ['0'] :=
  if_neg (by omega)

/-- **C11_grant_headers** — the other CORS response headers never leak to an origin that was not
    granted: Allow-Methods / Allow-Headers / Max-Age appear only on a granted preflight,
    Expose-Headers only on a granted simple request, Max-Age only when configured, and a negative
    `MaxAge` is sent as `0`. -/
theorem C11_grant_headers (fc : Full) (fr : FReq) :
    (((serveFull fc fr).acam ≠ none ∨ (serveFull fc fr).acah ≠ none ∨ (serveFull fc fr).maxAge ≠ none) →
      (serveFull fc fr).core.acao ≠ none ∧ fr.core.preflight = true) ∧
    ((serveFull fc fr).aceh ≠ none → (serveFull fc fr).core.acao ≠ none ∧ fr.core.preflight = false) ∧
    (∀ v, (serveFull fc fr).maxAge = some v → fc.maxAge ≠ 0 ∧ (fc.maxAge < 0 → v = ['0'])) := by
  rcases serveFull_bare_or_granted fc fr with ⟨o, al, he, -, -⟩ | ⟨hs, h0, a, hd, ha⟩
  · rw [he]; simp [noHeaders]
  · cases hp : fr.core.preflight
    · rw [serveFull_granted hs h0 hd ha hp]
      exact ⟨fun h => by simp at h, fun _ => ⟨nofun, rfl⟩, nofun⟩
    · rw [serveFull_granted_preflight hs h0 hd ha hp]
      refine ⟨fun _ => ⟨nofun, rfl⟩, fun h => absurd rfl h, fun v hv => ?_⟩
      by_cases hm : fc.maxAge = 0
      · simp [hm] at hv
      · simp only [hm, if_false, Option.some.injEq] at hv
        exact ⟨hm, fun hneg => hv ▸ maxAgeStr_neg _ hneg⟩

/-- **C11_allow_methods** — on a granted preflight Access-Control-Allow-Methods is the router's
    Allow value exactly when `AllowMethods` was left empty and the router provided one; otherwise
    the configured list (when empty: `DefaultCORSConfig.AllowMethods` as it was when the constructor ran), joined
    with commas. -/
theorem C11_allow_methods (fc : Full) (fr : FReq) (hs : fr.skip = false) (hp : fr.core.preflight = true)
    (hg : (serveFull fc fr).core.acao ≠ none) :
    (serveFull fc fr).acam = some (if fc.methods = [] ∧ fr.routerAllow ≠ [] then fr.routerAllow
      else joinComma (if fc.methods = [] then fc.dfltMethods else fc.methods)) ∧
    (serveFull fc fr).allow = (if fr.routerAllow = [] then none else some fr.routerAllow) := by
  obtain ⟨a, hg⟩ := Option.ne_none_iff_exists'.mp hg
  obtain ⟨_, h0, hd, ha⟩ := (serveFull_acao fc fr a).mp hg
  rw [serveFull_granted_preflight hs h0 hd ha hp]
  exact ⟨rfl, rfl⟩

/-- **C11_ctor_default** — `CORS()` (= `CORSWithConfig(DefaultCORSConfig)`): every origin is answered
    `Access-Control-Allow-Origin: *`, credentials are never allowed, and because the default
    AllowMethods are set the preflight lists them whatever the router knows about the path. -/
theorem C11_ctor_default (fr : FReq) (hs : fr.skip = false) (ho : fr.origin ≠ []) :
    (serveFull defaultFull fr).core.acao = some star ∧ (serveFull defaultFull fr).core.acac = false ∧
    (fr.core.preflight = true →
      (serveFull defaultFull fr).acam = some "GET,HEAD,PUT,PATCH,POST,DELETE".toList) ∧
    (serveFull defaultFull fr).maxAge = none ∧ (serveFull defaultFull fr).aceh = none := by
  have hd : decideOrigin defaultFull fr.origin = .ok star := by
    simp [decideOrigin, defaultFull, allowOrigin, effOrigins, allowLoop, star]
  have hstar : star ≠ [] := List.cons_ne_nil _ _
  cases hp : fr.core.preflight
  · rw [serveFull_granted hs ho hd hstar hp]
    exact ⟨rfl, rfl, nofun, rfl, rfl⟩
  · rw [serveFull_granted_preflight hs ho hd hstar hp]
    refine ⟨rfl, rfl, fun _ => congrArg some ?_, rfl, rfl⟩
    have hm : defaultFull.methods ≠ [] := List.cons_ne_nil _ _
    rw [if_neg (fun h => hm h.1), if_neg hm]
    show joinComma defaultMethods = _
    unfold defaultMethods
    lit_chars
    rfl

/-- **C11_empty_lists_allow_nothing** — an instance whose own list AND the variable's list were empty
    when it was built allows no origin at all: a request with an Origin gets no grant and does not reach the handler. -/
theorem C11_empty_lists_allow_nothing (fc : Full) (fr : FReq) (hf : fc.func = none) (hs : fr.skip = false)
    (he : effOrigins fc.core = []) (ho : fr.origin ≠ []) :
    (serveFull fc fr).core.acao = none ∧ (serveFull fc fr).core.ran = false := by
  have hd : decideOrigin fc fr.origin = .ok [] := by
    rw [decideOrigin_none hf]; simp [allowOrigin, patterns, he, allowLoop]
  rw [serveFull_refused hs ho hd]
  exact ⟨rfl, rfl⟩

/-! ## the core model: the complete middleware without `AllowOriginFunc`, Skipper and the other headers -/

def coreFull (cfg : Cfg) : Full := ⟨cfg, none, [], [], [], 0, []⟩
def coreReq (req : Req) : FReq := ⟨req, false, [], []⟩

theorem serve_eq_full (cfg : Cfg) (req : Req) : serve cfg req = (serveFull (coreFull cfg) (coreReq req)).core :=
  (serveFull_core (coreFull cfg) (coreReq req) rfl rfl).symm

/-- **C11_acao_sound** — Access-Control-Allow-Origin is emitted only for an origin the
    configuration allows (the `*` entry, literal equality, or an entry matching the whole origin
    as a `*`/`?` pattern), and its value is `*` (only if `*` is configured) or the request's
    Origin verbatim. -/
theorem C11_acao_sound (cfg : Cfg) (req : Req) (v : Str) (hv : ValidOrigin req.origin)
    (hp : ∀ p ∈ effOrigins cfg, PatScheme p) (h : (serve cfg req).acao = some v) :
    ((v = star ∧ star ∈ effOrigins cfg) ∨ v = req.origin) ∧ Allowed (effOrigins cfg) req.origin := by
  rw [serve_eq_full] at h
  exact C11_full_acao_sound (coreFull cfg) (coreReq req) v rfl hv hp h

/-- **C11_acao_value** — for EVERY origin string (valid or not) and every allow-list the header
    value is `*` or the request's Origin verbatim. -/
theorem C11_acao_value (cfg : Cfg) (req : Req) (v : Str) (h : (serve cfg req).acao = some v) :
    v = star ∨ v = req.origin := by
  rw [serve_eq_full] at h
  obtain ⟨_, _, hd, hne⟩ := (serveFull_acao _ _ v).mp h
  cases hd
  exact allowOrigin_value cfg req.origin hne

/-- **C11_acao_complete** — conversely, every allowed valid origin of at most 261 bytes is
    granted access (the compiled patterns cover what `matchSubdomain` refuses), provided
    every entry compiles, i.e. is valid UTF-8 (`compiles_of_ascii`: every ASCII entry does;
    `compiles_needed`: the hypothesis cannot be dropped). -/
theorem C11_acao_complete (cfg : Cfg) (req : Req) (hv : ValidOrigin req.origin)
    (hlen : req.origin.length ≤ 261) (hc : ∀ p ∈ effOrigins cfg, compiles p = true)
    (ha : Allowed (effOrigins cfg) req.origin) :
    (serve cfg req).acao = some (allowOrigin cfg req.origin) ∧ allowOrigin cfg req.origin ≠ [] := by
  obtain ⟨s, hh, ho, _, _, hs, _, _⟩ := hv.shape
  have hsep : (indexOf sep req.origin).isSome = true := by
    rw [ho, indexOf_sep_append s hh hs]; rfl
  have hne := allowOrigin_complete cfg req.origin hv.ne_nil hlen hsep hc ha
  rw [serve_eq_full]
  exact ⟨(serveFull_acao _ _ _).mpr ⟨rfl, hv.ne_nil, rfl, hne⟩, hne⟩

/-- **C11_credentials** — Access-Control-Allow-Credentials is sent only when enabled and only
    together with Access-Control-Allow-Origin (hence, by C11_acao_sound, only for an allowed origin). -/
theorem C11_credentials (cfg : Cfg) (req : Req) (h : (serve cfg req).acac = true) :
    cfg.creds = true ∧ (serve cfg req).acao ≠ none := by
  rw [serve_eq_full] at h ⊢
  exact ⟨(C11_full_credentials _ _ h).1, (C11_full_credentials _ _ h).2.1⟩

/-- **C11_disallowed_blocked** — a request with an Origin the configuration does not allow gets no
    CORS grant; if it is not a preflight it is answered 401 and never reaches the handler. -/
theorem C11_disallowed_blocked (cfg : Cfg) (req : Req) (hv : ValidOrigin req.origin)
    (hp : ∀ p ∈ effOrigins cfg, PatScheme p) (hna : ¬ Allowed (effOrigins cfg) req.origin) :
    (serve cfg req).acao = none ∧ (serve cfg req).acac = false ∧ (serve cfg req).ran = false ∧
    (req.preflight = false → (serve cfg req).status = 401) := by
  have ha : allowOrigin cfg req.origin = [] :=
    Decidable.by_contra fun h => hna (allowOrigin_sound cfg req.origin hv hp h).2
  rw [serve_eq_full, serveFull_refused (fc := coreFull cfg) (fr := coreReq req) rfl hv.ne_nil (congrArg _ ha)]
  exact ⟨rfl, rfl, rfl, fun hp => if_neg (by simp [coreReq, hp])⟩

/-- **C11_preflight** — an OPTIONS request is always answered 204 without running the handler,
    whatever the origin and the configuration. -/
theorem C11_preflight (cfg : Cfg) (req : Req) (h : req.preflight = true) :
    (serve cfg req).status = 204 ∧ (serve cfg req).ran = false := by
  rw [serve_eq_full]
  obtain ⟨h1, h2⟩ := C11_full_preflight (coreFull cfg) (coreReq req) rfl h
  exact ⟨h2.resolve_right (fun ⟨_, _, hf, _⟩ => nomatch hf), h1⟩

/-- the handler runs only without an Origin header or with a CORS grant -/
theorem C11_ran_iff (cfg : Cfg) (req : Req) (h : (serve cfg req).ran = true) :
    req.preflight = false ∧ (req.origin = [] ∨ (serve cfg req).acao ≠ none) := by
  rw [serve_eq_full] at h ⊢
  exact (C11_full_ran _ _ h).resolve_left (by simp [coreReq])

/-! ## the hypotheses are satisfiable: which entries are origin-shaped -/

/-- every entry of the form `scheme://rest` with a colon-free scheme (wildcards allowed anywhere)
    is origin-shaped -/
theorem PatScheme.of_scheme (s r : Str) (hs : ':' ∉ s) : PatScheme (s ++ sep ++ r) := by
  intro a b hab ha
  have h2 : indexChar ':' (s ++ sep ++ r) = some a.length := by
    rw [hab]; exact indexChar_append ':' a b ha
  rw [indexChar_colon s r hs] at h2
  have hlen : s.length = a.length := by simpa using h2
  have : s ++ (sep ++ r) = a ++ (':' :: b) := by simpa using hab
  exact ⟨r, by simpa [sep] using (List.append_inj this hlen).2.symm⟩

/-- so is every entry without a colon (`*`, `null`, …) -/
theorem PatScheme.of_noColon (p : Str) (h : ':' ∉ p) : PatScheme p := by
  intro a b hab _
  exact absurd (by rw [hab]; simp) h

/-! ## non-vacuity and witnesses

The closed facts below are evaluated: the constants that hide a literal are unfolded, `lit_chars` (`Lit.lean`)
spells every literal out as its characters, then `decide +kernel`.  Where the two sides of an equation share
large parts that need no evaluation (the `Vary` lists) the proof is `rfl`, which does not compare them
character by character. -/

def oGood : Str := "https://a.b.example.com".toList
def oEvil : Str := "https://evil.b.example.com".toList

theorem oGood_valid : ValidOrigin oGood := by
  unfold oGood
  refine ⟨?_, "https".toList, "a.b.example.com".toList, ?_⟩ <;> lit_chars <;> decide +kernel
theorem oEvil_valid : ValidOrigin oEvil := by
  unfold oEvil
  refine ⟨?_, "https".toList, "evil.b.example.com".toList, ?_⟩ <;> lit_chars <;> decide +kernel

-- hypotheses of C11_matchSubdomain_glob hold for a real sub-domain wildcard …
example : matchSubdomain oGood "https://*.example.com".toList = true := by
  unfold oGood; lit_chars; decide +kernel
example : PatScheme "https://*.example.com".toList := by
  have h := PatScheme.of_scheme "https".toList "*.example.com".toList
  lit_chars at h ⊢
  exact h (by decide)
-- … and its conclusion is not trivial: the look-alikes are refused by both readings
example : glob "https://*.example.com".toList "https://a.example.com.evil.io".toList = false ∧
    glob "https://*.example.com".toList "https://evilexample.com".toList = false ∧
    matchSubdomain "https://evilexample.com".toList "https://*.example.com".toList = false := by
  lit_chars; decide +kernel

/-- the label loop as it was before the F9 repair (`return true` at a `*` label) -/
def labelLoopUnfixed : List Str → List Str → Bool
  | [], _ => false
  | _ :: _, [] => false
  | v :: ds, p :: ps =>
    if p = ['*'] then true
    else if p ≠ v then false
    else labelLoopUnfixed ds ps

/-- **F9 witness** — before the repair the loop accepted `evil.b.example.com` for the entry
    `a.*.example.com`, which does not match it as a pattern; the repaired loop refuses it and the
    model of the middleware answers 401 without CORS headers. -/
theorem F9_witness :
    labelLoopUnfixed (splitOn '.' "evil.b.example.com".toList).reverse
        (splitOn '.' "a.*.example.com".toList).reverse = true ∧
    ¬ Glob "https://a.*.example.com".toList oEvil ∧
    matchSubdomain oEvil "https://a.*.example.com".toList = false ∧
    serve ⟨["https://a.*.example.com".toList], true, false, [star]⟩ ⟨false, [oEvil]⟩
      = ⟨401, false, none, false, [varyOrigin]⟩ := by
  rw [← glob_iff]
  unfold oEvil
  lit_chars
  decide +kernel

-- the legitimate reading of that entry still works, through the compiled pattern
example : serve ⟨["https://a.*.example.com".toList], true, false, [star]⟩ ⟨false, ["https://a.b.example.com".toList]⟩
    = ⟨200, true, some "https://a.b.example.com".toList, true, [varyOrigin]⟩ := by lit_chars; decide +kernel
-- preflight from an allowed and from a disallowed origin
example : serve ⟨["https://*.example.com".toList], false, false, [star]⟩ ⟨true, [oGood]⟩
    = ⟨204, false, some oGood, false, varyOrigin :: varyPreflight⟩ := by unfold oGood; lit_chars; rfl
example : serve ⟨["https://*.example.com".toList], false, false, [star]⟩ ⟨true, ["https://example.org".toList]⟩
    = ⟨204, false, none, false, [varyOrigin]⟩ := by lit_chars; decide +kernel
-- `*` entry: value `*`, unless the unsafe flag echoes the origin
example : (serve ⟨[star], true, false, [star]⟩ ⟨false, [oEvil]⟩).acao = some star ∧
    (serve ⟨[star], true, true, [star]⟩ ⟨false, [oEvil]⟩).acao = some oEvil ∧
    (serve ⟨[], false, false, [star]⟩ ⟨false, [oEvil]⟩).acao = some star := by
  unfold oEvil; lit_chars; exact ⟨rfl, rfl, rfl⟩
-- `?` and a wildcard in the scheme and the port, regexp metacharacters literal
example : glob "http?://a+b.example.com:80?0".toList "https://a+b.example.com:8080".toList = true ∧
    glob "http?://a+b.example.com:80?0".toList "https://aab.example.com:8080".toList = false ∧
    glob "https://a.example.com".toList "https://aXexample.com".toList = false := by lit_chars; decide +kernel

/-- the origin-shape hypothesis of C11_matchSubdomain_glob cannot be dropped: for an entry with a
    stray colon before `://` the scheme comparison and the `://` search cut at different places -/
theorem PatScheme_needed :
    matchSubdomain "a://x.c".toList "a:b://*.c".toList = true ∧
    glob "a:b://*.c".toList "a://x.c".toList = false := by lit_chars; decide +kernel

/-! ## entries that do not compile -/

/-- every ASCII entry compiles (so for ASCII allow-lists `C11_acao_complete` has no extra hypothesis): the decoder
    stays in its ground state -/
theorem compiles_of_ascii (p : Str) (h : ∀ c ∈ p, c.toNat < 0x80) : compiles p = true := by
  induction p with
  | nil => rfl
  | cons a r ih =>
    have ha : a.toNat < 0x80 := h a List.mem_cons_self
    show utf8Go 0 0 0 (a :: r) = true
    unfold utf8Go
    simp only [ha, if_true]
    exact ih fun c hc => h c (List.mem_cons_of_mem _ hc)

/-- an entry that does not compile is never consulted as a pattern — it can only match through the
    literal comparison or `matchSubdomain` of the allow loop -/
theorem C11_invalid_entry_dropped (cfg : Cfg) (p : Str) (h : compiles p = false) : p ∉ patterns cfg := by
  intro hm
  have := (List.mem_filter.mp hm).2
  simp [h] at this

/-- the `compiles` hypothesis of `C11_acao_complete` cannot be dropped: the entry `https://\xff*.c`
    read as a pattern matches `https://\xffa.c`, yet the middleware refuses that origin, because
    the entry is not valid UTF-8 and was silently dropped when the patterns were compiled -/
theorem compiles_needed :
    let p : Str := "https://".toList ++ [Char.ofNat 0xff] ++ "*.c".toList
    let o : Str := "https://".toList ++ [Char.ofNat 0xff] ++ "a.c".toList
    glob p o = true ∧ compiles p = false ∧ allowOrigin ⟨[p], false, false, [star]⟩ o = [] ∧
    (serve ⟨[p], false, false, [star]⟩ ⟨false, [o]⟩).status = 401 := by lit_chars; decide +kernel

example : compiles ("https://".toList ++ [Char.ofNat 0xc3, Char.ofNat 0xa9] ++ ".example".toList) = true := by
  lit_chars; decide +kernel
example : compiles ("https://".toList ++ [Char.ofNat 0xed, Char.ofNat 0xa0, Char.ofNat 0x80]) = false ∧
    compiles ("https://".toList ++ [Char.ofNat 0xc0, Char.ofNat 0x80]) = false ∧
    compiles ("https://".toList ++ [Char.ofNat 0xe2, Char.ofNat 0x82]) = false ∧
    compiles ("https://".toList ++ [Char.ofNat 0xe2, Char.ofNat 0x82, Char.ofNat 0xac]) = true ∧
    compiles ("https://".toList ++ [Char.ofNat 0xf4, Char.ofNat 0x90, Char.ofNat 0x80, Char.ofNat 0x80]) = false := by
  lit_chars; decide +kernel

/-! ## non-vacuity of the statements about the complete middleware -/

def fGood : Str → FRes := fun o => if o = oGood then .allow else if o = oEvil then .err 403 else .deny
def fullDemo : Full := ⟨⟨["https://unrelated.test".toList], true, false, [star]⟩, some fGood, [], ["X-A".toList, "X-B".toList],
  ["X-E".toList], -5, defaultMethods⟩
-- AllowOriginFunc replaces the allow-list; preflight headers; negative MaxAge sent as 0; router Allow used
example : serveFull fullDemo ⟨⟨true, [oGood]⟩, false, "OPTIONS, GET".toList, "X-Req".toList⟩ =
    ⟨⟨204, false, some oGood, true, varyOrigin :: varyPreflight⟩, some "OPTIONS, GET".toList,
      some "OPTIONS, GET".toList, some "X-A,X-B".toList, none, some ['0']⟩ := by
  unfold fullDemo fGood oGood oEvil; lit_chars; rfl
-- its error is returned even on a preflight; a refusal is a bare 204 / 401
example : (serveFull fullDemo ⟨⟨true, [oEvil]⟩, false, [], []⟩).core = ⟨403, false, none, false, [varyOrigin]⟩ ∧
    (serveFull fullDemo ⟨⟨false, ["https://unrelated.test".toList]⟩, false, [], []⟩).core
      = ⟨401, false, none, false, [varyOrigin]⟩ := by
  unfold fullDemo fGood oGood oEvil; lit_chars; decide +kernel
-- simple request: Expose-Headers; skipped request: nothing
example : serveFull fullDemo ⟨⟨false, [oGood]⟩, false, [], []⟩ =
    ⟨⟨200, true, some oGood, true, [varyOrigin]⟩, none, none, none, some "X-E".toList, none⟩ ∧
    serveFull fullDemo ⟨⟨true, [oEvil]⟩, true, "OPTIONS, GET".toList, []⟩ = noHeaders ⟨200, true, none, false, []⟩ none := by
  unfold fullDemo fGood oGood oEvil; lit_chars; exact ⟨rfl, rfl⟩
-- CORSWithConfig(CORSConfig{}) takes the router's Allow, CORS() does not; Request-Headers echoed
example : (serveFull ⟨⟨[], false, false, [star]⟩, none, [], [], [], 0, defaultMethods⟩ ⟨⟨true, [oGood]⟩, false, "OPTIONS, GET".toList, "X-Req".toList⟩).acam
      = some "OPTIONS, GET".toList ∧
    (serveFull defaultFull ⟨⟨true, [oGood]⟩, false, "OPTIONS, GET".toList, "X-Req".toList⟩).acam
      = some "GET,HEAD,PUT,PATCH,POST,DELETE".toList ∧
    (serveFull defaultFull ⟨⟨true, [oGood]⟩, false, "OPTIONS, GET".toList, "X-Req".toList⟩).acah = some "X-Req".toList := by
  unfold oGood defaultFull defaultMethods; lit_chars; exact ⟨rfl, rfl, rfl⟩

/-! ## several instances on the path of one request (`serveStack`) -/

theorem serveStack_cons (fr : FReq) (l : Layer) (rest : List Layer) :
    serveStack fr (l :: rest) =
      if (l.run fr).core.ran then mergeObs (l.run fr) (serveStack fr rest) else l.run fr := rfl

theorem orElse_some {a b : Option Str} {v : Str} (h : (a <|> b) = some v) : a = some v ∨ b = some v := by
  cases a with
  | none => exact .inr h
  | some w => exact .inl h

theorem mergeObs_handlerObs (o : FObs) (hr : o.core.ran = true) (hst : o.core.status = 200) :
    mergeObs o handlerObs = o := by
  obtain ⟨⟨st, rn, ao, ac, vy⟩, al, am, ah, ae, ma⟩ := o
  cases hr
  cases hst
  simp [mergeObs, handlerObs, noHeaders]

/-- a single instance in front of the handler is exactly `serveFull` (whose theorems are the one-layer case
    of those about the stack) -/
theorem serveStack_single (fr : FReq) (l : Layer) : serveStack fr [l] = l.run fr := by
  rw [serveStack_cons]
  cases hr : (l.run fr).core.ran
  · rfl
  · exact mergeObs_handlerObs _ hr (serveFull_ran l.cfg (layerReq fr l) hr).1

/-- **C11_stack_ran_iff** — behind any stack every instance must pass the request on its own: the
    handler runs iff each instance, looking at the request as it was sent, calls `next`.  No instance
    can make another one skip its decision (an `Access-Control-Allow-Origin` already in the response,
    set by an enclosing instance, does not count for anything). -/
theorem C11_stack_ran_iff (fr : FReq) : ∀ ls : List Layer,
    (serveStack fr ls).core.ran = true ↔ ∀ l ∈ ls, (l.run fr).core.ran = true
  | [] => by simp [serveStack, handlerObs, noHeaders]
  | l :: rest => by
    rw [serveStack_cons, List.forall_mem_cons, ← C11_stack_ran_iff fr rest]
    cases hr : (l.run fr).core.ran
    · simp [hr]
    · simp [mergeObs]

theorem stack_blocked {fr : FReq} {ls : List Layer} {l : Layer} (hl : l ∈ ls)
    (h : (l.run fr).core.ran = false) : (serveStack fr ls).core.ran = false := by
  cases hr : (serveStack fr ls).core.ran
  · rfl
  · rw [(C11_stack_ran_iff fr ls).mp hr l hl] at h
    cases h

/-- **C11_stack_every_instance** — the handler ran behind a stack ⇒ every instance either was told
    by its Skipper to stand aside, or saw a non-preflight request that carries no Origin or an
    Origin it granted itself. -/
theorem C11_stack_every_instance (fr : FReq) (ls : List Layer) (h : (serveStack fr ls).core.ran = true)
    (l : Layer) (hl : l ∈ ls) :
    l.skip = true ∨ (fr.core.preflight = false ∧ (fr.origin = [] ∨ (l.run fr).core.acao ≠ none)) :=
  C11_full_ran l.cfg (layerReq fr l) ((C11_stack_ran_iff fr ls).mp h l hl)

/-- **C11_stack_disallowed_blocked** — a request from an Origin that ONE unskipped allow-list
    instance anywhere on the path does not allow never reaches the handler, however permissive the
    other instances are (the statement the "already negotiated by an enclosing CORS" shortcut breaks). -/
theorem C11_stack_disallowed_blocked (fr : FReq) (ls : List Layer) (l : Layer) (hl : l ∈ ls)
    (hs : l.skip = false) (hf : l.cfg.func = none) (hv : ValidOrigin fr.origin)
    (hp : ∀ p ∈ effOrigins l.cfg.core, PatScheme p) (hna : ¬ Allowed (effOrigins l.cfg.core) fr.origin) :
    (serveStack fr ls).core.ran = false := by
  refine stack_blocked hl ?_
  rw [Layer.run, serveFull_core l.cfg (layerReq fr l) hf hs]
  exact (C11_disallowed_blocked l.cfg.core fr.core hv hp hna).2.2.1

/-- the same for an instance that decides by `AllowOriginFunc` -/
theorem C11_stack_func_blocked (fr : FReq) (ls : List Layer) (l : Layer) (hl : l ∈ ls)
    (hs : l.skip = false) (f : Str → FRes) (hf : l.cfg.func = some f) (ho : fr.origin ≠ [])
    (hna : f fr.origin ≠ .allow) : (serveStack fr ls).core.ran = false :=
  stack_blocked hl (C11_func_blocks l.cfg (layerReq fr l) f hf hs ho hna).2.2.1

/-- **C11_stack_grants_from_instance** — what leaves the stack as Access-Control-Allow-Origin /
    -Credentials was put there by one of the instances for this very request (so `C11_full_acao_sound`,
    `C11_func_sound`, `C11_full_credentials` apply to that instance). -/
theorem C11_stack_grants_from_instance (fr : FReq) : ∀ ls : List Layer,
    (∀ v, (serveStack fr ls).core.acao = some v → ∃ l ∈ ls, (l.run fr).core.acao = some v) ∧
    ((serveStack fr ls).core.acac = true → ∃ l ∈ ls, (l.run fr).core.acac = true)
  | [] => ⟨nofun, nofun⟩
  | l :: rest => by
    obtain ⟨ih1, ih2⟩ := C11_stack_grants_from_instance fr rest
    -- an instance of `l :: rest` with the property is `l`, or one of `rest`
    simp only [serveStack_cons, List.mem_cons, or_and_right, exists_or, exists_eq_left]
    cases (l.run fr).core.ran
    · exact ⟨fun v => .inl, .inl⟩
    · exact ⟨fun v hv => (orElse_some hv).symm.imp_right (ih1 v),
        fun hc => (Bool.or_eq_true_iff.mp hc).symm.imp_right ih2⟩

-- non-vacuity: CORS() on the root, a strict instance inside; the evil origin is stopped by the inner
-- one (and the 401 still carries the outer `*`), the listed origin passes both and gets the inner grant
def strictLayer : Layer := ⟨⟨⟨["https://a.b.example.com".toList], true, false, [star]⟩, none, [], [], [], 0, defaultMethods⟩, false, []⟩
def rootLayer : Layer := ⟨defaultFull, false, []⟩
example : serveStack ⟨⟨false, [oEvil]⟩, false, [], []⟩ [rootLayer, strictLayer] =
    ⟨⟨401, false, some star, false, [varyOrigin, varyOrigin]⟩, none, none, none, none, none⟩ := by
  unfold rootLayer strictLayer oEvil; lit_chars; decide +kernel
example : serveStack ⟨⟨false, [oGood]⟩, false, [], []⟩ [rootLayer, strictLayer] =
    ⟨⟨200, true, some oGood, true, [varyOrigin, varyOrigin]⟩, none, none, none, none, none⟩ := by
  unfold rootLayer strictLayer oGood; lit_chars; decide +kernel
example : ¬ Allowed (effOrigins strictLayer.cfg.core) oEvil := by
  rw [Allowed_iff]; unfold strictLayer oEvil; lit_chars; decide +kernel

/-! ## the whole request head — method, `Origin`, `Access-Control-Request-Headers`, nothing else -/

theorem hdrValues_cons_ne (n v name : Str) (hs : List (Str × Str)) (h : n ≠ name) :
    hdrValues ((n, v) :: hs) name = hdrValues hs name := by
  simp [hdrValues, List.filter, h]

/-- **C11_req_preflight_iff** — a request is treated as a preflight exactly when its method is
    `OPTIONS`: the presence or absence of `Access-Control-Request-Method` (or of any other header)
    plays no part. -/
theorem C11_req_preflight_iff (method : Str) (headers : List (Str × Str)) :
    (reqOf method headers).core.preflight = true ↔ method = "OPTIONS".toList :=
  decide_eq_true_iff

/-- **C11_req_decoys_ignored** — a header that is neither `Origin` nor
    `Access-Control-Request-Headers` changes nothing: same answer from any stack of instances
    (given the same Skipper answers and context values). -/
theorem C11_req_decoys_ignored (method n v : Str) (headers : List (Str × Str))
    (h1 : n ≠ "Origin".toList) (h2 : n ≠ "Access-Control-Request-Headers".toList) (ls : List Layer) :
    serveStack (reqOf method ((n, v) :: headers)) ls = serveStack (reqOf method headers) ls := by
  unfold reqOf
  rw [hdrValues_cons_ne _ _ _ _ h1, hdrValues_cons_ne _ _ _ _ h2]

/-- **C11_req_options_never_runs** — whatever else an `OPTIONS` request carries, no unskipped
    instance lets it through to the handler. -/
theorem C11_req_options_never_runs (headers : List (Str × Str)) (ls : List Layer) (l : Layer)
    (hl : l ∈ ls) (hs : l.skip = false) :
    (serveStack (reqOf "OPTIONS".toList headers) ls).core.ran = false :=
  stack_blocked hl
    (C11_full_preflight l.cfg (layerReq (reqOf "OPTIONS".toList headers) l) hs
      ((C11_req_preflight_iff _ headers).mpr rfl)).1

/-- **C11_req_origin_verbatim** — the Origin is compared as it was sent: the first `Origin` value,
    byte for byte, is what `Allowed` is decided on and what is echoed; another spelling of "the same"
    origin (default port, trailing dot or slash, other letter case, padding blanks) is another origin. -/
theorem C11_req_origin_verbatim (method : Str) (headers : List (Str × Str)) :
    (reqOf method headers).origin = (hdrValues headers "Origin".toList).headD [] := rfl

-- the spellings are different origins for the model, as for the code
example :
    let cfg : Cfg := ⟨["https://app.example.com".toList, "https://*.example.org".toList], true, false, [star]⟩
    allowOrigin cfg "https://app.example.com:443".toList = [] ∧ allowOrigin cfg "https://app.example.com.".toList = [] ∧
    allowOrigin cfg "https://a.example.org:443".toList = [] ∧
    allowOrigin cfg "https://app.example.com".toList = "https://app.example.com".toList := by
  lit_chars; decide +kernel
-- OPTIONS with and without Access-Control-Request-Method, with Sec-Fetch-Site: same-origin: always a bare 204 / grant
example : (serveStack (reqOf "OPTIONS".toList [("Origin".toList, oEvil), ("Sec-Fetch-Site".toList, "same-origin".toList)])
      [strictLayer]).core = ⟨204, false, none, false, [varyOrigin]⟩ ∧
    (serveStack (reqOf "OPTIONS".toList [("Access-Control-Request-Method".toList, "GET".toList), ("Origin".toList, oGood)])
      [strictLayer]).core = ⟨204, false, some oGood, true, varyOrigin :: varyPreflight⟩ := by
  unfold reqOf strictLayer oEvil oGood; lit_chars; exact ⟨rfl, rfl⟩

/-! ## the state of the shared response when the first instance is entered -/

/-- **C11_entry_same_decision** — whatever an earlier middleware did to the response (CORS-looking
    headers already there, response already started with some status), who reaches the handler is
    decided exactly as on an untouched response: by every instance on its own. -/
theorem C11_entry_same_decision (en : Entry) (fr : FReq) (ls : List Layer) :
    (serveEntry en fr ls).core.ran = (serveStack fr ls).core.ran := by
  unfold serveEntry
  cases en.committed <;> rfl

/-- hence: a request from an Origin that one unskipped allow-list instance does not allow never
    reaches the handler, also when the response was already started or already carries an
    `Access-Control-Allow-Origin` -/
theorem C11_entry_disallowed_blocked (en : Entry) (fr : FReq) (ls : List Layer) (l : Layer) (hl : l ∈ ls)
    (hs : l.skip = false) (hf : l.cfg.func = none) (hv : ValidOrigin fr.origin)
    (hp : ∀ p ∈ effOrigins l.cfg.core, PatScheme p) (hna : ¬ Allowed (effOrigins l.cfg.core) fr.origin) :
    (serveEntry en fr ls).core.ran = false := by
  rw [C11_entry_same_decision]
  exact C11_stack_disallowed_blocked fr ls l hl hs hf hv hp hna

/-- and an OPTIONS request never runs the handler past an unskipped instance -/
theorem C11_entry_options_never_runs (en : Entry) (headers : List (Str × Str)) (ls : List Layer) (l : Layer)
    (hl : l ∈ ls) (hs : l.skip = false) :
    (serveEntry en (reqOf "OPTIONS".toList headers) ls).core.ran = false := by
  rw [C11_entry_same_decision]
  exact C11_req_options_never_runs headers ls l hl hs

/-- an untouched response: `serveEntry` is `serveStack` -/
theorem serveEntry_plain (fr : FReq) (ls : List Layer) :
    serveEntry ⟨none, none, false, []⟩ fr ls = serveStack fr ls := by
  rcases h : serveStack fr ls with ⟨⟨st, rn, ao, ac, vy⟩, al, am, ah, ae, ma⟩
  simp [serveEntry, h, mergeObs, entryObs, noHeaders]

/-- **C11_entry_grants** — an `Access-Control-Allow-Origin` the client sees was either already in
    the response when the middleware was entered, or set by one of the instances for this request;
    once the response is started, nothing the instances set is seen at all. -/
theorem C11_entry_grants (en : Entry) (fr : FReq) (ls : List Layer) (v : Str)
    (h : (serveEntry en fr ls).core.acao = some v) :
    en.acao = some v ∨ (en.committed = none ∧ ∃ l ∈ ls, (l.run fr).core.acao = some v) := by
  unfold serveEntry at h
  cases hc : en.committed with
  | some st => rw [hc] at h; exact .inl h
  | none =>
    rw [hc] at h
    exact (orElse_some h).symm.imp_right fun hi => ⟨rfl, (C11_stack_grants_from_instance fr ls).1 v hi⟩

-- a response already started with 202: the disallowed origin is still refused (handler not run), the client keeps
-- seeing 202 and the headers sent with it; on an untouched response the same request gets 401
example : serveEntry ⟨some 202, some star, false, [varyOrigin]⟩ ⟨⟨false, [oEvil]⟩, false, [], []⟩ [strictLayer]
      = noHeaders ⟨202, false, some star, false, [varyOrigin]⟩ none ∧
    (serveEntry ⟨none, some star, false, []⟩ ⟨⟨false, [oEvil]⟩, false, [], []⟩ [strictLayer]).core
      = ⟨401, false, some star, false, [varyOrigin]⟩ ∧
    (serveEntry ⟨none, some star, false, []⟩ ⟨⟨false, [oGood]⟩, false, [], []⟩ [strictLayer]).core
      = ⟨200, true, some oGood, true, [varyOrigin]⟩ := by
  unfold strictLayer oEvil oGood; lit_chars; decide +kernel

/-! ## the package variable `DefaultCORSConfig` and the order of the set-up calls

`setup d ops` is the list of instances on the request's path after the script `ops`, started while the
variable holds `d`.  The statements: an instance is determined by the value the variable holds WHEN ITS
constructor is called — not by any constructor call before it (no "built once" memory), not by any
assignment after it; and the configuration in force of `CORS()` is the variable's, so every
soundness statement applies with the variable's list. -/

theorem current_append (d : Defaults) (a b : List SetupOp) :
    current d (a ++ b) = current (current d a) b := by
  induction a generalizing d with
  | nil => rfl
  | cons op r ih => cases op <;> simp [current, ih]

theorem setup_append (d : Defaults) (a b : List SetupOp) :
    setup d (a ++ b) = setup d a ++ setup (current d a) b := by
  induction a generalizing d with
  | nil => rfl
  | cons op r ih =>
    cases op with
    | assign d' => simp [setup, current, ih]
    | call keep k => cases keep <;> simp [setup, current, ih]

/-- **C11_setup_no_memory** — the instances on the path after a script: whatever was assigned and
    whichever constructors were called before (`pre`) or afterwards (`post`), a kept constructor call
    yields exactly `k.build` of the value the variable holds at that moment (`current d pre`: the last
    value assigned before the call, `d` when there was none), in its place on the path. -/
theorem C11_setup_no_memory (d : Defaults) (pre post : List SetupOp) (k : Call) :
    setup d (pre ++ .call true k :: post)
      = setup d pre ++ k.build (current d pre) :: setup (current d pre) post := by
  rw [setup_append]; simp [setup]

theorem current_assign_last (d d' : Defaults) (pre post : List SetupOp)
    (hpost : ∀ op ∈ post, ∃ keep k, op = .call keep k) :
    current d (pre ++ .assign d' :: post) = d' := by
  rw [current_append]
  simp only [current]
  induction post with
  | nil => rfl
  | cons op r ih =>
    obtain ⟨keep, k, rfl⟩ := hpost op List.mem_cons_self
    exact ih fun o ho => hpost o (List.mem_cons_of_mem _ ho)

def SetupOp.isDroppedCall : SetupOp → Bool
  | .call false _ => true
  | _ => false

/-- **C11_setup_dropped_calls_irrelevant** — constructor calls whose instance is not on the path (an
    earlier `CORS()` of a library, of another group, of another Echo) can be deleted from the script:
    they leave nothing behind. -/
theorem C11_setup_dropped_calls_irrelevant (d : Defaults) (ops : List SetupOp) :
    setup d (ops.filter (fun op => !op.isDroppedCall)) = setup d ops := by
  induction ops generalizing d with
  | nil => rfl
  | cons op r ih =>
    rcases op with d' | ⟨_ | _, k⟩
    · rw [List.filter_cons_of_pos rfl]; exact ih d'
    · rw [List.filter_cons_of_neg Bool.false_ne_true]; exact ih d
    · rw [List.filter_cons_of_pos rfl]; exact congrArg (k.build d :: ·) (ih d)

/-- **C11_setup_late_assignment_irrelevant** — assignments after the last constructor call do not
    reach the instances already built. -/
theorem C11_setup_late_assignment_irrelevant (d : Defaults) (ops late : List SetupOp)
    (hl : ∀ op ∈ late, ∃ d', op = .assign d') : setup d (ops ++ late) = setup d ops := by
  rw [setup_append]
  suffices h : ∀ (e : Defaults), setup e late = [] by simp [h]
  intro e
  induction late generalizing e with
  | nil => rfl
  | cons op r ih =>
    obtain ⟨d', rfl⟩ := hl op List.mem_cons_self
    exact ih (fun o ho => hl o (List.mem_cons_of_mem _ ho)) d'

theorem effOrigins_corsDefault (d : Defaults) : effOrigins (corsDefault d).core = d.origins :=
  ite_self _

/-- **C11_variable_in_force** — what the two constructors take from the variable's value `d`:
    `CORS()` everything; `CORSWithConfig(fc)` the allow-list when its own is empty, the method list when
    its own is empty (then not "custom"), nothing else. -/
theorem C11_variable_in_force (d : Defaults) (fc : Full) :
    effOrigins (corsDefault d).core = d.origins ∧ (corsDefault d).core.creds = d.creds ∧
    (corsDefault d).core.unsafeWild = d.unsafeWild ∧ (corsDefault d).func = d.func ∧
    (corsDefault d).methods = d.methods ∧ (corsDefault d).expose = d.expose ∧
    (corsDefault d).headers = d.headers ∧ (corsDefault d).maxAge = d.maxAge ∧
    effOrigins (withConfig d fc).core = (if fc.core.origins = [] then d.origins else fc.core.origins) ∧
    (withConfig d fc).core.creds = fc.core.creds ∧ (withConfig d fc).core.unsafeWild = fc.core.unsafeWild ∧
    (withConfig d fc).func = fc.func ∧ (withConfig d fc).methods = fc.methods ∧
    (withConfig d fc).dfltMethods = d.methods :=
  ⟨effOrigins_corsDefault d, rfl, rfl, rfl, rfl, rfl, rfl, rfl, rfl, rfl, rfl, rfl, rfl, rfl⟩

/-- under the value the package is shipped with, `CORS()` builds `defaultFull` and `CORSWithConfig` keeps a
    configuration (whose defaults are the shipped ones) as it is -/
theorem C11_pristine (fc : Full) (ho : fc.core.dfltOrigins = [star]) (hm : fc.dfltMethods = defaultMethods) :
    corsDefault pristine = defaultFull ∧ withConfig pristine fc = fc := by
  obtain ⟨⟨o, c, u, dd⟩, f, m, h, e, a, dm⟩ := fc
  cases ho
  cases hm
  exact ⟨rfl, rfl⟩

/-- **C11_variable_acao_sound** — `CORS()` called while the variable holds `d` (no `AllowOriginFunc` in
    it): Access-Control-Allow-Origin only for an origin `d.origins` allows — the list at the time of
    THIS call —, value `*` or the Origin verbatim; credentials only when `d.creds`. -/
theorem C11_variable_acao_sound (d : Defaults) (fr : FReq) (v : Str) (hf : d.func = none)
    (hv : ValidOrigin fr.origin) (hp : ∀ p ∈ d.origins, PatScheme p)
    (h : (serveFull (corsDefault d) fr).core.acao = some v) :
    ((v = star ∧ star ∈ d.origins) ∨ v = fr.origin) ∧ Allowed d.origins fr.origin := by
  rw [← effOrigins_corsDefault d] at hp ⊢
  exact C11_full_acao_sound (corsDefault d) fr v hf hv hp h

theorem C11_variable_credentials (d : Defaults) (fr : FReq)
    (h : (serveFull (corsDefault d) fr).core.acac = true) : d.creds = true :=
  (C11_full_credentials (corsDefault d) fr h).1

theorem setup_blocked (en : Entry) (d0 : Defaults) (pre post : List SetupOp) (k : Call) (fr : FReq) (l : Layer)
    (hb : k.build (current d0 pre) = l) (hs : l.skip = false) (hf : l.cfg.func = none)
    (hv : ValidOrigin fr.origin) (hp : ∀ p ∈ effOrigins l.cfg.core, PatScheme p)
    (hna : ¬ Allowed (effOrigins l.cfg.core) fr.origin) :
    (serveEntry en fr (setup d0 (pre ++ .call true k :: post))).core.ran = false := by
  refine C11_entry_disallowed_blocked en fr _ l ?_ hs hf hv hp hna
  rw [C11_setup_no_memory, hb]
  simp

/-- **C11_setup_disallowed_blocked** — the statement the "default middleware is built once" shortcut
    breaks: after ANY script, if an instance on the path was made by `CORS()` while the variable held a
    value whose list does not allow the request's Origin (its Skipper not skipping, no `AllowOriginFunc`),
    the request does not reach the handler — whatever `CORS()` / `CORSWithConfig` calls came before under
    more permissive values, whatever is on the path besides, whatever the response state at entry. -/
theorem C11_setup_disallowed_blocked (en : Entry) (d0 : Defaults) (pre post : List SetupOp) (k : Call) (fr : FReq)
    (hk : k.ctor = 1) (hs : (current d0 pre).skip = false) (hf : (current d0 pre).func = none)
    (hv : ValidOrigin fr.origin) (hp : ∀ p ∈ (current d0 pre).origins, PatScheme p)
    (hna : ¬ Allowed (current d0 pre).origins fr.origin) :
    (serveEntry en fr (setup d0 (pre ++ .call true k :: post))).core.ran = false := by
  rw [← effOrigins_corsDefault] at hp hna
  exact setup_blocked en d0 pre post k fr ⟨_, _, _⟩ (if_pos hk) hs hf hv hp hna

/-- the same for `CORSWithConfig(fc)` with a list of its own: the variable's list does not matter -/
theorem C11_setup_own_list_blocked (en : Entry) (d0 : Defaults) (pre post : List SetupOp) (k : Call) (fr : FReq)
    (hk : k.ctor ≠ 1) (hs : k.ownSkip.getD (current d0 pre).skip = false) (hf : k.cfg.func = none)
    (hne : k.cfg.core.origins ≠ [])
    (hv : ValidOrigin fr.origin) (hp : ∀ p ∈ k.cfg.core.origins, PatScheme p)
    (hna : ¬ Allowed k.cfg.core.origins fr.origin) :
    (serveEntry en fr (setup d0 (pre ++ .call true k :: post))).core.ran = false := by
  have he : effOrigins (withConfig (current d0 pre) k.cfg).core = k.cfg.core.origins := if_neg hne
  rw [← he] at hp hna
  exact setup_blocked en d0 pre post k fr ⟨_, _, _⟩ (if_neg hk) hs hf hv hp hna

-- non-vacuity: the witness of the missed change.  `CORS()` once under the pristine value (dropped: it sits on
-- another group), then the application assigns a strict list with credentials and calls `CORS()` again.
def dStrict : Defaults := ⟨["https://app.example.com".toList], true, false, none, defaultMethods, [], [], 0, false⟩
def callCORS : Call := ⟨1, ⟨⟨[], false, false, [star]⟩, none, [], [], [], 0, defaultMethods⟩, none, []⟩
def witnessScript : List SetupOp := [.call false callCORS, .assign dStrict, .call true callCORS]
example : (serveEntry ⟨none, none, false, []⟩ ⟨⟨false, [oEvil]⟩, false, [], []⟩ (setup pristine witnessScript)).core
      = ⟨401, false, none, false, [varyOrigin]⟩ ∧
    (serveEntry ⟨none, none, false, []⟩ ⟨⟨false, ["https://app.example.com".toList]⟩, false, [], []⟩
        (setup pristine witnessScript)).core
      = ⟨200, true, some "https://app.example.com".toList, true, [varyOrigin]⟩ := by
  unfold witnessScript dStrict oEvil; lit_chars; decide +kernel
-- the hypotheses of C11_setup_disallowed_blocked hold for it
example : current pristine [.call false callCORS, .assign dStrict] = dStrict ∧
    ¬ Allowed dStrict.origins oEvil ∧ (∀ p ∈ dStrict.origins, PatScheme p) := by
  refine ⟨rfl, ?_, ?_⟩
  · rw [Allowed_iff]; unfold dStrict oEvil; lit_chars; decide +kernel
  · have h := PatScheme.of_scheme "https".toList "app.example.com".toList
    unfold dStrict
    lit_chars at h ⊢
    exact fun p hp => List.mem_singleton.mp hp ▸ h (by decide)
-- an assignment AFTER the call does not reach the instance; root built under the pristine value, group after the
-- assignment: two different instances on one path
example : setup pristine [.call true callCORS, .assign dStrict] = [⟨defaultFull, false, []⟩] ∧
    setup pristine [.call true callCORS, .assign dStrict, .call true callCORS]
      = [⟨defaultFull, false, []⟩, ⟨corsDefault dStrict, false, []⟩] := ⟨rfl, rfl⟩
-- CORSWithConfig(CORSConfig{}) takes the variable's list; when both are empty nothing is allowed
example : effOrigins (withConfig dStrict callCORS.cfg).core = ["https://app.example.com".toList] ∧
    (serveFull (withConfig { dStrict with origins := [] } callCORS.cfg) ⟨⟨false, [oGood]⟩, false, [], []⟩).core
      = ⟨401, false, none, false, [varyOrigin]⟩ := by
  unfold dStrict callCORS oGood; lit_chars; exact ⟨rfl, rfl⟩

end C11
