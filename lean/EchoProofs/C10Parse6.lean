import EchoProofs.C10Parse
/-!
# C10 — `net.ParseIP` ∘ `IP.String` on IPv6: the RFC 5952 printer and the parser are inverse

`parseIP_v6String`: for EVERY 16-byte address `ip`, `parseIP (v6String ip) = some ip`, where
`v6String` is the model of netip's `appendTo6` (lower-case hex groups without leading zeros, the
left-most longest run of ≥ 2 zero groups replaced by `::`).  Consequences:
`parseIP_ipString_v6` (addresses that are not IPv4-mapped), `parseIP_ipString_16` (all 16-byte
addresses), `parseIP_ipString_parse` (canonicalisation is idempotent on everything `parseIP` accepts).
No enumeration of addresses: induction over the hex digits of a group and over the list of groups.

The last section extends the rejection lemmas of `C10Parse.lean` to the embedded IPv4 of an IPv6 text: a field
the field parser refuses, after any dot, makes the whole text unparsable (`parseIP_bad_field_after_dot`).
-/
namespace C10
/-! ## hex groups -/

theorem hexVal6_digitChar : ∀ d, d < 16 → hexVal6 (Nat.digitChar d) = some d := by
  decide

theorem hexVal6_colon : hexVal6 ':' = none := by decide

theorem readHex_toDigits (n : Nat) (t : Str) (hl : (Nat.toDigits 16 n).length ≤ 4) :
    readHex (Nat.toDigits 16 n ++ t) 0 0 = readHex t n (Nat.toDigits 16 n).length := by
  induction n using Nat.strongRecOn generalizing t with
  | ind n ih =>
    rw [Nat.toDigits_eq_if (by omega : 1 < 16)] at hl ⊢
    split
    · rename_i h
      simp [readHex, hexVal6_digitChar n h]
    · rename_i h
      rw [if_neg h] at hl
      simp only [List.length_append, List.length_singleton] at hl
      rw [List.append_assoc, ih (n / 16) (by omega) _ (by omega)]
      simp only [List.singleton_append, List.length_append, List.length_singleton]
      rw [readHex, hexVal6_digitChar _ (by omega : n % 16 < 16)]
      have h1 : ¬ (Nat.toDigits 16 (n / 16)).length > 3 := by omega
      have h2 : n / 16 * 16 + n % 16 = n := by omega
      simp only [h1, if_false, h2]

theorem hexStr_length (n : Nat) (h : n < 65536) : (hexStr n).length ≤ 4 :=
  (Nat.length_toDigits_le_iff (b := 16) (by omega) (by omega)).mpr (by omega)

theorem hexStr_ne_nil (n : Nat) : hexStr n ≠ [] := Nat.toDigits_ne_nil

/-- reading one printed group: value, number of digits, and the rest, when the rest does not
    start with a hex digit -/
theorem readHex_hexStr (n : Nat) (h : n < 65536) (t : Str) (ht : t = [] ∨ ∃ r, t = ':' :: r) :
    readHex (hexStr n ++ t) 0 0 = some (n, (hexStr n).length, t) := by
  rw [hexStr, readHex_toDigits n t (hexStr_length n h)]
  rcases ht with rfl | ⟨r, rfl⟩
  · rfl
  · simp [readHex, hexVal6_colon]

theorem hex_of_mem_hexStr (n : Nat) : ∀ c ∈ hexStr n, (hexVal6 c).isSome = true := by
  unfold hexStr
  induction n using Nat.strongRecOn with
  | ind n ih =>
    rw [Nat.toDigits_eq_if (by omega : 1 < 16)]
    split
    · rename_i h
      intro c hc
      simp only [List.mem_singleton] at hc
      subst hc; simp [hexVal6_digitChar n h]
    · intro c hc
      rcases List.mem_append.mp hc with hc | hc
      · exact ih (n / 16) (by omega) c hc
      · simp only [List.mem_singleton] at hc
        subst hc; simp [hexVal6_digitChar _ (by omega : n % 16 < 16)]

theorem hex_ne (c : Char) (h : (hexVal6 c).isSome = true) : c ≠ '.' ∧ c ≠ ':' ∧ c ≠ '%' := by
  refine ⟨?_, ?_, ?_⟩ <;> (intro h'; subst h'; revert h; decide)

/-! ## groups and bytes -/

def gbytes : List Nat → List Byte
  | [] => []
  | g :: r => grp g ++ gbytes r

theorem gbytes_append (a b : List Nat) : gbytes (a ++ b) = gbytes a ++ gbytes b := by
  induction a with
  | nil => rfl
  | cons g r ih => simp [gbytes, ih]

theorem gbytes_length (a : List Nat) : (gbytes a).length = 2 * a.length := by
  induction a with
  | nil => rfl
  | cons g r ih => simp [gbytes, grp, ih]; omega

theorem gbytes_replicate_zero (k : Nat) : gbytes (List.replicate k 0) = List.replicate (2 * k) 0 := by
  induction k with
  | zero => rfl
  | succ k ih =>
    rw [List.replicate_succ, gbytes, ih]
    have : 2 * (k + 1) = (2 * k + 1) + 1 := by omega
    rw [this, List.replicate_succ, List.replicate_succ]
    rfl

theorem byte_split (a b : Byte) : BitVec.ofNat 8 ((a.toNat * 256 + b.toNat) / 256) = a ∧
    BitVec.ofNat 8 (a.toNat * 256 + b.toNat) = b := by
  have ha := a.isLt
  have hb := b.isLt
  constructor
  · apply BitVec.eq_of_toNat_eq
    simp only [BitVec.toNat_ofNat]
    omega
  · apply BitVec.eq_of_toNat_eq
    simp only [BitVec.toNat_ofNat]
    omega

theorem gbytes_groups : ∀ (ip : List Byte), ip.length % 2 = 0 → gbytes (groups ip) = ip
  | [], _ => rfl
  | [_], h => by simp at h
  | a :: b :: r, h => by
    have hr : r.length % 2 = 0 := by simp only [List.length_cons] at h; omega
    simp only [groups, gbytes, grp, (byte_split a b).1, (byte_split a b).2, gbytes_groups r hr]
    rfl

theorem groups_lt : ∀ (ip : List Byte), ∀ g ∈ groups ip, g < 65536
  | [], g, h => by simp [groups] at h
  | [_], g, h => by simp [groups] at h
  | a :: b :: r, g, h => by
    simp only [groups, List.mem_cons] at h
    rcases h with rfl | h
    · have ha := a.isLt; have hb := b.isLt; omega
    · exact groups_lt r g h

theorem groups_length : ∀ (ip : List Byte), (groups ip).length = ip.length / 2
  | [] => rfl
  | [_] => by simp [groups]
  | a :: b :: r => by simp only [groups, List.length_cons, groups_length r]; omega

/-! ## the loop on a list of printed groups -/

def txt (gs : List Nat) : Str := joinStrs ':' (gs.map hexStr)

theorem txt_nil : txt [] = [] := rfl
theorem txt_one (g : Nat) : txt [g] = hexStr g := rfl
theorem txt_cons2 (g g2 : Nat) (r : List Nat) : txt (g :: g2 :: r) = hexStr g ++ ':' :: txt (g2 :: r) := rfl

theorem txt_cons_head (g : Nat) (r : List Nat) : ∃ c t, txt (g :: r) = c :: t ∧ (hexVal6 c).isSome = true := by
  cases h : hexStr g with
  | nil => exact absurd h (hexStr_ne_nil g)
  | cons c t =>
    have hh := hex_of_mem_hexStr g c (by simp [h])
    cases r with
    | nil => exact ⟨c, t, by rw [txt_one, h], hh⟩
    | cons g2 r => exact ⟨c, t ++ ':' :: txt (g2 :: r), by rw [txt_cons2, h]; rfl, hh⟩

/-! One iteration on a printed group, in the three places a group can stand: at the end of the text
(`loop6_group_end`); before `:` and more text that goes on with a hex digit (`loop6_group_colon`); before `::`
(`loop6_group_ell`). -/

theorem loop6_group_end (g : Nat) (hg : g < 65536) (f : Nat) (ip : List Byte) (ell : Option Nat) :
    loop6 (f + 1) (hexStr g) ip ell = some ([], ip ++ grp g, ell) := by
  have hr := readHex_hexStr g hg [] (.inl rfl)
  rw [List.append_nil] at hr
  rw [loop6]; simp [hr, hexStr_ne_nil g, grp]

theorem loop6_group_colon (g : Nat) (hg : g < 65536) (c : Char) (t : Str) (hc : (hexVal6 c).isSome = true)
    (f : Nat) (ip : List Byte) (ell : Option Nat) :
    loop6 (f + 1) (hexStr g ++ ':' :: c :: t) ip ell = loop6 f (c :: t) (ip ++ grp g) ell := by
  rw [loop6]
  simp [readHex_hexStr g hg _ (.inr ⟨_, rfl⟩), hexStr_ne_nil g, (hex_ne c hc).2.1, grp]

theorem loop6_group_ell (g : Nat) (hg : g < 65536) (t : Str) (f : Nat) (ip : List Byte) :
    loop6 (f + 1) (hexStr g ++ ':' :: ':' :: t) ip none =
      if t = [] then some ([], ip ++ grp g, some (ip ++ grp g).length)
      else loop6 f t (ip ++ grp g) (some (ip ++ grp g).length) := by
  rw [loop6]; simp [readHex_hexStr g hg _ (.inr ⟨_, rfl⟩), hexStr_ne_nil g, grp]

theorem loop6_groups (gs : List Nat) (hne : gs ≠ []) (hlt : ∀ g ∈ gs, g < 65536) (f : Nat) (hf : gs.length ≤ f)
    (ip : List Byte) (ell : Option Nat) :
    loop6 f (txt gs) ip ell = some ([], ip ++ gbytes gs, ell) := by
  induction gs generalizing f ip with
  | nil => exact absurd rfl hne
  | cons g r ih =>
    have hg : g < 65536 := hlt g (by simp)
    obtain ⟨f', rfl⟩ : ∃ f', f = f' + 1 := ⟨f - 1, by simp at hf; omega⟩
    cases r with
    | nil => rw [txt_one, loop6_group_end g hg]; simp [gbytes]
    | cons g2 r =>
      obtain ⟨c2, r2, hc2, hh⟩ := txt_cons_head g2 r
      rw [txt_cons2, hc2, loop6_group_colon g hg c2 r2 hh, ← hc2,
        ih (by simp) (fun x hx => hlt x (by simp [hx])) f' (by simp at hf ⊢; omega)]
      simp [gbytes]

theorem loop6_groups_ell (gs : List Nat) (hne : gs ≠ []) (hlt : ∀ g ∈ gs, g < 65536) (f : Nat) (hf : gs.length ≤ f)
    (ip : List Byte) (t : Str) :
    loop6 f (txt gs ++ ':' :: ':' :: t) ip none =
      if t = [] then some ([], ip ++ gbytes gs, some (ip ++ gbytes gs).length)
      else loop6 (f - gs.length) t (ip ++ gbytes gs) (some (ip ++ gbytes gs).length) := by
  induction gs generalizing f ip with
  | nil => exact absurd rfl hne
  | cons g r ih =>
    have hg : g < 65536 := hlt g (by simp)
    obtain ⟨f', rfl⟩ : ∃ f', f = f' + 1 := ⟨f - 1, by simp at hf; omega⟩
    cases r with
    | nil => rw [txt_one, loop6_group_ell g hg]; simp [gbytes]
    | cons g2 r =>
      obtain ⟨c2, r2, hc2, hh⟩ := txt_cons_head g2 r
      rw [txt_cons2, List.append_assoc, List.cons_append, hc2, List.cons_append,
        loop6_group_colon g hg c2 _ hh, ← List.cons_append, ← hc2,
        ih (by simp) (fun x hx => hlt x (by simp [hx])) f' (by simp at hf ⊢; omega)]
      simp [gbytes]

/-- the test `if r = [] …` that precedes the loop after a `::`, and the loop, in one: nothing
    or a list of groups follows -/
theorem loop6_groups_opt (gs : List Nat) (hlt : ∀ g ∈ gs, g < 65536) (f : Nat) (hf : gs.length ≤ f)
    (ip : List Byte) (ell : Option Nat) :
    (if txt gs = [] then some ([], ip, ell) else loop6 f (txt gs) ip ell) =
      some ([], ip ++ gbytes gs, ell) := by
  cases gs with
  | nil => simp [txt_nil, gbytes]
  | cons g r =>
    obtain ⟨c, t, hc, _⟩ := txt_cons_head g r
    rw [if_neg (by rw [hc]; simp)]
    exact loop6_groups _ (by simp) hlt f hf ip ell

/-! ## the zero run chosen by the printer -/

theorem zeroRun_spec : ∀ (l : List Nat), zeroRun l ≤ l.length ∧ l.take (zeroRun l) = List.replicate (zeroRun l) 0
  | [] => by simp [zeroRun]
  | 0 :: r => by
    have := zeroRun_spec r
    constructor
    · simp only [zeroRun, List.length_cons]; omega
    · simp only [zeroRun, List.take_succ_cons, List.replicate_succ, this.2]
  | (n + 1) :: r => by simp [zeroRun]

/-- what `bestZeroRun` returns is a run of at least two zero groups starting at `s` -/
def RunOK (g : List Nat) (b : Option (Nat × Nat)) : Prop :=
  ∀ s e, b = some (s, e) → e = s + zeroRun (g.drop s) ∧ 2 ≤ zeroRun (g.drop s)

theorem bestZeroRun_fold (g : List Nat) (is : List Nat) (b : Option (Nat × Nat)) (hb : RunOK g b) :
    RunOK g (is.foldl (fun best i =>
      let l := zeroRun (g.drop i)
      let cur := match best with | some (s, e) => e - s | none => 0
      if l ≥ 2 ∧ l > cur then some (i, i + l) else best) b) := by
  induction is generalizing b with
  | nil => exact hb
  | cons i is ih =>
    simp only [List.foldl_cons]
    apply ih
    generalize (match b with | some (s, e) => e - s | none => 0) = cur
    by_cases h : zeroRun (g.drop i) ≥ 2 ∧ zeroRun (g.drop i) > cur
    · rw [if_pos h]; intro s e he; cases he; exact ⟨rfl, h.1⟩
    · rw [if_neg h]; exact hb

theorem bestZeroRun_spec (g : List Nat) (s e : Nat) (h : bestZeroRun g = some (s, e)) :
    s + 2 ≤ e ∧ e ≤ g.length ∧ g = g.take s ++ List.replicate (e - s) 0 ++ g.drop e := by
  have hok := bestZeroRun_fold g (List.range g.length) none (fun _ _ h => by cases h)
  obtain ⟨he, h2⟩ := hok s e h
  have hz := zeroRun_spec (g.drop s)
  have hlen : zeroRun (g.drop s) ≤ g.length - s := by simpa using hz.1
  have hs : s ≤ g.length := by
    rcases Nat.lt_or_ge g.length s with hlt | hge
    · rw [List.drop_eq_nil_of_le (by omega)] at h2; simp [zeroRun] at h2
    · exact hge
  refine ⟨by omega, by omega, ?_⟩
  have e1 : e - s = zeroRun (g.drop s) := by omega
  rw [e1, ← hz.2]
  have e2 : g.drop e = (g.drop s).drop (zeroRun (g.drop s)) := by
    rw [List.drop_drop, he]
  rw [e2, List.append_assoc, List.take_append_drop, List.take_append_drop]

/-! ## `ParseAddr` / `parseIPv6` on a text of hex digits and colons -/

def HC (c : Char) : Prop := (hexVal6 c).isSome = true ∨ c = ':'

theorem HC_ne_pct (c : Char) (h : HC c) : c ≠ '%' ∧ c ≠ '.' := by
  rcases h with h | h
  · exact ⟨(hex_ne c h).2.2, (hex_ne c h).1⟩
  · subst h; decide

theorem txt_chars (gs : List Nat) : ∀ c ∈ txt gs, HC c := by
  induction gs with
  | nil => intro c hc; cases hc
  | cons g r ih =>
    cases r with
    | nil => intro c hc; exact .inl (hex_of_mem_hexStr g c hc)
    | cons g2 r =>
      intro c hc
      rw [txt_cons2] at hc
      rcases List.mem_append.mp hc with hc | hc
      · exact .inl (hex_of_mem_hexStr g c hc)
      · rcases List.mem_cons.mp hc with rfl | hc
        · exact .inr rfl
        · exact ih c hc

theorem txt_eq_nil (gs : List Nat) (h : txt gs = []) : gs = [] := by
  cases gs with
  | nil => rfl
  | cons g r => obtain ⟨c, t, hc, _⟩ := txt_cons_head g r; rw [hc] at h; cases h

theorem no_pct (s : Str) (h : ∀ c ∈ s, HC c) : s.contains '%' = false := by
  cases hc : s.contains '%' with
  | false => rfl
  | true =>
    have : '%' ∈ s := by simpa using hc
    exact absurd rfl (HC_ne_pct _ (h _ this)).1

theorem dispatch_v6 (s t : Str) (hall : ∀ c ∈ t, HC c) (hc : ':' ∈ t) : dispatch s t = parseV6 s := by
  induction t with
  | nil => cases hc
  | cons c r ih =>
    have h1 := HC_ne_pct c (hall c (by simp))
    by_cases hcc : c = ':'
    · simp [dispatch, hcc]
    · simp only [dispatch, h1.2, hcc, h1.1, if_false]
      rcases List.mem_cons.mp hc with h | h
      · exact absurd h.symm hcc
      · exact ih (fun c' hc' => hall c' (by simp [hc'])) h

theorem parseV6_plain (s : Str) (hz : s.contains '%' = false) (hh : ∀ c r, s = c :: r → c ≠ ':') :
    parseV6 s = expand6 (loop6 8 s [] none) := by
  unfold parseV6
  rw [hz]
  simp only [Bool.false_eq_true, if_false]
  split
  · rename_i c1 c2 r
    have := hh c1 (c2 :: r) rfl
    simp [this]
  · rfl

theorem parseV6_ell (r : Str) (hz : (':' :: ':' :: r).contains '%' = false) :
    parseV6 (':' :: ':' :: r) =
      if r = [] then some (List.replicate 16 0) else expand6 (loop6 8 r [] (some 0)) := by
  unfold parseV6
  rw [hz]
  simp

theorem expand6_ell (A B : List Byte) (hl : A.length + B.length < 16) :
    expand6 (some ([], A ++ B, some A.length)) =
      some (A ++ List.replicate (16 - (A.length + B.length)) 0 ++ B) := by
  simp [expand6, hl]

/-! ## the round trip -/

/-- `parseIPv6` on two lists of printed groups with `::` in between (either may be empty) -/
theorem parseV6_ell_groups (A B : List Nat) (hA : ∀ g ∈ A, g < 65536) (hB : ∀ g ∈ B, g < 65536)
    (hlen : A.length + B.length < 8) :
    parseV6 (txt A ++ ':' :: ':' :: txt B) =
      some (gbytes A ++ List.replicate (16 - ((gbytes A).length + (gbytes B).length)) 0 ++ gbytes B) := by
  have hch : ∀ c ∈ txt A ++ ':' :: ':' :: txt B, HC c := by
    simp only [List.forall_mem_append, List.forall_mem_cons]
    exact ⟨txt_chars A, .inr rfl, .inr rfl, txt_chars B⟩
  have hz := no_pct _ hch
  have hl : (gbytes A).length + (gbytes B).length < 16 := by rw [gbytes_length, gbytes_length]; omega
  cases A with
  | nil =>
    rw [txt_nil, List.nil_append] at hz ⊢
    rw [parseV6_ell _ hz]
    by_cases hB' : txt B = []
    · rw [if_pos hB', txt_eq_nil B hB']; rfl
    · have := loop6_groups_opt B hB 8 (by omega) [] (some 0)
      rw [if_neg hB'] at this
      rw [if_neg hB', this]
      exact expand6_ell [] (gbytes B) hl
  | cons a A' =>
    obtain ⟨c, t, hc, hh⟩ := txt_cons_head a A'
    rw [parseV6_plain _ hz (fun c' t' e => by rw [hc] at e; cases e; exact (hex_ne _ hh).2.1),
      loop6_groups_ell _ (by simp) hA 8 (by omega) [] (txt B)]
    rw [loop6_groups_opt B hB _ (by simp at hlen ⊢; omega), List.nil_append]
    exact expand6_ell _ _ hl

/-- the text the printer makes of eight groups (`v6String_eq`) parses back to their bytes -/
theorem v6_roundtrip (g : List Nat) (h8 : g.length = 8) (hlt : ∀ x ∈ g, x < 65536) :
    parseIP (match bestZeroRun g with
      | some (s, e) => txt (g.take s) ++ [':', ':'] ++ txt (g.drop e)
      | none => txt g) = some (gbytes g) := by
  cases hb : bestZeroRun g with
  | none =>
    simp only
    have hch := txt_chars g
    obtain ⟨a, b, r, rfl⟩ : ∃ a b r, g = a :: b :: r := by
      match g, h8 with
      | a :: b :: r, _ => exact ⟨a, b, r, rfl⟩
    have hcolon : ':' ∈ txt (a :: b :: r) := by rw [txt_cons2]; simp
    rw [parseIP, dispatch_v6 _ _ hch hcolon, parseV6_plain _ (no_pct _ hch)]
    · rw [loop6_groups _ (by simp) hlt 8 (by omega)]
      simp [expand6, gbytes_length, h8]
    · intro c t hct
      obtain ⟨c', t', hc', hh⟩ := txt_cons_head a (b :: r)
      rw [hc'] at hct; cases hct
      exact (hex_ne _ hh).2.1
  | some p =>
    obtain ⟨s, e⟩ := p
    obtain ⟨hse, he8, hg⟩ := bestZeroRun_spec g s e hb
    have hA : (g.take s).length = s := by simp; omega
    have hB : (g.drop e).length = 8 - e := by simp; omega
    have hch : ∀ c ∈ txt (g.take s) ++ ':' :: ':' :: txt (g.drop e), HC c := by
      simp only [List.forall_mem_append, List.forall_mem_cons]
      exact ⟨txt_chars _, .inr rfl, .inr rfl, txt_chars _⟩
    simp only [List.append_assoc, List.cons_append, List.nil_append]
    rw [parseIP, dispatch_v6 _ _ hch (by simp),
      parseV6_ell_groups _ _ (fun x hx => hlt x (List.mem_of_mem_take hx))
        (fun x hx => hlt x (List.mem_of_mem_drop hx)) (by omega)]
    -- the zero bytes put in for `::` are those of the zero groups left out
    conv => rhs; rw [hg, gbytes_append, gbytes_append, gbytes_replicate_zero]
    rw [gbytes_length, gbytes_length, hA, hB]
    congr 4
    omega

theorem v6String_eq (ip : IP) :
    v6String ip = (match bestZeroRun (groups ip) with
      | some (s, e) => txt ((groups ip).take s) ++ [':', ':'] ++ txt ((groups ip).drop e)
      | none => txt (groups ip)) := rfl

/-- **parseIP_v6String** — for EVERY 16-byte address, parsing the RFC 5952 text that the
    IPv6 printer of `IP.String` produces gives the address back, byte for byte. -/
theorem parseIP_v6String (ip : IP) (h16 : ip.length = 16) : parseIP (v6String ip) = some ip := by
  have := v6_roundtrip (groups ip) (by rw [groups_length, h16]) (groups_lt ip)
  rw [gbytes_groups ip (by rw [h16])] at this
  rw [v6String_eq]
  exact this

/-- **parseIP_ipString_v6** — `ParseIP(ip.String()) = ip` for every 16-byte address that is
    not IPv4-mapped (those print in IPv6 notation). -/
theorem parseIP_ipString_v6 (ip : IP) (h16 : ip.length = 16) (hm : ip.take 12 ≠ v4InV6Prefix) :
    parseIP (ipString ip) = some ip := by
  have h0 : ip.length ≠ 0 := by omega
  have h1 : ¬ (ip.length ≠ 4 ∧ ip.length ≠ 16) := by omega
  simp only [ipString, h0, h1, if_false, to4_plain16 ip h16 hm]
  exact parseIP_v6String ip h16

/-- **parseIP_ipString_16** — every 16-byte address is a fixed point of print-then-parse
    (IPv4-mapped ones print dotted and come back in the mapped form, which they already are). -/
theorem parseIP_ipString_16 (ip : IP) (h16 : ip.length = 16) : parseIP (ipString ip) = some ip := by
  by_cases hm : ip.take 12 = v4InV6Prefix
  · exact parseIP_ipString_mapped ip h16 hm
  · exact parseIP_ipString_v6 ip h16 hm

/-- **parseIP_ipString_parse** — canonicalisation is idempotent: whatever text `parseIP`
    accepts, the canonical text of the result parses to the same address. -/
theorem parseIP_ipString_parse (s : Str) (ip : IP) (h : parseIP s = some ip) :
    parseIP (ipString ip) = some ip :=
  parseIP_ipString_16 ip (parseIP_length s ip h)

/-- `IP.String` is injective on what `parseIP` returns: different addresses never share a text -/
theorem ipString_inj_parsed (s₁ s₂ : Str) (ip₁ ip₂ : IP) (h₁ : parseIP s₁ = some ip₁) (h₂ : parseIP s₂ = some ip₂)
    (h : ipString ip₁ = ipString ip₂) : ip₁ = ip₂ := by
  have a := parseIP_ipString_parse s₁ ip₁ h₁
  have b := parseIP_ipString_parse s₂ ip₂ h₂
  rw [h, b] at a
  exact (Option.some.inj a).symm

/-! ## non-vacuity -/

example : parseIP "2001:db8::1".toList = some [0x20, 0x01, 0x0d, 0xb8, 0, 0, 0, 0, 0, 0, 0, 0, 0, 0, 0, 1] := by lit_chars; decide +kernel
example : ipString [0x20, 0x01, 0x0d, 0xb8, 0, 0, 0, 0, 0, 0, 0, 0, 0, 0, 0, 1] = "2001:db8::1".toList := by lit_chars; decide +kernel
example : parseIP "1:0:0:2:0:0:0:3".toList = parseIP "1:0:0:2::3".toList := by lit_chars; decide +kernel
example : ipString [0, 1, 0, 0, 0, 0, 0, 2, 0, 0, 0, 0, 0, 0, 0, 3] = "1:0:0:2::3".toList := by lit_chars; decide +kernel
example : parseIP "::".toList = some (List.replicate 16 0) ∧ parseIP "::1".toList = some loopback6 := by lit_chars; decide +kernel
example : parseIP "1::".toList = some [0, 1, 0, 0, 0, 0, 0, 0, 0, 0, 0, 0, 0, 0, 0, 0] := by lit_chars; decide +kernel
example : parseIP "FE80::AbCd".toList = some [0xfe, 0x80, 0, 0, 0, 0, 0, 0, 0, 0, 0, 0, 0, 0, 0xab, 0xcd] := by lit_chars; decide +kernel
example : parseIP "::ffff:1.2.3.4".toList = some (v4 1 2 3 4) ∧ parseIP "::1.2.3.4".toList = some [0, 0, 0, 0, 0, 0, 0, 0, 0, 0, 0, 0, 1, 2, 3, 4] := by lit_chars; decide +kernel
example : parseIP "1:2:3:4:5:6:7::".toList = some [0, 1, 0, 2, 0, 3, 0, 4, 0, 5, 0, 6, 0, 7, 0, 0] := by lit_chars; decide +kernel
example : parseIP "1:2:3:4:5:6:7:8:9".toList = none ∧ parseIP ":::".toList = none ∧ parseIP "1::2::3".toList = none ∧
    parseIP "12345::".toList = none ∧ parseIP "1:2:3:4:5:6:7:8::".toList = none ∧ parseIP "::ffff:01.2.3.4".toList = none ∧
    parseIP "1:2:3:4:5:6:7:1.2.3.4".toList = none ∧ parseIP "fe80::1%eth0".toList = none ∧ parseIP "::g".toList = none := by lit_chars; decide +kernel

/-! ## a bad field after a dot is refused in IPv6 notation too (embedded IPv4) -/

theorem split_after (pre r q bad : Str) (h : pre ++ r = q ++ '.' :: bad) (hp : '.' ∉ pre) :
    ∃ q', r = q' ++ '.' :: bad := by
  induction pre generalizing q with
  | nil => exact ⟨q, h⟩
  | cons x pre ih =>
    cases q with
    | nil =>
      simp only [List.cons_append, List.nil_append, List.cons.injEq] at h
      exact absurd (by simp [h.1]) hp
    | cons y q =>
      simp only [List.cons_append, List.cons.injEq] at h
      exact ih q h.2 (fun hm => hp (by simp [hm]))

/-- on a text that contains `.bad` the loop, if it does not fail, leaves input unread -/
theorem loop6_rest_of_bad (bad : Str) (hb : BadField bad) (f : Nat) :
    ∀ (s q : Str) (ip : List Byte) (ell : Option Nat) (out : Str × List Byte × Option Nat),
      s = q ++ '.' :: bad → loop6 f s ip ell = some out → out.1 ≠ [] := by
  induction f with
  | zero =>
    intro s q ip ell out hs h
    simp only [loop6] at h; cases h
    rw [hs]; simp
  | succ f ih =>
    intro s q ip ell out hs h
    obtain ⟨acc, off, rst, hr, hcases⟩ := loop6_succ_some h
    obtain ⟨ds, hds, hall⟩ := readHex_split s 0 0 acc off rst hr
    rcases hcases with ⟨f4, hv, _, _⟩ | ⟨cs, r, _, hrst, hcs, hfin⟩
    · rw [hs, v4Fields_bad_after_dot q bad hb 0 0 []] at hv; cases hv
    · -- the dot is not among the hex digits and colons read in this iteration
      have hnd : '.' ∉ ds ++ cs := fun hm => by
        rcases List.mem_append.mp hm with hm | hm
        · exact (hex_ne _ (hall _ hm)).1 rfl
        · cases hcs _ hm
      have e : ds ++ cs ++ r = q ++ '.' :: bad := by rw [← hs, hds, hrst, List.append_assoc]
      obtain ⟨q', hq'⟩ := split_after _ _ _ _ e hnd
      rcases hfin with ⟨hr, _⟩ | h'
      · rw [hr] at hq'; simp at hq'
      · exact ih r q' _ _ out hq' h'

theorem parseV6_bad_after_dot (q bad : Str) (hb : BadField bad) : parseV6 (q ++ '.' :: bad) = none := by
  cases h : parseV6 (q ++ '.' :: bad) with
  | none => rfl
  | some ip =>
    rcases parseV6_cases h with ⟨hs, _⟩ | ⟨cs, r, ell, hs, hcs, h'⟩
    · have : '.' ∈ [':', ':'] := hs ▸ by simp
      simp at this
    · obtain ⟨q', hq'⟩ := split_after cs r q bad hs.symm (fun hm => by cases hcs _ hm)
      obtain ⟨_, _, hl, _⟩ := expand6_some h'
      exact absurd rfl (loop6_rest_of_bad bad hb 8 r q' [] ell _ hq' hl)

theorem dispatch_none (s t : Str) (h4 : parseV4 s = none) (h6 : parseV6 s = none) : dispatch s t = none := by
  induction t with
  | nil => rfl
  | cons c r ih => simp [dispatch, h4, h6, ih]

/-- **parseIP_bad_field_after_dot** — a field after a dot that the field parser refuses
    (leading zero, value above 255, …) makes the whole text unparsable, in IPv4 notation and as the
    embedded IPv4 of an IPv6 text alike: no hypothesis on what precedes the dot. -/
theorem parseIP_bad_field_after_dot (q bad : Str) (hb : BadField bad) : parseIP (q ++ '.' :: bad) = none := by
  apply dispatch_none
  · rw [parseV4, v4Fields_bad_after_dot q bad hb 0 0 []]
  · exact parseV6_bad_after_dot q bad hb

/-- a leading zero in any field after the first dot: `1.02.3.4`, `::ffff:1.2.3.04`, … -/
theorem parseIP_leading_zero_after_dot (q r : Str) (c : Char) (hd : isDig c = true) :
    parseIP (q ++ '.' :: '0' :: c :: r) = none :=
  parseIP_bad_field_after_dot q _ (badField_leading_zero c r hd)

/-- a value above 255 in any field after the first dot: `1.2.3.256`, `::ffff:1.999.3.4`, … -/
theorem parseIP_field_gt255_after_dot (q t : Str) (n : Nat) (hn : n > 255) :
    parseIP (q ++ '.' :: (decStr n ++ t)) = none :=
  parseIP_bad_field_after_dot q _ (badField_gt255 n hn t)

example : parseIP "::ffff:1.2.3.04".toList = none ∧ parseIP "::ffff:1.256.3.4".toList = none ∧ parseIP "1::1.2.3.0004".toList = none := by lit_chars; decide +kernel

end C10
