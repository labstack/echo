import EchoProofs.C16Ext
/-!
# C16 — `StaticDirectoryHandler(fsys, true)` (path unescaping disabled)

The exported handler behind `Echo.StaticFS` / `Group.StaticFS` has a second mode for applications whose
router already unescapes path parameters: the parameter is used as it is.  Mounted by hand
(`e.GET(prefix+"*", echo.StaticDirectoryHandler(fsys, true))`) it is a Static route like the others:
containment holds, and the positive clause holds WITHOUT the `%` restriction of known finding F18 (there
is no second decoding).
-/
namespace C16

/-- the unescaping handler is the raw handler on the decoded parameter -/
theorem C16_staticDirF_decoded (f : Faults) (t : Tree) (rs : List Str) (star p urlPath : Str)
    (h : unescape star = some p) : staticDirF f t rs star urlPath = staticDirRawF f t rs p urlPath := by
  unfold staticDirF staticDirRawF
  simp only [h]

/-- containment for the raw handler, any parameter, any failing files -/
theorem C16_raw_serves_inside (f : Faults) (t : Tree) (rs : List Str) (p urlPath : Str) (id : Nat)
    (h : (staticDirRawF f t rs p urlPath).2 = .file id) :
    ∃ L, (∀ s ∈ L, Normal s) ∧ look t (rs ++ L) = .file id :=
  C16_fs_serves_inside t rs _ urlPath id
    (.inr (fsFileF_file f t rs _ id (staticDirRawF_file f t rs p urlPath id h).1))

/-- an existing regular file under the root requested by its clean path is
    served, also when its name contains `%` (no hypothesis on `%`: F18 does not exist in this mode) -/
theorem C16_raw_serves_clean_path (t : Tree) (rs : List Str) (F : List Str) (id : Nat)
    (urlPath : Str) (lead : Bool)
    (hF : ∀ s ∈ F, Normal s) (hne : F ≠ [])
    (hutf : utf8Valid ((joinSep '/' F).map Char.toNat) = true)
    (hfile : look t (rs ++ F) = .file id) :
    staticDirRawF noFaults t rs ((if lead then ['/'] else []) ++ joinSep '/' F) urlPath =
      ([joinSep '/' F, joinSep '/' F], .file id) := by
  have hio : ioOpen t rs (joinSep '/' F) = .file id := (ioOpen_join t rs F hF hne hutf).trans hfile
  unfold staticDirRawF
  simp only [clean_trimPrefix_join F hF hne lead, hio]
  simp [fsFileF, openBy, hio, noFaults]

section Examples
private def S9 (s : String) : Str := s.toList
private def t9 : Tree := [(S9 "public", .dir), (S9 "public/100%.txt", .file 1), (S9 "public/pct%2e.txt", .file 2), (S9 "public/pct..txt", .file 3), (S9 "secret", .file 4)]

-- the name with a literal `%` is served as it is; the unescaping handler refuses / decodes it (F18)
example : staticDirRawF noFaults t9 [S9 "public"] (S9 "/100%.txt") (S9 "/s/100%.txt") = ([S9 "100%.txt", S9 "100%.txt"], .file 1) ∧
    staticDirF noFaults t9 [S9 "public"] (S9 "/100%.txt") (S9 "/s/100%.txt") = ([], .error500) ∧
    staticDirRawF noFaults t9 [S9 "public"] (S9 "/pct%2e.txt") (S9 "/s/pct%2e.txt") = ([S9 "pct%2e.txt", S9 "pct%2e.txt"], .file 2) ∧
    staticDirF noFaults t9 [S9 "public"] (S9 "/pct%2e.txt") (S9 "/s/pct%2e.txt") = ([S9 "pct..txt", S9 "pct..txt"], .file 3) ∧
    -- an encoded dot-dot is an ordinary (missing) name, a real one is refused by the file system
    staticDirRawF noFaults t9 [S9 "public"] (S9 "/%2e%2e/secret") (S9 "/s/%2e%2e/secret") = ([S9 "%2e%2e/secret"], .notFound404) ∧
    staticDirRawF noFaults t9 [S9 "public"] (S9 "/../secret") (S9 "/s/../secret") = ([S9 "../secret"], .notFound404) := by
  simp only [t9, S9]; lit_chars; decide +kernel
end Examples

end C16
