import EchoProofs.C04Cover
import EchoProofs.C04ScopeReq
import EchoProofs.Lit
/-!
# C04 — a `Group.Use` call takes the group's two catch-all patterns back

"… including requests that end in 404 inside the group."  The two `RouteNotFound` routes `prefix` and `prefix/*`
are the only thing that carries a group's middleware to its misses.  An application may have put a not-found
handler of its own on one of these patterns (through the group, through the Echo instance, through another
group) — with whatever middleware snapshot that registration had.  `Group.Use` registers the two routes AGAIN on
every call, as the last registrations of their method and pattern, and a re-registration replaces the earlier one.
So right after `Group.Use`, whatever the configuration was before the call, a request that the router dispatches to a
RouteNotFound route at one of the group's two patterns runs echo's NotFoundHandler under the group's WHOLE list (old
list ++ the middleware just added) — never an older handler, never an older (shorter) snapshot.
-/
namespace C04
open Router Router.Spec Router.Tree

theorem dedupLast_append_key (r : Route) (ys : List Route) : ∀ (xs : List Route),
    r ∈ dedupLast (xs ++ ys) → ys.any (sameKey r) = true → r ∈ dedupLast ys := by
  intro xs
  induction xs with
  | nil => exact fun hr _ => hr
  | cons x xs ih =>
    intro hr hk
    simp only [List.cons_append, dedupLast] at hr
    split at hr
    · exact ih hr hk
    · rename_i hany
      rcases List.mem_cons.mp hr with rfl | hr
      · exact absurd (by rw [List.any_append, hk, Bool.or_true]) hany
      · exact ih hr hk

theorem dedupLast_last (a r : Route) : ∀ (xs : List Route), r ∈ dedupLast (xs ++ [a]) → sameKey r a = true → r = a := by
  intro xs hr hk
  simpa [dedupLast] using dedupLast_append_key r [a] xs hr (by simpa using hk)

theorem dedupLast_last2 (a b r : Route) : ∀ (xs : List Route), r ∈ dedupLast (xs ++ [a, b]) → sameKey r a = true →
    r = a ∨ r = b := by
  intro xs hr hk
  simpa using dedupLast_subset _ r (dedupLast_append_key r [a, b] xs hr (by simp [hk]))

theorem normalizeSlash_length_star (p : Str) :
    (normalizeSlash (p ++ "/*".toList)).length ≠ (normalizeSlash p).length := by
  have hstar : "/*".toList = ['/', '*'] := rfl
  rw [hstar]
  cases p with
  | nil => simp [normalizeSlash]
  | cons ch rest =>
    simp only [List.cons_append, normalizeSlash]
    split <;> simp

theorem groupUse_appends (c : Cfg) (gid : Nat) (g : Group) (ms : List Mw) (hg : c.groups[gid]? = some g)
    (hne : g.mws ++ ms ≠ []) :
    (groupUse c gid ms).routes = c.routes ++
      [⟨if c.hosts.contains g.host then g.host else [], routeNotFound, normalizeSlash g.pfx, 0, true, g.mws ++ ms⟩,
       ⟨if c.hosts.contains g.host then g.host else [], routeNotFound, normalizeSlash (g.pfx ++ "/*".toList), 0, true,
          g.mws ++ ms⟩]
    ∧ (groupUse c gid ms).hosts = c.hosts := by
  have hemp : (g.mws ++ ms).isEmpty = false := by
    cases h : g.mws ++ ms with
    | nil => exact absurd h hne
    | cons _ _ => rfl
  simp [groupUse, hg, hemp, addRoute]

theorem tableOf_append2 (c c' : Cfg) (h : Str) (ra rb : RouteRec) (hr : c'.routes = c.routes ++ [ra, rb])
    (ha : ra.host = h) (hb : rb.host = h) :
    tableOf c' h = tableOf c h ++ [⟨ra.method, ra.path, c.routes.length⟩, ⟨rb.method, rb.path, c.routes.length + 1⟩] := by
  unfold tableOf
  rw [hr, List.zipIdx_append]
  simp [List.zipIdx_cons, ha, hb]

/-- **C04_use_reclaims_catchall** — `c` is ANY configuration (any history of registrations: the application's own
    `RouteNotFound` handlers on the group's patterns included), `g` one of its groups, `ms` the middleware handed to
    `Group.Use` (the list is non-empty afterwards).  In the configuration right after the call, take any request that
    the router of the group's host dispatches to a registered route `rr` whose method is RouteNotFound and whose
    pattern is one of the group's two catch-all patterns.  Then `rr` is the route this very call registered:
    echo's NotFoundHandler (`hid = 0`) under the group's whole list. -/
theorem C04_use_reclaims_catchall (c : Cfg) (gid : Nat) (g : Group) (ms : List Mw)
    (hg : c.groups[gid]? = some g) (hne : g.mws ++ ms ≠ [])
    (method path : Str) (rm : RouteMethod) (vals : List Str) (rr : RouteRec)
    (hok : okTable (tableOf (groupUse c gid ms) (if c.hosts.contains g.host then g.host else [])) = true)
    (hfind : find (build (tableOf (groupUse c gid ms) (if c.hosts.contains g.host then g.host else []))) method path
      (List.replicate (maxParam (tableOf (groupUse c gid ms) (if c.hosts.contains g.host then g.host else []))) [])
        = .dispatch rm vals)
    (hrr : (groupUse c gid ms).routes[rm.hid]? = some rr)
    (hm : rr.method = routeNotFound)
    (hp : rr.path = normalizeSlash g.pfx ∨ rr.path = normalizeSlash (g.pfx ++ "/*".toList)) :
    rr.hid = 0 ∧ rr.mws = g.mws ++ ms := by
  obtain ⟨hroutes, _⟩ := groupUse_appends c gid g ms hg hne
  generalize hh : (if c.hosts.contains g.host then g.host else []) = h' at *
  generalize hc' : groupUse c gid ms = c' at *
  have htab := tableOf_append2 c c' h' _ _ hroutes rfl rfl
  simp only at htab
  -- the dispatched record is `rr`, in force with its method and pattern
  obtain ⟨r0, hget, _, hrt, _⟩ := dispatch_route hok hfind
  obtain rfl : rr = r0 := Option.some.inj (hrr.symm.trans hget)
  rw [htab] at hrt
  -- it is enough that `rr` is the record with the number of one of the two routes this call appended
  have fin : ∀ k p', c'.routes[k]? = some ⟨h', routeNotFound, p', 0, true, g.mws ++ ms⟩ → rm.hid = k →
      rr.hid = 0 ∧ rr.mws = g.mws ++ ms := by
    intro k p' hk e
    rw [e, hk] at hrr
    cases hrr
    exact ⟨rfl, rfl⟩
  -- the last registration of `rr`'s key is one of these two
  rcases hp with hp | hp
  · have hk : sameKey ⟨rr.method, rr.path, rm.hid⟩ ⟨routeNotFound, normalizeSlash g.pfx, c.routes.length⟩ = true := by
      simp [sameKey, hm, hp]
    rcases dedupLast_last2 _ _ _ _ hrt hk with e | e
    · exact fin c.routes.length (normalizeSlash g.pfx) (by rw [hroutes]; simp) (congrArg Route.hid e)
    · -- the two patterns differ in length
      have : normalizeSlash g.pfx = normalizeSlash (g.pfx ++ "/*".toList) := hp.symm.trans (congrArg Route.path e)
      exact absurd (congrArg List.length this).symm (normalizeSlash_length_star g.pfx)
  · have hk : sameKey ⟨rr.method, rr.path, rm.hid⟩
        ⟨routeNotFound, normalizeSlash (g.pfx ++ "/*".toList), c.routes.length + 1⟩ = true := by
      simp [sameKey, hm, hp]
    rw [List.append_cons] at hrt
    exact fin (c.routes.length + 1) (normalizeSlash (g.pfx ++ "/*".toList)) (by rw [hroutes]; simp)
      (congrArg Route.hid (dedupLast_last _ _ _ hrt hk))

/-! ### the application's own not-found handler (hid 7, list `[3]` + its own `[4]`) on `/g/*`, then
`Use [5]`: the miss `/g/zzz` is answered by echo's NotFoundHandler under `[3, 5]` -/

def demoMiss : List Op :=
  [.group none "/g".toList [3], .add (some 0) routeNotFound "/*".toList 7 false [4]]

example : (selected (run demoMiss) [] "GET".toList "/g/zzz".toList) = (.hnd 7, false, [3, 4]) := by
  unfold demoMiss; lit_chars; decide +kernel
example : (selected (groupUse (run demoMiss) 0 [5]) [] "GET".toList "/g/zzz".toList) = (.rtr 404, true, [3, 5]) := by
  unfold demoMiss; lit_chars; decide +kernel
example : (selected (groupUse (run demoMiss) 0 [5]) [] "POST".toList "/g".toList) = (.rtr 404, true, [3, 5]) := by
  unfold demoMiss; lit_chars; decide +kernel

end C04
