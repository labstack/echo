import EchoModel.C17
import EchoProofs.Lit
/-!
# C17 — theorems: generated redirects stay on the same host

The statements quantify over *every* request path (arbitrary characters, arbitrary length),
every query string, every redirect code, every directory tree and every `*` parameter value.
`browserView` is the preprocessing of the WHATWG URL parser (strip leading/trailing C0
control or space, then remove every ASCII tab or newline).
-/
namespace C17

/-- what the property demands of a `Location` value: as a browser reads it, it starts with
    `/`, its second character is neither `/` nor `\`, and it has no scheme -/
def SameHost (loc : List Char) : Prop :=
  let l := browserView loc
  l.head? = some '/' ∧ l[1]? ≠ some '/' ∧ l[1]? ≠ some '\\' ∧ hasScheme l = false

/-- weaker form for request paths that start with `\` (or are `*`): the value has no scheme
    and its first two characters are not both slashes/backslashes, so a browser resolves it
    against the URL that was asked without taking a host from it -/
def StaysOnHost (loc : List Char) : Prop :=
  let l := browserView loc
  hasScheme l = false ∧ ¬ (∃ c0 c1 r, l = c0 :: c1 :: r ∧ isSlash c0 = true ∧ isSlash c1 = true)

/-- the query suffix the slash middlewares append -/
def queryPart (q : List Char) : List Char := if q.isEmpty then [] else '?' :: q

theorem withQuery_eq (p q : List Char) : withQuery p q = p ++ queryPart q := by
  unfold withQuery queryPart; split <;> simp

theorem queryPart_of_ne_nil {q : List Char} (h : q ≠ []) : queryPart q = '?' :: q := by
  cases q with
  | nil => exact absurd rfl h
  | cons _ _ => rfl

theorem head_filter_not (p : Char → Bool) (l : List Char) :
    (l.filter (fun c => !p c)).head? = (l.dropWhile p).head? := by
  induction l with
  | nil => rfl
  | cons a l ih => cases h : p a <;> simp [List.filter, List.dropWhile, h, ih]

theorem stripTrailing_cons_keep (p : Char → Bool) (c : Char) (r : List Char) (h : p c = false) :
    stripTrailing p (c :: r) = c :: stripTrailing p r := by
  simp only [stripTrailing]
  split
  · next heq => simp [h, heq]
  · rfl

theorem stripTrailing_prefix (p : Char → Bool) (l : List Char) :
    ∃ t, l = stripTrailing p l ++ t := by
  induction l with
  | nil => exact ⟨[], rfl⟩
  | cons c r ih =>
    obtain ⟨t, ht⟩ := ih
    simp only [stripTrailing]
    split
    · split
      · exact ⟨c :: r, rfl⟩
      · exact ⟨r, rfl⟩
    · exact ⟨t, congrArg (c :: ·) ht⟩

theorem dropWhile_head_append (p : Char → Bool) (a t : List Char) (c : Char)
    (h : (a.dropWhile p).head? = some c) : ((a ++ t).dropWhile p).head? = some c := by
  obtain ⟨xs, hd⟩ := List.head?_eq_some_iff.1 h
  rw [List.dropWhile_append, hd]
  rfl

theorem dropWhile_append_stop (f : Char → Bool) (a : List Char) (b : Char) (c : List Char)
    (hb : f b = false) : (a ++ b :: c).dropWhile f = a.dropWhile f ++ b :: c := by
  rw [List.dropWhile_append]
  split
  · next he => simp [List.isEmpty_iff.1 he, hb]
  · rfl

theorem dropWhile_head_not (f : Char → Bool) (l : List Char) (c : Char)
    (h : (l.dropWhile f).head? = some c) : f c = false := by
  have := List.head?_dropWhile_not f l
  rw [h] at this
  exact this

theorem dropWhile_dropWhile (p q : Char → Bool) (hpq : ∀ c, p c = false → q c = false) (l : List Char) :
    (l.dropWhile p).dropWhile q = l.dropWhile p := by
  cases hd : l.dropWhile p with
  | nil => rfl
  | cons y ys => simp [List.dropWhile, hpq y (dropWhile_head_not p l y (by rw [hd]; rfl))]

/-- the first character a browser will see after the first one: tabs and newlines skipped -/
def firstSig (r : List Char) : Option Char := (r.dropWhile isTabNL).head?

theorem isLead_eq_false {c : Char} : isLead c = false ↔ isSlash c = false ∧ isTabNL c = false :=
  Bool.or_eq_false_iff

theorem browserView_cons (c : Char) (r : List Char) (h0 : isC0Space c = false) (h1 : isTabNL c = false) :
    ∃ f, browserView (c :: r) = c :: f ∧ ∀ x, (c :: f)[1]? = some x → firstSig r = some x := by
  refine ⟨(stripTrailing isC0Space r).filter (fun c => !isTabNL c), ?_, fun x hx => ?_⟩
  · simp [browserView, List.dropWhile, h0, stripTrailing_cons_keep _ _ _ h0, h1]
  · rw [List.getElem?_cons_succ, ← List.head?_eq_getElem?, head_filter_not] at hx
    obtain ⟨t, ht⟩ := stripTrailing_prefix isC0Space r
    unfold firstSig
    rw [ht]
    exact dropWhile_head_append _ _ _ _ hx

theorem sameHost_of_firstSig (r : List Char)
    (h : ∀ c, firstSig r = some c → isSlash c = false) : SameHost ('/' :: r) := by
  obtain ⟨f, hv, hf⟩ := browserView_cons '/' r (by decide) (by decide)
  have hn : ∀ c, isSlash c = true → ('/' :: f)[1]? ≠ some c := fun c hc hx => by
    rw [h c (hf c hx)] at hc
    exact Bool.noConfusion hc
  unfold SameHost
  rw [hv]
  exact ⟨rfl, hn '/' (by decide), hn '\\' (by decide), by simp [hasScheme, isAlpha]⟩

theorem staysOnHost_cons (c : Char) (r : List Char) (h0 : isC0Space c = false) (h1 : isTabNL c = false)
    (ha : isAlpha c = false) (h : isSlash c = false ∨ ∀ x, firstSig r = some x → isSlash x = false) :
    StaysOnHost (c :: r) := by
  obtain ⟨f, hv, hf⟩ := browserView_cons c r h0 h1
  unfold StaysOnHost
  rw [hv]
  refine ⟨by simp [hasScheme, ha], ?_⟩
  rintro ⟨c0, c1, t, heq, hc0, hc1⟩
  injection heq with hc ht
  subst hc ht
  rcases h with h | h
  · rw [h] at hc0; exact Bool.noConfusion hc0
  · rw [h c1 (hf c1 rfl)] at hc1; exact Bool.noConfusion hc1

theorem SameHost.staysOnHost {loc : List Char} (h : SameHost loc) : StaysOnHost loc := by
  obtain ⟨_, h1, h2, h3⟩ := h
  refine ⟨h3, ?_⟩
  rintro ⟨c0, c1, t, heq, _, hc1⟩
  simp only [heq, List.getElem?_cons_succ, List.getElem?_cons_zero, ne_eq, Option.some.injEq] at h1 h2
  simp [isSlash, h1, h2] at hc1

theorem sanitizeURI_cons (c0 : Char) (rest : List Char) :
    sanitizeURI (c0 :: rest) =
      if isSlash c0 && (firstSig rest).any isSlash then '/' :: (c0 :: rest).dropWhile isLead else c0 :: rest := by
  simp only [sanitizeURI, firstSig]
  cases isSlash c0 with
  | false => rfl
  | true =>
    simp only [if_true, Bool.true_and]
    split
    · next heq => rw [heq]; rfl
    · next c1 t heq => rw [heq]; rfl

theorem sanitizeURI_fixed (c : Char) (r : List Char)
    (h : isSlash c = false ∨ ∀ x, firstSig r = some x → isSlash x = false) : sanitizeURI (c :: r) = c :: r := by
  rw [sanitizeURI_cons]
  split
  · next hc =>
    rw [Bool.and_eq_true, Option.any_eq_true] at hc
    obtain ⟨hc0, x, hx, hsx⟩ := hc
    rcases h with h | h
    · rw [h] at hc0; exact Bool.noConfusion hc0
    · rw [h x hx] at hsx; exact Bool.noConfusion hsx
  · rfl

/-- the shape of every result of `sanitizeURI` on an input that starts with a slash or
    backslash: the first character is kept or becomes `/`, and the first significant character
    after it is not a slash or backslash -/
theorem sanitize_shape (c0 : Char) (rest : List Char) (h0 : isSlash c0 = true) :
    ∃ c r, sanitizeURI (c0 :: rest) = c :: r ∧ (c = c0 ∨ c = '/') ∧
      ∀ x, firstSig r = some x → isSlash x = false := by
  rw [sanitizeURI_cons, h0, Bool.true_and]
  split
  · refine ⟨'/', _, rfl, Or.inr rfl, fun x hx => ?_⟩
    -- what is left of the leading run starts with no tab or newline, so `x` is its head
    rw [firstSig, dropWhile_dropWhile isLead isTabNL (fun _ h => (isLead_eq_false.1 h).2)] at hx
    exact (isLead_eq_false.1 (dropWhile_head_not _ _ _ hx)).1
  · next hs =>
    refine ⟨c0, rest, rfl, Or.inl rfl, fun x hx => ?_⟩
    rw [hx, Option.any_some] at hs
    exact Bool.eq_false_iff.2 hs

/-- the sanitiser is sufficient: every value that starts with `/` is, after
    `sanitizeURI`, a path-absolute reference for a browser — for all continuations -/
theorem C17_sanitize_same_host (uri : List Char) (h : uri.head? = some '/') :
    SameHost (sanitizeURI uri) := by
  obtain ⟨rest, rfl⟩ := List.head?_eq_some_iff.1 h
  obtain ⟨c, r, heq, hc, hr⟩ := sanitize_shape '/' rest (by decide)
  rw [heq]
  rcases hc with rfl | rfl <;> exact sameHost_of_firstSig r hr

theorem staysOnHost_sanitize (c : Char) (r : List Char) (h0 : isC0Space c = false) (h1 : isTabNL c = false)
    (ha : isAlpha c = false) : StaysOnHost (sanitizeURI (c :: r)) := by
  cases hs : isSlash c with
  | false =>
    rw [sanitizeURI_fixed c r (.inl hs)]
    exact staysOnHost_cons c r h0 h1 ha (.inl hs)
  | true =>
    obtain ⟨c', r', heq, hc, hr⟩ := sanitize_shape c r hs
    rw [heq]
    rcases hc with rfl | rfl
    · exact staysOnHost_cons _ r' h0 h1 ha (.inr hr)
    · exact (sameHost_of_firstSig r' hr).staysOnHost

/-- a value that starts with `\` never starts an authority after `sanitizeURI` -/
theorem C17_sanitize_backslash (uri : List Char) (h : uri.head? = some '\\') :
    StaysOnHost (sanitizeURI uri) := by
  obtain ⟨rest, rfl⟩ := List.head?_eq_some_iff.1 h
  exact staysOnHost_sanitize '\\' rest (by decide) (by decide) (by decide)

/-- `sanitizeURI` never touches anything from the first character on that is not a slash,
    backslash, tab or newline: in particular the query string is preserved -/
theorem sanitize_suffix (a : List Char) (b : Char) (c : List Char) (hb : isLead b = false) :
    ∃ pre, sanitizeURI (a ++ b :: c) = pre ++ b :: c := by
  cases a with
  | nil => exact ⟨[], sanitizeURI_fixed b c (.inl (isLead_eq_false.1 hb).1)⟩
  | cons c0 rest =>
    rw [List.cons_append, sanitizeURI_cons]
    split
    · exact ⟨'/' :: (c0 :: rest).dropWhile isLead, by
        rw [← List.cons_append, dropWhile_append_stop _ _ _ _ hb]; rfl⟩
    · exact ⟨c0 :: rest, rfl⟩

/-- an *ordinary* path: `/`, then (possibly after tabs/newlines, which a browser ignores) a
    character that is not a slash or backslash.  `/users`, `/a/b/`, `/x.y` … -/
def Ordinary (p : List Char) : Prop :=
  ∃ r c, p = '/' :: r ∧ firstSig r = some c ∧ isSlash c = false

theorem sanitize_ordinary (p s : List Char) (ho : Ordinary p) : sanitizeURI (p ++ s) = p ++ s := by
  obtain ⟨r, c, rfl, hc, hs⟩ := ho
  have hh : firstSig (r ++ s) = some c := dropWhile_head_append _ _ _ _ hc
  exact sanitizeURI_fixed '/' (r ++ s) (.inr fun x hx => by rw [hh] at hx; cases hx; exact hs)

/-- the repair is stable: sanitising twice changes nothing more -/
theorem C17_sanitize_idempotent (uri : List Char) :
    sanitizeURI (sanitizeURI uri) = sanitizeURI uri := by
  cases uri with
  | nil => rfl
  | cons c0 rest =>
    cases h0 : isSlash c0 with
    | false => rw [sanitizeURI_fixed c0 rest (.inl h0), sanitizeURI_fixed c0 rest (.inl h0)]
    | true =>
      obtain ⟨c, r, heq, _, hr⟩ := sanitize_shape c0 rest h0
      rw [heq]
      exact sanitizeURI_fixed c r (.inr hr)

/-- the Boolean `sameHost` the driver prints next to every `Location` is `SameHost` -/
theorem sameHost_iff (loc : List Char) : sameHost loc = true ↔ SameHost loc := by
  unfold sameHost SameHost
  cases browserView loc with
  | nil => simp
  | cons a t =>
    cases t with
    | nil => simp
    | cons b t' => simp [isSlash, and_assoc]

theorem redirect_loc {code : Nat} {url : List Char} {code' : Nat} {loc : List Char}
    (h : redirect code url = .redirect code' loc) : loc = url ∧ code' = code := by
  unfold redirect at h
  split at h
  · exact Out.noConfusion h
  · injection h with h1 h2; exact ⟨h2.symm, h1.symm⟩

theorem redirect_valid {code : Nat} (hc : 300 ≤ code ∧ code ≤ 308) (url : List Char) :
    redirect code url = .redirect code url := by
  have hr : (code < 300 || code > 308) = false := by simp; omega
  rw [redirect, hr]
  rfl

theorem redirect_ne_next {code : Nat} {url p u : List Char} : redirect code url ≠ .next p u := by
  unfold redirect
  split <;> exact Out.noConfusion

/-- what both slash middlewares do once the new path is settled: redirect to it (query appended, sanitised)
    or, with `RedirectCode` 0, hand it to the next handler -/
def sendTo (code : Nat) (p q : List Char) : Out :=
  if code != 0 then redirect code (sanitizeURI (p ++ queryPart q)) else .next p (p ++ queryPart q)

theorem addSlash_eq (code : Nat) (p q ru : List Char) :
    addSlash code p q ru = if endsWithSlash p then .next p ru else sendTo code (p ++ ['/']) q := by
  simp only [addSlash, sendTo, withQuery_eq]
  cases endsWithSlash p <;> rfl

theorem removeSlash_eq (code : Nat) (p q ru : List Char) :
    removeSlash code p q ru =
      if p.length > 1 && endsWithSlash p then sendTo code p.dropLast q else .next p ru := by
  simp only [removeSlash, sendTo, withQuery_eq]

theorem endsWithSlash_iff {p : List Char} : endsWithSlash p = true ↔ ∃ p0, p = p0 ++ ['/'] := by
  simp [endsWithSlash, List.getLast?_eq_some_iff]

theorem removeSlash_append_slash (code : Nat) {p : List Char} (hp : p ≠ []) (q ru : List Char) :
    removeSlash code (p ++ ['/']) q ru = sendTo code p q := by
  simp [removeSlash_eq, endsWithSlash_iff, hp]

/-- `addSlash c` and `removeSlash c` are the `…WithConfig` constructors with the default skipper -/
theorem addSlash_eq_slashMw (c : Nat) (p q u : List Char) :
    addSlash c p q u = slashMw (.addWith ⟨false, c⟩) p q u := by
  unfold slashMw; rfl

theorem removeSlash_eq_slashMw (c : Nat) (p q u : List Char) :
    removeSlash c p q u = slashMw (.removeWith ⟨false, c⟩) p q u := by
  unfold slashMw; rfl

theorem sendTo_zero (p q : List Char) : sendTo 0 p q = .next p (p ++ queryPart q) := rfl

theorem sendTo_redirect {code : Nat} {p q : List Char} {code' : Nat} {loc : List Char}
    (h : sendTo code p q = .redirect code' loc) : loc = sanitizeURI (p ++ queryPart q) ∧ code' = code := by
  unfold sendTo at h
  split at h
  · exact redirect_loc h
  · exact Out.noConfusion h

theorem sendTo_next {code : Nat} {p q p' u : List Char} (h : sendTo code p q = .next p' u) : p' = p := by
  unfold sendTo at h
  split at h
  · exact absurd h redirect_ne_next
  · injection h with h1 _; exact h1.symm

theorem sendTo_ordinary {code : Nat} {p : List Char} (ho : Ordinary p) (hc : 300 ≤ code ∧ code ≤ 308)
    (s q : List Char) : sendTo code (p ++ s) q = .redirect code (p ++ s ++ queryPart q) := by
  have hne : (code != 0) = true := by simp; omega
  rw [sendTo, if_pos hne, List.append_assoc, sanitize_ordinary p _ ho, redirect_valid hc]

theorem Ordinary.ne_nil {p : List Char} (ho : Ordinary p) : p ≠ [] := by
  obtain ⟨r, c, rfl, _⟩ := ho
  exact List.cons_ne_nil _ _

/-- a slash middleware hands the request on as it came, or settles on a new path; the new path, however it
    is continued, starts with the first character of the request path (with `/` if that is empty) -/
theorem slashMw_cases (k : SlashCtor) (p q u : List Char) :
    slashMw k p q u = .next p u ∨
    ∃ p', (∀ s, (p' ++ s).head? = (p ++ ['/']).head?) ∧ slashMw k p q u = sendTo k.config.code p' q := by
  unfold slashMw
  cases k.config.skip with
  | true => exact .inl rfl
  | false =>
    cases k.isAdd with
    | true =>
      rw [addSlash_eq]
      cases endsWithSlash p with
      | true => exact .inl rfl
      | false => exact .inr ⟨p ++ ['/'], fun s => by cases p <;> rfl, rfl⟩
    | false =>
      rw [removeSlash_eq]
      simp only [Bool.false_eq_true, if_false]
      split
      · next hc =>
        -- `p` is `p0 ++ "/"` with `p0` non-empty, and `p0` is the new path
        rw [Bool.and_eq_true, decide_eq_true_eq] at hc
        obtain ⟨p0, rfl⟩ := endsWithSlash_iff.1 hc.2
        refine .inr ⟨p0, fun s => ?_, by rw [List.dropLast_concat]⟩
        cases p0 with
        | nil => exact absurd hc.1 (by decide)
        | cons _ _ => rfl
      · exact .inl rfl

theorem slashMw_redirect {k : SlashCtor} {p q u : List Char} {code : Nat} {loc : List Char}
    (h : slashMw k p q u = .redirect code loc) :
    ∃ p', loc = sanitizeURI (p' ++ queryPart q) ∧ (p' ++ queryPart q).head? = (p ++ ['/']).head? := by
  rcases slashMw_cases k p q u with hn | ⟨p', hp', hs⟩
  · rw [hn] at h; exact Out.noConfusion h
  · rw [hs] at h; exact ⟨p', (sendTo_redirect h).1, hp' _⟩

theorem slashMw_next {k : SlashCtor} {p q u p' u' : List Char} (h : slashMw k p q u = .next p' u') :
    (p' ++ ['/']).head? = (p ++ ['/']).head? := by
  rcases slashMw_cases k p q u with hn | ⟨p'', hp', hs⟩
  · rw [hn] at h; injection h with h1 _; rw [h1]
  · rw [hs] at h; rw [sendTo_next h]; exact hp' _

theorem slashMw_forwards {k : SlashCtor} (hk : k.config.code = 0) (p q u : List Char) (code : Nat)
    (loc : List Char) : slashMw k p q u ≠ .redirect code loc := by
  intro h
  rcases slashMw_cases k p q u with hn | ⟨p', _, hs⟩
  · rw [hn] at h; exact Out.noConfusion h
  · rw [hs, hk, sendTo_zero] at h; exact Out.noConfusion h

theorem slashMw_query {k : SlashCtor} {p q u : List Char} {code : Nat} {loc : List Char}
    (h : slashMw k p q u = .redirect code loc) (hq : q ≠ []) : ∃ pre, loc = pre ++ '?' :: q := by
  obtain ⟨p', rfl, _⟩ := slashMw_redirect h
  rw [queryPart_of_ne_nil hq]
  exact sanitize_suffix p' '?' q (by decide)

/-- `AddTrailingSlash()` and `RemoveTrailingSlash()` never produce
    a `Location` at all: they rewrite the path and hand the request on -/
theorem C17_plain_ctor_forwards (p q u : List Char) :
    slashMw .add p q u = addSlash 0 p q u ∧ slashMw .remove p q u = removeSlash 0 p q u ∧
    (∀ code loc, slashMw .add p q u ≠ .redirect code loc) ∧
    (∀ code loc, slashMw .remove p q u ≠ .redirect code loc) :=
  ⟨rfl, rfl, slashMw_forwards rfl p q u, slashMw_forwards rfl p q u⟩

/-- a request the `Skipper` excludes reaches the next handler as it came -/
theorem C17_skipped_untouched (k : SlashCtor) (p q u : List Char) (h : k.config.skip = true) :
    slashMw k p q u = .next p u := by
  simp [slashMw, h]

/-- AddTrailingSlash: an ordinary path without trailing slash is redirected
    to exactly the path + `/` + the unchanged query -/
theorem C17_ordinary_add (code : Nat) (p q ru : List Char) (ho : Ordinary p)
    (hs : endsWithSlash p = false) (hc : 300 ≤ code ∧ code ≤ 308) :
    addSlash code p q ru = .redirect code (p ++ ['/'] ++ queryPart q) := by
  rw [addSlash_eq, hs]
  exact sendTo_ordinary ho hc ['/'] q

/-- RemoveTrailingSlash: an ordinary path followed by `/` is redirected to
    exactly the path + the unchanged query -/
theorem C17_ordinary_remove (code : Nat) (p q ru : List Char) (ho : Ordinary p)
    (hc : 300 ≤ code ∧ code ≤ 308) :
    removeSlash code (p ++ ['/']) q ru = .redirect code (p ++ queryPart q) := by
  rw [removeSlash_append_slash code ho.ne_nil]
  simpa using sendTo_ordinary ho hc [] q

/-- forwarding mode (`RedirectCode` 0): the next handler sees the same target, unsanitised -/
theorem C17_ordinary_forward (p q ru : List Char) (hs : endsWithSlash p = false) :
    addSlash 0 p q ru = .next (p ++ ['/']) (p ++ ['/'] ++ queryPart q) ∧
    (p ≠ [] → removeSlash 0 (p ++ ['/']) q ru = .next p (p ++ queryPart q)) :=
  ⟨by rw [addSlash_eq, hs]; rfl, fun hp => removeSlash_append_slash 0 hp q ru⟩

/-- paths that need no change are handed on untouched (no redirect at all) -/
theorem C17_no_change (code : Nat) (p q ru : List Char) :
    (endsWithSlash p = true → addSlash code p q ru = .next p ru) ∧
    (endsWithSlash p = false → removeSlash code p q ru = .next p ru) :=
  ⟨fun h => by rw [addSlash_eq, h]; rfl, fun h => by rw [removeSlash_eq, h, Bool.and_false]; rfl⟩

/-- `C17_ordinary_add` and `C17_ordinary_remove` for the `…WithConfig` constructors, `Skipper` not
    excluding the request -/
theorem C17_ordinary_ctor (code : Nat) (p q ru : List Char) (ho : Ordinary p)
    (hc : 300 ≤ code ∧ code ≤ 308) :
    (endsWithSlash p = false →
      slashMw (.addWith ⟨false, code⟩) p q ru = .redirect code (p ++ ['/'] ++ queryPart q)) ∧
    slashMw (.removeWith ⟨false, code⟩) (p ++ ['/']) q ru = .redirect code (p ++ queryPart q) := by
  rw [← addSlash_eq_slashMw, ← removeSlash_eq_slashMw]
  exact ⟨fun hs => C17_ordinary_add code p q ru ho hs hc, C17_ordinary_remove code p q ru ho hc⟩

/-- the query string is copied byte for byte, whatever its bytes are
    (`%`, `%zz`, `;`, `&&`, `=` — nothing is parsed): for an ordinary path and a valid code the
    target is exactly path ± `/` followed by `?` and the query -/
theorem C17_query_bytes (code : Nat) (p q ru : List Char) (ho : Ordinary p) (hq : q ≠ [])
    (hc : 300 ≤ code ∧ code ≤ 308) :
    (endsWithSlash p = false →
      slashMw (.addWith ⟨false, code⟩) p q ru = .redirect code (p ++ '/' :: '?' :: q)) ∧
    slashMw (.removeWith ⟨false, code⟩) (p ++ ['/']) q ru = .redirect code (p ++ '?' :: q) := by
  have h := C17_ordinary_ctor code p q ru ho hc
  rw [queryPart_of_ne_nil hq, List.append_assoc] at h
  exact h

/-! ## the static handler

The index page `index.html` is the one file name the static handler gives a meaning of its own (it is what a
directory request is answered with).  Asked for by name it is a regular file like any other: the handler serves
it and produces no `Location` at all — whatever `URL.Path` looked like, so also for `//example.com/../index.html`.
The only redirect of the handler is the directory redirect, and it is `sanitizeURI (URL.Path ++ "/")`. -/

theorem fsFile_ne_redirect (t : Tree) (name : List Char) (code : Nat) (loc : List Char) :
    fsFile t name ≠ .redirect code loc := by
  unfold fsFile
  split
  · exact Out.noConfusion
  · exact Out.noConfusion
  · split <;> exact Out.noConfusion

theorem staticServe_redirect {t : Tree} {p up : List Char} {code : Nat} {loc : List Char}
    (h : staticServe t p up = .redirect code loc) :
    stat t (clean (trimPrefixSlash p)) = .dir ∧ endsWithSlash up = false ∧ up ≠ [] ∧
      code = 301 ∧ loc = sanitizeURI (up ++ ['/']) := by
  simp only [staticServe] at h
  split at h
  · exact Out.noConfusion h
  · split at h
    · next hc =>
      simp only [Bool.and_eq_true, beq_iff_eq, Bool.not_eq_true', List.isEmpty_eq_false_iff] at hc
      obtain ⟨hl, hcode⟩ := redirect_loc h
      exact ⟨hc.1.1, hc.2, hc.1.2, hcode, hl⟩
    · exact absurd h (fsFile_ne_redirect _ _ _ _)

/-- a request whose cleaned file name is a regular file of the tree is answered
    with that file, for every request path: no redirect, hence no `Location`. -/
theorem C17_static_file_no_redirect (t : Tree) (p up : List Char)
    (h : stat t (clean (trimPrefixSlash p)) = .file) : staticServe t p up = .file := by
  simp only [staticServe, h, fsFile]
  simp

/-- if the static handler (with or without path unescaping) redirects, then the
    name asked for is a DIRECTORY of the tree, the request path does not end in `/`, the code is 301 and the
    target is the sanitised request path plus `/`.  In particular no file name (no `…/index.html`) is ever
    redirected. -/
theorem C17_static_redirect_only_dir (d : Bool) (t : Tree) (param up : List Char) (code : Nat) (loc : List Char)
    (h : staticHandler d t param up = .redirect code loc) :
    ∃ p, (if d then some param else pathUnescape param) = some p ∧
      stat t (clean (trimPrefixSlash p)) = .dir ∧ endsWithSlash up = false ∧ up ≠ [] ∧
      code = 301 ∧ loc = sanitizeURI (up ++ ['/']) := by
  unfold staticHandler at h
  cases d with
  | true => exact ⟨param, rfl, staticServe_redirect h⟩
  | false =>
    simp only [Bool.false_eq_true, if_false, staticDir] at h ⊢
    split at h
    · exact Out.noConfusion h
    · next p hp => exact ⟨p, hp, staticServe_redirect h⟩

theorem staticHandler_loc {d : Bool} {t : Tree} {param up : List Char} {code : Nat} {loc : List Char}
    (h : staticHandler d t param up = .redirect code loc) : loc = sanitizeURI (up ++ ['/']) := by
  obtain ⟨_, _, _, _, _, _, hl⟩ := C17_static_redirect_only_dir d t param up code loc h
  exact hl

/-! ## every public entry point

`Req` covers the four constructors of the slash middlewares (with an arbitrary `Skipper`
answer), the static handler with and without path unescaping — and therefore `Echo.Static`,
`Echo.StaticFS`, `Group.Static`, `Group.StaticFS` at ANY mount point: below literal prefixes,
below path parameters (`/:site/*`, where the first segment of the request path is chosen by the
client) — and a slash middleware in front of a static route. -/

def Op.path : Op → List Char
  | .add _ p _ _ => p
  | .remove _ p _ _ => p
  | .static _ _ up => up

def Req.path : Req → List Char
  | .slash _ p _ _ => p
  | .static _ _ _ up => up
  | .preStatic _ p _ _ _ _ _ _ => p

/-- every `Location` any entry point can emit is `sanitizeURI` of a value that keeps the first
    character of the request path (and starts with `/` if the request path is empty) -/
theorem runReq_location {r : Req} {code : Nat} {loc : List Char} (h : runReq r = .redirect code loc) :
    ∃ u, loc = sanitizeURI u ∧ u.head? = (r.path ++ ['/']).head? := by
  cases r with
  | slash k p q u =>
    obtain ⟨p', hl⟩ := slashMw_redirect h
    exact ⟨_, hl⟩
  | static d t param up => exact ⟨_, staticHandler_loc h, rfl⟩
  | preStatic k p q u d t routed param =>
    simp only [runReq] at h
    split at h
    · next p' u' hn =>
      split at h
      · exact ⟨_, staticHandler_loc h, slashMw_next hn⟩
      · exact Out.noConfusion h
    · -- the slash middleware itself answered
      obtain ⟨p', hl⟩ := slashMw_redirect h
      exact ⟨_, hl⟩

/-- the three components of `Op` are entry points: `addSlash c` is `AddTrailingSlashWithConfig` with the
    default skipper, `staticDir` the static handler with path unescaping -/
theorem runOp_location {op : Op} {code : Nat} {loc : List Char} (h : runOp op = .redirect code loc) :
    ∃ u, loc = sanitizeURI u ∧ u.head? = (op.path ++ ['/']).head? := by
  cases op with
  | add c p q ru => rw [runOp, addSlash_eq_slashMw] at h; exact runReq_location (r := .slash _ p q ru) h
  | remove c p q ru => rw [runOp, removeSlash_eq_slashMw] at h; exact runReq_location (r := .slash _ p q ru) h
  | static t param up => exact runReq_location (r := .static false t param up) h

theorem head?_append_of_head? {p : List Char} {c : Char} (hp : p.head? = some c) (s : List Char) :
    (p ++ s).head? = some c := by
  rw [List.head?_append, hp]
  rfl

/-- `C17_same_host` for every public entry point: whichever constructor
    built the slash middleware, whatever its `Skipper` answers, wherever the static route is
    mounted (any `*` value), with or without path unescaping, with or without a slash middleware
    in front of the static route: a redirect for a request path that starts with `/` carries a
    `Location` that a browser reads as a path on the same host. -/
theorem C17_req_same_host (r : Req) (hp : r.path.head? = some '/')
    (code : Nat) (loc : List Char) (h : runReq r = .redirect code loc) : SameHost loc := by
  obtain ⟨u, rfl, hu⟩ := runReq_location h
  exact C17_sanitize_same_host u (hu.trans (head?_append_of_head? hp _))

theorem C17_req_same_host_empty (r : Req) (hp : r.path = [])
    (code : Nat) (loc : List Char) (h : runReq r = .redirect code loc) : SameHost loc := by
  obtain ⟨u, rfl, hu⟩ := runReq_location h
  rw [hp] at hu
  exact C17_sanitize_same_host u hu

/-- for every request whose path starts with `/` (every path a server can
    see except `""` and `*`), whichever of the three components of `Op` answers it, with whatever
    redirect code, query string, directory tree and wildcard value: if a redirect is produced,
    its `Location`, as a browser reads it, starts with `/`, does not continue with `/` or `\`,
    and has no scheme. -/
theorem C17_same_host (op : Op) (hp : op.path.head? = some '/')
    (code : Nat) (loc : List Char) (h : runOp op = .redirect code loc) : SameHost loc := by
  obtain ⟨u, rfl, hu⟩ := runOp_location h
  exact C17_sanitize_same_host u (hu.trans (head?_append_of_head? hp _))

/-- the same for an empty request path (absolute-form target without path): the only
    redirect is AddTrailingSlash's, to `/` -/
theorem C17_same_host_empty (op : Op) (hp : op.path = [])
    (code : Nat) (loc : List Char) (h : runOp op = .redirect code loc) : SameHost loc := by
  obtain ⟨u, rfl, hu⟩ := runOp_location h
  rw [hp] at hu
  exact C17_sanitize_same_host u hu

/-- request paths that start with `\` (cannot come from net/http, but `sanitizeURI` provides
    for them): the `Location` never names another host -/
theorem C17_backslash_path (op : Op) (hp : op.path.head? = some '\\')
    (code : Nat) (loc : List Char) (h : runOp op = .redirect code loc) : StaysOnHost loc := by
  obtain ⟨u, rfl, hu⟩ := runOp_location h
  exact C17_sanitize_backslash u (hu.trans (head?_append_of_head? hp _))

/-- `OPTIONS *`: AddTrailingSlash answers `*/`, a relative reference -/
theorem C17_star_path (code : Nat) (q ru : List Char) (code' : Nat) (loc : List Char)
    (h : addSlash code ['*'] q ru = .redirect code' loc) : StaysOnHost loc := by
  rw [addSlash_eq_slashMw] at h
  obtain ⟨p', rfl, hp'⟩ := slashMw_redirect h
  obtain ⟨r, hr⟩ := List.head?_eq_some_iff.1 hp'
  rw [hr]
  exact staysOnHost_sanitize '*' r (by decide) (by decide) (by decide)

/-- whatever the path, the query string arrives in the `Location`
    unchanged, behind a `?` -/
theorem C17_query_preserved (op : Op) (code : Nat) (loc : List Char)
    (h : runOp op = .redirect code loc) :
    match op with
    | .add _ _ q _ => q ≠ [] → ∃ pre, loc = pre ++ '?' :: q
    | .remove _ _ q _ => q ≠ [] → ∃ pre, loc = pre ++ '?' :: q
    | .static _ _ _ => True := by
  cases op with
  | add c p q ru => rw [runOp, addSlash_eq_slashMw] at h; exact slashMw_query h
  | remove c p q ru => rw [runOp, removeSlash_eq_slashMw] at h; exact slashMw_query h
  | static t param up => trivial

/-- whatever else the request URL carries (a bare `?`, a `RawPath`, a
    fragment, a host): a redirect of a slash middleware for a path starting with `/` stays on
    the host -/
theorem C17_url_same_host (k : SlashCtor) (u : URL) (ru : List Char) (hp : u.path.head? = some '/')
    (code : Nat) (loc : List Char) (h : slashURL k u ru = .redirect code loc) : SameHost loc :=
  C17_req_same_host (.slash k u.path u.queryString ru) hp code loc h

/-- the answer is a function of `Path` and `RawQuery` alone -/
theorem C17_url_parts_ignored (k : SlashCtor) (u u' : URL) (ru : List Char)
    (hp : u.path = u'.path) (hq : u.rawQuery = u'.rawQuery) : slashURL k u ru = slashURL k u' ru := by
  unfold slashURL URL.queryString; rw [hp, hq]

/-- a request target that ends in a bare `?` (empty query, `ForceQuery` set or
    not): for an ordinary path the target is exactly the path with the slash added or removed —
    not the original path, and without a `?` -/
theorem C17_bare_query (code : Nat) (u : URL) (ru : List Char) (ho : Ordinary u.path)
    (hq : u.rawQuery = []) (hc : 300 ≤ code ∧ code ≤ 308) :
    (endsWithSlash u.path = false →
      slashURL (.addWith ⟨false, code⟩) u ru = .redirect code (u.path ++ ['/'])) ∧
    slashURL (.removeWith ⟨false, code⟩) { u with path := u.path ++ ['/'] } ru = .redirect code u.path := by
  simpa [slashURL, URL.queryString, hq, queryPart] using C17_ordinary_ctor code u.path [] ru ho hc

/-- whatever protocol version the request names (HTTP/1.0, 0.9, 2),
    with or without a `Host` header, over TLS or not: the redirect of a slash middleware for a path
    starting with `/` is a path on the same host (in particular never `scheme://…`) -/
theorem C17_request_same_host (k : SlashCtor) (u : URL) (conn : Conn) (ru : List Char)
    (hp : u.path.head? = some '/') (code : Nat) (loc : List Char)
    (h : slashRequest k u conn ru = .redirect code loc) : SameHost loc :=
  C17_url_same_host k u ru hp code loc h

theorem C17_conn_ignored (k : SlashCtor) (u : URL) (conn conn' : Conn) (ru : List Char) :
    slashRequest k u conn ru = slashRequest k u conn' ru := rfl

/-- in a sequence of requests through one application every answer is
    the answer to that request alone: nothing of an earlier request (its query, its path, its
    target) can show up in a later `Location` -/
theorem C17_seq_independent (before after : List Req) (r : Req) :
    (runSeq (before ++ r :: after))[before.length]? = some (runReq r) := by
  simp [runSeq]

/-- every redirect in a sequence, for a request path starting with `/`,
    stays on the host -/
theorem C17_seq_same_host (rs : List Req) (i : Nat) (r : Req) (hr : rs[i]? = some r)
    (hp : r.path.head? = some '/') (code : Nat) (loc : List Char)
    (h : (runSeq rs)[i]? = some (.redirect code loc)) : SameHost loc := by
  simp only [runSeq, List.getElem?_map, hr, Option.map_some, Option.some.injEq] at h
  exact C17_req_same_host r hp code loc h

/-- `sanitizeURI` before the repair (finding F10), kept only as a witness: only the first two bytes were inspected -/
def sanitizeURIBefore (uri : List Char) : List Char :=
  match uri with
  | c0 :: c1 :: _ => if isSlash c0 && isSlash c1 then '/' :: uri.dropWhile isSlash else uri
  | _ => uri

/-- F10: `GET /%09/example.com` through AddTrailingSlash — the old sanitiser let the target
    through, and a browser reads `//example.com/` -/
example : sameHost (sanitizeURIBefore "/\t/example.com/".toList) = false := by lit_chars; decide +kernel
example : browserView (sanitizeURIBefore "/\t/example.com/".toList) = "//example.com/".toList := by lit_chars; decide +kernel
/-- …and the repaired one does not -/
example : sanitizeURI "/\t/example.com/".toList = "/example.com/".toList := by lit_chars; decide +kernel

/-! ## non-vacuity -/

-- a hostile path through each component produces a redirect, and the hypotheses hold
example : runOp (.add 301 "/\t/example.com".toList "next=//evil.com".toList []) =
    .redirect 301 "/example.com/?next=//evil.com".toList := by lit_chars; decide +kernel
example : runOp (.remove 308 "/\\\n/example.com/".toList [] []) =
    .redirect 308 "/example.com".toList := by lit_chars; decide +kernel
example : runOp (.static ⟨[".".toList], []⟩ "%09/example.com/%2e%2e/%2e%2e".toList "/\t/example.com/../..".toList) =
    .redirect 301 "/example.com/../../".toList := by lit_chars; decide +kernel
example : (Op.add 301 "/\t/example.com".toList [] []).path.head? = some '/' := by lit_chars; decide +kernel
example : Ordinary "/users".toList := by lit_chars; exact ⟨_, 'u', rfl, by decide, by decide⟩
example : addSlash 302 "/users".toList "a=1".toList [] = .redirect 302 "/users/?a=1".toList := by lit_chars; decide +kernel
example : removeSlash 302 "/users/".toList "a=1".toList [] = .redirect 302 "/users?a=1".toList := by lit_chars; decide +kernel
-- SameHost is not trivially true: the classic attack values fail it
example : sameHost "//example.com/".toList = false := by lit_chars; decide +kernel
example : sameHost "/\\example.com/".toList = false := by lit_chars; decide +kernel
example : sameHost " \t/\n/example.com/".toList = false := by lit_chars; decide +kernel
example : sameHost "https://example.com/".toList = false := by lit_chars; decide +kernel
example : sameHost "/example.com/".toList = true := by lit_chars; decide +kernel

/-! ## test vectors for the entry points -/

-- non-vacuity: the mount below a path parameter (`e.Group("/:site").Static("/", root)`,
-- request `/%5Cexample.com/a`): the router binds `*` = `a`, `URL.Path` is `/\example.com/a`
example : runReq (.static false ⟨[".".toList, "a".toList], []⟩ "a".toList "/\\example.com/a".toList) =
    .redirect 301 "/example.com/a/".toList := by lit_chars; decide +kernel
-- RemoveTrailingSlash() in front of a root mount: `//example.com/../../` loses its slash and
-- the static handler answers for the directory `.`
example : runReq (.preStatic .remove "//example.com/../".toList [] [] false ⟨[".".toList], []⟩ true
    "/example.com/..".toList) = .redirect 301 "/example.com/../".toList := by lit_chars; decide +kernel
example : runReq (.slash (.addWith ⟨true, 301⟩) "//example.com".toList [] "/x".toList) =
    .next "//example.com".toList "/x".toList := by lit_chars; decide +kernel
example : runReq (.static true ⟨[".".toList, "%2e%2e".toList], []⟩ "%2e%2e".toList "//%2e%2e".toList) =
    .redirect 301 "/%2e%2e/".toList := by lit_chars; decide +kernel

-- a bare `?`, and a URL with every other part set
example : slashURL (.addWith ⟨false, 301⟩) { path := "//example.com".toList, forceQuery := true } [] =
    .redirect 301 "/example.com/".toList := by lit_chars; decide +kernel
example : slashURL (.addWith ⟨false, 301⟩)
    { path := "/users".toList, forceQuery := true, fragment := "f".toList,
      host := "evil.com".toList, rawPath := "/users".toList } [] = .redirect 301 "/users/".toList := by lit_chars; decide +kernel

-- `/search?q=first` then `/search?q=second` through one AddTrailingSlash instance
example : runSeq [.slash (.addWith ⟨false, 301⟩) "/search".toList "q=first".toList [],
                  .slash (.addWith ⟨false, 301⟩) "/search".toList "q=second".toList []] =
    [.redirect 301 "/search/?q=first".toList, .redirect 301 "/search/?q=second".toList] := by lit_chars; decide +kernel
-- a query that url.ParseQuery rejects
example : slashMw (.addWith ⟨false, 301⟩) "/users".toList "discount=100%".toList [] =
    .redirect 301 "/users/?discount=100%".toList := by lit_chars; decide +kernel
-- HTTP/1.0 without Host
example : slashRequest (.addWith ⟨false, 301⟩) { path := "/example.com/x".toList } ⟨1, 0, [], false⟩ [] =
    .redirect 301 "/example.com/x/".toList := by lit_chars; decide +kernel

-- the index page behind a prefix that looks like another host and is cancelled by a dot segment: served, not redirected
example : runReq (.static false ⟨[".".toList, "a".toList], ["index.html".toList, "a/index.html".toList]⟩
    "/example.com/%2e%2e/index.html".toList "//example.com/../index.html".toList) = .file := by lit_chars; decide +kernel
example : runReq (.static false ⟨[".".toList, "a".toList], ["index.html".toList, "a/index.html".toList]⟩
    "\\example.com/../a/index.html".toList "/\\example.com/../a/index.html".toList) = .file := by lit_chars; decide +kernel
-- the directory of that index page IS redirected, and the target is sanitised
example : runReq (.static false ⟨[".".toList, "a".toList], ["index.html".toList, "a/index.html".toList]⟩
    "/example.com/../a".toList "//example.com/../a".toList) = .redirect 301 "/example.com/../a/".toList := by lit_chars; decide +kernel

end C17
