import EchoProofs.Lemmas.C16Path
import EchoProofs.Lit
/-!
# C16 — theorems about the static file serving model

Two lines of defence.  Every name the Static middleware opens lies lexically under `Root`
(`C16_mw_contained`, from `clean_rooted_no_dotdot` in `EchoProofs/Lemmas/C16Path.lean`); and
whatever name it is given, each modelled file system resolves it to a node below its own root
or to an error (`C16_fsopen_inside`).  Together: what is served is a node below the root
(`C16_mw_serves_inside`, `C16_mw_serves_under_root`, `C16_fs_serves_inside`).  The positive
clause is `C16_serves_clean_path`; the examples include the IgnoreBase rewrite as it was before
the F17 fix.
-/
namespace C16

/-- configuration sanity for the Index option: a relative path of real elements
    (`index.html`, `pages/home.html`) -/
def IndexOK (index : Str) : Prop := ∀ s ∈ splitOn '/' index, Normal s

/-- `http.Dir`-style containment: whatever name it is given
    (arbitrary bytes, any number of `..`), the path resolved below the directory consists of
    real elements only; it cannot leave the directory. -/
theorem C16_httpdir_contained (t : Tree) (rootSegs : List Str) (name : Str) :
    fsOpen .httpDir t rootSegs name = .invalid ∨
    ∃ L, (∀ s ∈ L, Normal s) ∧ fsOpen .httpDir t rootSegs name = look t (rootSegs ++ L) := by
  unfold fsOpen
  simp only
  split
  · exact .inr ⟨_, (clean_rooted_no_dotdot name).2.2.1, rfl⟩
  · exact .inl rfl

theorem normal_iff (s : Str) : Normal s ↔ normalSeg s = true ∧ '/' ∉ s := by
  simp [Normal, normalSeg, and_assoc]

theorem validPath_cases (n : Str) (h : validPath n = true) :
    n = dot ∨ ∀ s ∈ splitOn '/' n, Normal s := by
  simp only [validPath, Bool.and_eq_true, Bool.or_eq_true, beq_iff_eq, List.all_eq_true] at h
  exact h.2.imp_right fun h' s hs => (normal_iff s).mpr ⟨h' s hs, splitOn_no_sep '/' n s hs⟩

theorem validPath_segs (n : Str) (h : validPath n = true) :
    ∀ s ∈ (if n = dot then [] else splitOn '/' n), Normal s := by
  split
  · nofun
  · rename_i hd; exact (validPath_cases n h).resolve_left hd

/-- a name that passes `fs.ValidPath` (the check every `fs.FS` applies:
    os.DirFS, fs.Sub, embed.FS, fstest.MapFS) has no `..` element and is not absolute. -/
theorem C16_fs_contained (n : Str) (h : validPath n = true) :
    dotdot ∉ splitOn '/' n ∧ isRooted n = false := by
  rcases validPath_cases n h with rfl | hN
  · decide
  · exact ⟨fun hm => (hN _ hm).2.2.1 rfl, isRooted_of_normal hN⟩

/-- a `Look` that names a node of the tree below `rootSegs`, or no node at all -/
def Inside (t : Tree) (rootSegs : List Str) (l : Look) : Prop :=
  l = .invalid ∨ l = .notExist ∨ ∃ L, (∀ s ∈ L, Normal s) ∧ l = look t (rootSegs ++ L)

theorem ioOpen_inside (t : Tree) (rootSegs : List Str) (n : Str) : Inside t rootSegs (ioOpen t rootSegs n) := by
  unfold ioOpen
  split
  · rename_i hv; exact .inr (.inr ⟨_, validPath_segs n hv, rfl⟩)
  · exact .inl rfl

/-- `mapOpenError` walks the prefixes of the name and answers `ErrNotExist` or the original error, never a node -/
theorem mapOpenErr_go_inside (t : Tree) (rs parts : List Str) (k fuel : Nat) :
    Inside t rs (mapOpenErr.go t rs parts k fuel) := by
  fun_induction mapOpenErr.go t rs parts k fuel with
  | case1 | case2 | case6 => exact .inl rfl
  | case3 _ _ _ _ ih => exact ih
  | case4 _ _ _ _ _ _ ih => exact ih
  | case5 => exact .inr (.inl rfl)

theorem mapOpenErrN_go_inside (t : Tree) (rs parts : List Str) (k fuel : Nat) :
    Inside t rs (mapOpenErrN.go t rs parts k fuel) := by
  fun_induction mapOpenErrN.go t rs parts k fuel with
  | case1 | case2 | case6 => exact .inl rfl
  | case3 _ _ _ _ ih => exact ih
  | case4 _ _ _ _ _ _ ih => exact ih
  | case5 => exact .inr (.inl rfl)

theorem mapOpenErr_inside (t : Tree) (rs : List Str) (n : Str) : Inside t rs (mapOpenErr t rs n) :=
  mapOpenErr_go_inside ..

theorem mapOpenErrN_inside (t : Tree) (rs : List Str) (n : Str) : Inside t rs (mapOpenErrN t rs n) :=
  mapOpenErrN_go_inside ..

theorem ioOpenN_inside (t : Tree) (rs : List Str) (n : Str) : Inside t rs (ioOpenN t rs n) := by
  unfold ioOpenN
  split
  · exact .inl rfl
  · exact ioOpen_inside t rs n

/-- `http.FS` passes on what the `fs.FS` found and replaces its `ErrInvalid` by an answer `x` of its own -/
theorem inside_orElse {t : Tree} {rs : List Str} {l x : Look} (hl : Inside t rs l) (hx : Inside t rs x) :
    Inside t rs (match (generalizing := false) l with | .invalid => x | r => r) := by
  cases l with
  | invalid => exact hx
  | _ => exact hl

/-- whatever name the middleware passes, each of the modelled
    `http.FileSystem`s (`http.Dir`, `http.FS` over a validating `fs.FS`, `http.FS(MapFS)`) resolves
    it to a node below its own root or to an error: the second line of defence. -/
theorem C16_fsopen_inside (kind : FsKind) (t : Tree) (rootSegs : List Str) (name : Str) :
    Inside t rootSegs (fsOpen kind t rootSegs name) := by
  cases kind with
  | httpDir => exact (C16_httpdir_contained t rootSegs name).imp_right .inr
  | httpIoFS => exact inside_orElse (ioOpen_inside ..) (mapOpenErr_inside ..)
  | httpDirFS => exact inside_orElse (ioOpenN_inside ..) (mapOpenErrN_inside ..)
  | httpMapFS => exact inside_orElse (ioOpen_inside ..) (.inr (.inl rfl))

theorem look_dir (t : Tree) (segs d : List Str) (h : look t segs = .dir d) : d = segs := by
  unfold look at h
  split at h
  · rename_i he; cases h; exact he.symm
  · split at h
    · cases h
    · cases h; rfl
    · cases h

theorem inside_node {t : Tree} {rs : List Str} {l : Look} (h : Inside t rs l) (h1 : l ≠ .invalid) (h2 : l ≠ .notExist) :
    ∃ L, (∀ s ∈ L, Normal s) ∧ look t (rs ++ L) = l :=
  ((h.resolve_left h1).resolve_left h2).imp fun _ hL => ⟨hL.1, hL.2.symm⟩

/-- the names the middleware may pass to `config.Filesystem.Open` once it has computed `name`: the name, the
    Index file of the root (HTML5 fallback), the Index file of the named directory -/
def mwNames (cfg : MwCfg) (name : Str) : List Str := [name, join2 cfg.root cfg.index, join2 name cfg.index]

/-- An answer of the middleware for the computed `name`: it opened only candidate names, a file it serves was
    found under one of them, a directory it lists was opened by the file system. -/
def MwAnswer (cfg : MwCfg) (t : Tree) (rs : List Str) (name : Str) (r : List Str × Outcome) : Prop :=
  (∀ n ∈ r.1, n ∈ mwNames cfg name) ∧
  (∀ id, r.2 = .file id → ∃ n ∈ mwNames cfg name, fsOpen cfg.kind t rs n = .file id) ∧
  (∀ ti ns, r.2 = .listing ti ns → ∃ n d, fsOpen cfg.kind t rs n = .dir d ∧ ns = children t d)

theorem passNext_ne_file (next : Next) (id : Nat) : passNext next ≠ .file id := by
  cases next <;> nofun

theorem passNext_ne_listing (next : Next) (ti : Str) (ns : List Str) : passNext next ≠ .listing ti ns := by
  cases next <;> nofun

theorem mwAnswer_of_names {cfg : MwCfg} {t : Tree} {rs : List Str} {name : Str} {names : List Str} {o : Outcome}
    (hn : ∀ n ∈ names, n ∈ mwNames cfg name) (hf : ∀ id, o ≠ .file id) (hl : ∀ ti ns, o ≠ .listing ti ns) :
    MwAnswer cfg t rs name (names, o) :=
  ⟨hn, fun id h => absurd h (hf id), fun ti ns h => absurd h (hl ti ns)⟩

theorem serveOpened_answer (cfg : MwCfg) (t : Tree) (rs : List Str) (name : Str) (next : Next)
    (opened : List Str) (n0 : Str) (h0 : n0 ∈ mwNames cfg name) (ho : ∀ n ∈ opened, n ∈ mwNames cfg name) :
    MwAnswer cfg t rs name (serveOpened cfg t rs name next opened (fsOpen cfg.kind t rs n0)) := by
  have hi : join2 name cfg.index ∈ mwNames cfg name := by simp [mwNames]
  have hoi : ∀ n ∈ opened ++ [join2 name cfg.index], n ∈ mwNames cfg name :=
    List.forall_mem_append.mpr ⟨ho, List.forall_mem_cons.mpr ⟨hi, nofun⟩⟩
  unfold serveOpened
  cases hl : fsOpen cfg.kind t rs n0 with
  | notExist => exact mwAnswer_of_names ho nofun nofun
  | invalid => exact mwAnswer_of_names ho nofun nofun
  | file id => exact ⟨ho, fun id' h => ⟨n0, h0, Outcome.file.inj h ▸ hl⟩, nofun⟩
  | dir d =>
    simp only
    cases hx : fsOpen cfg.kind t rs (join2 name cfg.index) with
    | file id => exact ⟨hoi, fun id' h => ⟨_, hi, Outcome.file.inj h ▸ hx⟩, nofun⟩
    | dir d' => exact mwAnswer_of_names hoi nofun nofun
    | notExist | invalid =>
      simp only
      split
      · exact ⟨hoi, nofun, fun ti ns h => ⟨n0, d, hl, (Outcome.listing.inj h).2.symm⟩⟩
      · exact mwAnswer_of_names hoi (passNext_ne_file next) (passNext_ne_listing next)

theorem mwServe_answer (cfg : MwCfg) (t : Tree) (rs : List Str) (name : Str) (next : Next) :
    MwAnswer cfg t rs name (mwServe cfg t rs name next) := by
  have h0 : name ∈ mwNames cfg name := by simp [mwNames]
  have h1 : join2 cfg.root cfg.index ∈ mwNames cfg name := by simp [mwNames]
  have ho1 : ∀ n ∈ [name], n ∈ mwNames cfg name := List.forall_mem_cons.mpr ⟨h0, nofun⟩
  have ho2 : ∀ n ∈ [name, join2 cfg.root cfg.index], n ∈ mwNames cfg name :=
    List.forall_mem_cons.mpr ⟨h0, List.forall_mem_cons.mpr ⟨h1, nofun⟩⟩
  unfold mwServe
  cases hl : fsOpen cfg.kind t rs name with
  | invalid => exact mwAnswer_of_names ho1 nofun nofun
  | notExist =>
    cases next with
    | ok => exact mwAnswer_of_names ho1 nofun nofun
    | notFound =>
      simp only
      split
      · cases hx : fsOpen cfg.kind t rs (join2 cfg.root cfg.index) with
        | invalid => exact mwAnswer_of_names ho2 nofun nofun
        | notExist => exact mwAnswer_of_names ho2 nofun nofun
        | file id | dir d => simp only; exact hx ▸ serveOpened_answer cfg t rs name _ _ _ h1 ho2
      · exact mwAnswer_of_names ho1 nofun nofun
  | file id | dir d => simp only; exact hl ▸ serveOpened_answer cfg t rs name next [name] name h0 ho1

/-- `p` is the decoded request path; an undecodable path is refused before anything is opened, which is an
    answer for any name. -/
theorem mw_answer (cfg : MwCfg) (t : Tree) (rs : List Str) (cPath star urlPath : Str) (next : Next) :
    ∃ p, MwAnswer cfg t rs (mwName cfg cPath p) (mw cfg t rs cPath star urlPath next) := by
  unfold mw
  simp only
  split
  · exact ⟨[], mwAnswer_of_names nofun nofun nofun⟩
  · exact ⟨_, mwServe_answer ..⟩

theorem mwName_under (cfg : MwCfg) (cPath p : Str) (hroot : RootOK cfg.root) :
    Under cfg.root (mwName cfg cPath p) := by
  unfold mwName
  simp only
  split
  · exact ignoreBase_under cfg.root cPath p hroot
  · exact name0_under cfg.root p hroot

theorem mwNames_under (cfg : MwCfg) (cPath p : Str) (hroot : RootOK cfg.root) (hidx : IndexOK cfg.index) :
    ∀ n ∈ mwNames cfg (mwName cfg cPath p), Under cfg.root n := by
  have hname := mwName_under cfg cPath p hroot
  simp only [mwNames, List.forall_mem_cons]
  exact ⟨hname, join2_under cfg.root cfg.root cfg.index hroot (under_self _) hidx,
    join2_under cfg.root _ cfg.index hroot hname hidx, by simp⟩

/-- for every configuration (any Root that does not climb, any Index of
    real elements, HTML5 / Browse / IgnoreBase on or off, any file-system kind), every routing
    outcome (`c.Path()`, `*` parameter, URL path — hence every request path, encoded or not) and
    every file tree: each name the Static middleware hands to `config.Filesystem.Open` lies
    lexically under `config.Root` (it is `Clean(Root)` followed by real path elements; no `..`). -/
theorem C16_mw_contained (cfg : MwCfg) (t : Tree) (rootSegs : List Str) (cPath star urlPath : Str)
    (next : Next) (hroot : RootOK cfg.root) (hidx : IndexOK cfg.index) :
    ∀ n ∈ (mw cfg t rootSegs cPath star urlPath next).1, Under cfg.root n := by
  obtain ⟨p, hn, _⟩ := mw_answer cfg t rootSegs cPath star urlPath next
  exact fun n h => mwNames_under cfg cPath p hroot hidx n (hn n h)

/-- for every configuration, routing outcome and tree: a file the
    middleware serves, and a directory it lists, is a node of the tree below the root of the
    configured file system, reached through real path elements only. -/
theorem C16_mw_serves_inside (cfg : MwCfg) (t : Tree) (rs : List Str) (cPath star urlPath : Str)
    (next : Next) :
    (∀ id, (mw cfg t rs cPath star urlPath next).2 = .file id →
      ∃ L, (∀ s ∈ L, Normal s) ∧ look t (rs ++ L) = .file id) ∧
    (∀ ti ns, (mw cfg t rs cPath star urlPath next).2 = .listing ti ns →
      ∃ L, (∀ s ∈ L, Normal s) ∧ ns = children t (rs ++ L)) := by
  obtain ⟨p, _, hf, hl⟩ := mw_answer cfg t rs cPath star urlPath next
  constructor
  · intro id hid
    obtain ⟨n, _, hn⟩ := hf id hid
    exact inside_node (hn ▸ C16_fsopen_inside cfg.kind t rs n) nofun nofun
  · intro ti ns hns
    obtain ⟨n, d, hn, rfl⟩ := hl ti ns hns
    obtain ⟨L, hL, h⟩ := inside_node (l := .dir d) (hn ▸ C16_fsopen_inside cfg.kind t rs n) nofun nofun
    exact ⟨L, hL, look_dir t _ d h ▸ rfl⟩

/-- `http.Dir` walks `Clean("/" + n)` -/
theorem under_httpdir_segs (root n : Str) (hroot : RootOK root) (hu : Under root n) :
    ∃ L, (∀ s ∈ L, Normal s) ∧ segsOf (clean ('/' :: n)) = cleanSegsOf root ++ L := by
  obtain ⟨_, L, hL, hc⟩ := hu
  refine ⟨L, hL, ?_⟩
  have hall : ∀ s ∈ cleanSegsOf n, Normal s := hc ▸ List.forall_mem_append.mpr ⟨hroot.2, hL⟩
  -- read from the root, `n` has the elements it has as a path of its own
  rw [segsOf_clean_rooted, ← hc]
  cases hr : isRooted n with
  | true => rw [cleanSegsOf, hr]
  | false =>
    rw [cleanSegsOf, hr] at hall ⊢
    exact cleanSegs_rel_eq_rooted _ hall

/-- end to end, for a file system with `http.Dir` semantics
    rooted anywhere (possibly above `Root`): every file the Static middleware serves is a node
    of the tree below `Root` — at `fsRoot / Clean(Root) / real elements`.  Every configuration
    (Root that does not climb, Index of real elements; HTML5, Browse, IgnoreBase arbitrary),
    every routing outcome, every tree.  (This is the statement F17 violated before the fix.) -/
theorem C16_mw_serves_under_root (cfg : MwCfg) (t : Tree) (rs : List Str) (cPath star urlPath : Str)
    (next : Next) (id : Nat) (hkind : cfg.kind = .httpDir) (hroot : RootOK cfg.root)
    (hidx : IndexOK cfg.index)
    (h : (mw cfg t rs cPath star urlPath next).2 = .file id) :
    ∃ L, (∀ s ∈ L, Normal s) ∧ look t (rs ++ cleanSegsOf cfg.root ++ L) = .file id := by
  obtain ⟨p, _, hf, _⟩ := mw_answer cfg t rs cPath star urlPath next
  obtain ⟨n, hn, ho⟩ := hf id h
  obtain ⟨L, hL, hs⟩ := under_httpdir_segs cfg.root n hroot (mwNames_under cfg cPath p hroot hidx n hn)
  refine ⟨L, hL, ?_⟩
  rw [hkind] at ho
  simp only [fsOpen] at ho
  split at ho
  · rw [hs, ← List.append_assoc] at ho; exact ho
  · cases ho

theorem fsFile_file (t : Tree) (rs : List Str) (f : Str) (id : Nat) (h : (fsFile t rs f).2 = .file id) :
    ∃ n, ioOpen t rs n = .file id := by
  unfold fsFile at h
  split at h
  · rename_i id' h1
    exact ⟨f, by simp at h; exact h ▸ h1⟩
  · simp only at h
    split at h
    · rename_i id' h2
      exact ⟨_, by simp at h; exact h ▸ h2⟩
    · cases h
    · cases h
  · cases h

theorem staticDir_file (t : Tree) (rs : List Str) (star urlPath : Str) (id : Nat)
    (h : (staticDir t rs star urlPath).2 = .file id) : ∃ name, (fsFile t rs name).2 = .file id := by
  unfold staticDir at h
  split at h
  · cases h
  · simp only at h
    split at h
    · cases h
    · cases h
    · split at h
      · cases h
      · exact ⟨_, h⟩
    · exact ⟨_, h⟩

/-- `StaticDirectoryHandler` (Echo.Static, StaticFS, Group.Static,
    StaticFS) and `fsFile` (File, FileFS) on a validating `fs.FS`: a served file is a node below
    the root, reached through real path elements only; every request, every tree. -/
theorem C16_fs_serves_inside (t : Tree) (rs : List Str) (star urlPath : Str) (id : Nat)
    (h : (staticDir t rs star urlPath).2 = .file id ∨ (fsFile t rs star).2 = .file id) :
    ∃ L, (∀ s ∈ L, Normal s) ∧ look t (rs ++ L) = .file id := by
  obtain ⟨name, hf⟩ : ∃ name, (fsFile t rs name).2 = .file id :=
    h.elim (staticDir_file t rs star urlPath id) (fun h => ⟨star, h⟩)
  obtain ⟨n, hn⟩ := fsFile_file t rs name id hf
  exact inside_node (hn ▸ ioOpen_inside t rs n) nofun nofun

theorem unescape_id (p : Str) (h : '%' ∉ p) : unescape p = some p := by
  induction p with
  | nil => simp [unescape]
  | cons c r ih =>
    have hc : c ≠ '%' := fun e => h (by simp [e])
    have hr : '%' ∉ r := fun e => h (by simp [e])
    have ihr := ih hr
    unfold unescape
    split
    · rename_i heq; cases heq
    · rename_i a b r' heq
      cases heq
      exact absurd rfl hc
    · rename_i c' r' _ heq
      cases heq
      simp [hc, ihr]

theorem unescape_join (F : List Str) (lead : Bool) (hpct : '%' ∉ joinSep '/' F) :
    unescape ((if lead then ['/'] else []) ++ joinSep '/' F) = some ((if lead then ['/'] else []) ++ joinSep '/' F) := by
  apply unescape_id
  cases lead <;> simp [hpct]

theorem render_true (F : List Str) : render true F = '/' :: joinSep '/' F := rfl

theorem render_false {F : List Str} (hne : F ≠ []) : render false F = joinSep '/' F := by
  simp [render, hne]

theorem isRooted_joinSep {F : List Str} (hF : ∀ s ∈ F, Normal s) (hne : F ≠ []) : isRooted (joinSep '/' F) = false :=
  render_false hne ▸ isRooted_render false F hF

theorem clean_rooted_join (F : List Str) (hF : ∀ s ∈ F, Normal s) (hne : F ≠ []) (lead : Bool) :
    clean ('/' :: ((if lead then ['/'] else []) ++ joinSep '/' F)) = '/' :: joinSep '/' F := by
  have hs : cleanSegs true (splitOn '/' ((if lead then ['/'] else []) ++ joinSep '/' F)) = F := by
    cases lead <;>
      simp [cleanSegs, splitOn_cons_sep, splitOn_joinSep_normal hF hne, cleanStep_empty, foldl_normal true F hF]
  rw [clean_rooted_render, cleanSegsOf_rooted, hs]; rfl

theorem segsOf_rooted_join (F : List Str) (hF : ∀ s ∈ F, Normal s) : segsOf ('/' :: joinSep '/' F) = F :=
  segsOf_render true F hF (.inr rfl)

theorem join2_dot (F : List Str) (hF : ∀ s ∈ F, Normal s) (hne : F ≠ []) :
    join2 dot ('/' :: joinSep '/' F) = joinSep '/' F := by
  have hseg := segsOf_rooted_join F hF
  rw [join2_render dot _ (by decide) (by rw [hseg]; exact hF), hseg, cleanSegsOf_dot, isRooted_dot,
    List.nil_append, render_false hne]

theorem trimPrefixC_rel {p : Str} (h : isRooted p = false) : trimPrefixC '/' p = p := by
  cases p with
  | nil => rfl
  | cons c r =>
    rw [isRooted_cons] at h
    simp [trimPrefixC, h]

theorem clean_trimPrefix_join (F : List Str) (hF : ∀ s ∈ F, Normal s) (hne : F ≠ []) (lead : Bool) :
    clean (trimPrefixC '/' ((if lead then ['/'] else []) ++ joinSep '/' F)) = joinSep '/' F := by
  have htrim : trimPrefixC '/' ((if lead then ['/'] else []) ++ joinSep '/' F) = joinSep '/' F := by
    cases lead with
    | true => simp [trimPrefixC]
    | false => exact trimPrefixC_rel (isRooted_joinSep hF hne)
  rw [htrim, ← render_false hne, clean_render_self false F hF]

theorem ioOpen_join (t : Tree) (rs F : List Str) (hF : ∀ s ∈ F, Normal s) (hne : F ≠ [])
    (hutf : utf8Valid ((joinSep '/' F).map Char.toNat) = true) :
    ioOpen t rs (joinSep '/' F) = look t (rs ++ F) := by
  have hsp := splitOn_joinSep_normal hF hne
  have hvalid : validPath (joinSep '/' F) = true := by
    simp only [validPath, hutf, Bool.true_and, Bool.or_eq_true, beq_iff_eq, List.all_eq_true, hsp]
    exact .inr fun s hs => ((normal_iff s).mp (hF s hs)).1
  have hnd : joinSep '/' F ≠ dot := by
    intro e
    rw [e] at hsp
    exact (hF dot (hsp ▸ by decide)).2.1 rfl
  simp only [ioOpen, hvalid, if_true, hnd, if_false, hsp]

/-- **C16_serves_clean_path (middleware)** — an existing regular file below the root,
    requested by its clean path (real elements, nothing to unescape; with or without the leading
    slash, i.e. through `URL.Path` or a `*` parameter), is opened under exactly that name and
    served: with `http.Dir`, Root `"."`, whatever HTML5 / Browse / Index / next are. -/
theorem C16_serves_clean_path (cfg : MwCfg) (t : Tree) (rs : List Str) (F : List Str) (id : Nat)
    (cPath star urlPath : Str) (next : Next) (lead : Bool)
    (hkind : cfg.kind = .httpDir) (hroot : cfg.root = dot) (hib : cfg.ignoreBase = false)
    (hF : ∀ s ∈ F, Normal s) (hne : F ≠ []) (hpct : '%' ∉ joinSep '/' F)
    (hutf : utf8Valid (('/' :: joinSep '/' F).map Char.toNat) = true)
    (hnul : hasNul ('/' :: joinSep '/' F) = false)
    (hfile : look t (rs ++ F) = .file id)
    (hreq : (if hasSuffix cPath ['*'] then star else urlPath) = (if lead then ['/'] else []) ++ joinSep '/' F) :
    mw cfg t rs cPath star urlPath next = ([joinSep '/' F], .file id) := by
  have hname : mwName cfg cPath ((if lead then ['/'] else []) ++ joinSep '/' F) = joinSep '/' F := by
    simp only [mwName, hib, Bool.false_eq_true, if_false, hroot]
    rw [clean_rooted_join F hF hne lead, join2_dot F hF hne]
  have hopen : fsOpen cfg.kind t rs (joinSep '/' F) = .file id := by
    rw [hkind]
    simp only [fsOpen]
    rw [show clean ('/' :: joinSep '/' F) = '/' :: joinSep '/' F from clean_rooted_join F hF hne false, hutf]
    simp [segsOf_rooted_join F hF, hfile, hnul]
  unfold mw
  simp only [hreq, unescape_join F lead hpct, hname]
  unfold mwServe
  rw [hopen]
  simp [serveOpened]

/-- **C16_serves_clean_path (Echo.Static / StaticFS / Group.Static)** — the same for
    `StaticDirectoryHandler` on a validating `fs.FS`. -/
theorem C16_serves_clean_path_fs (t : Tree) (rs : List Str) (F : List Str) (id : Nat)
    (urlPath : Str) (lead : Bool)
    (hF : ∀ s ∈ F, Normal s) (hne : F ≠ []) (hpct : '%' ∉ joinSep '/' F)
    (hutf : utf8Valid ((joinSep '/' F).map Char.toNat) = true)
    (hfile : look t (rs ++ F) = .file id) :
    staticDir t rs ((if lead then ['/'] else []) ++ joinSep '/' F) urlPath =
      ([joinSep '/' F, joinSep '/' F], .file id) := by
  have hio : ioOpen t rs (joinSep '/' F) = .file id := (ioOpen_join t rs F hF hne hutf).trans hfile
  unfold staticDir
  simp only [unescape_join F lead hpct, clean_trimPrefix_join F hF hne lead, hio]
  simp [fsFile, hio]

section Examples

instance (s : Str) : Decidable (Normal s) := by unfold Normal; exact inferInstance
instance (root : Str) : Decidable (RootOK root) := by unfold RootOK; exact inferInstance
instance (i : Str) : Decidable (IndexOK i) := by unfold IndexOK; exact inferInstance

def S (s : String) : Str := s.toList

/-- work directory with a secret next to the root `public` -/
def exTree : Tree :=
  [(S "index.html", .file 0), (S "public", .dir), (S "public/...", .dir), (S "public/a.txt", .file 1),
   (S "public/dir", .dir), (S "public/dir/b.txt", .file 2), (S "public/index.html", .file 3), (S "secret", .file 4)]

def exCfg (ib : Bool) : MwCfg := ⟨S "public", S "index.html", false, false, ib, .httpDir⟩

-- the hypotheses of C16_mw_contained / C16_mw_serves_under_root are met by ordinary configurations
example : RootOK (S "public") ∧ RootOK (S ".") ∧ RootOK (S "/srv/www/") ∧ RootOK (S "./a/../public") ∧
    ¬ RootOK (S "../up") ∧ ¬ RootOK [] := by
  simp only [S]; lit_chars; decide +kernel
example : IndexOK (S "index.html") ∧ IndexOK (S "pages/home.html") ∧ ¬ IndexOK (S "../x") ∧ ¬ IndexOK (S "/abs") := by
  simp only [S]; lit_chars; decide +kernel

-- core lemma on adversarial inputs
example : clean (S "/../../a/./b//../%2e%2e/..") = S "/a" ∧ clean (S "/..") = S "/" ∧
    clean (S "a/../../b") = S "../b" ∧ clean (S "/.../..../. ./") = S "/.../..../. ." := by
  simp only [S]; lit_chars; decide +kernel

-- traversal attempts through the middleware (http.Dir(parent), Root "public", e.Use => c.Path() = "")
example : mw (exCfg false) exTree [] [] [] (S "/%2e%2e/secret") .notFound = ([S "public/secret"], .pass404) := by
  simp only [exCfg, exTree, S]; lit_chars; decide +kernel
example : mw (exCfg false) exTree [] [] [] (S "/..%2f..%2fsecret") .notFound = ([S "public/secret"], .pass404) := by
  simp only [exCfg, exTree, S]; lit_chars; decide +kernel
example : mw (exCfg false) exTree [] [] [] (S "/dir/%2e%2e/a.txt") .notFound = ([S "public/a.txt"], .file 1) := by
  simp only [exCfg, exTree, S]; lit_chars; decide +kernel
example : mw (exCfg false) exTree [] [] [] (S "/%zz") .notFound = ([], .error500) := by
  simp only [exCfg, exTree, S]; lit_chars; decide +kernel
-- IgnoreBase after the F17 fix: the F17 inputs stay under the root
example : mw (exCfg true) exTree [] [] [] (S "/.../secret/.") .notFound = ([S "public/.../secret"], .pass404) := by
  simp only [exCfg, exTree, S]; lit_chars; decide +kernel
example : mw (exCfg true) exTree [] [] [] (S "/.../.") .notFound =
    ([S "public/...", S "public/.../index.html"], .pass404) := by
  simp only [exCfg, exTree, S]; lit_chars; decide +kernel
-- IgnoreBase doing what it is for: group /public, request /public/public
example : mw (exCfg true) exTree [] (S "/public/*") (S "public") (S "/public/public") .notFound =
    ([S "public/", S "public/index.html"], .file 3) := by
  simp only [exCfg, exTree, S]; lit_chars; decide +kernel

/-- the rewrite as it was before the fix: remove the last occurrence of the route base -/
def ignoreBaseNameOld (cPath p name : Str) : Option Str :=
  let routePath := base (trimRightSet cPath ['/', '*'])
  if base p = routePath then
    match (List.range (name.length + 1)).foldl
        (fun acc i => if routePath.isPrefixOf (name.drop i) then some i else acc) none with
    | none => none
    | some i => some (name.take i ++ (name.drop i).drop routePath.length)
  else some name

-- F17, negation witness for the unfixed behaviour: the old rewrite produced a name outside Root
-- (`public/../secret`), and indexed out of range (panic) for a name without a dot
example : ignoreBaseNameOld [] (S ".../secret/.") (S "public/.../secret") = some (S "public/../secret") := by
  simp only [S]; lit_chars; decide +kernel
example : ignoreBaseNameOld [] (S "nope/.") (S "public/nope") = some (S "public/nope") ∨
    ignoreBaseNameOld [] (S "nope/.") (S "nope") = none := by
  simp only [S]; lit_chars; decide +kernel
example : ¬ Under (S "public") (S "public/../secret") := by
  rintro ⟨_, L, _, h⟩
  have h1 : cleanSegsOf (S "public/../secret") = [S "secret"] := by simp only [S]; lit_chars; decide +kernel
  have h2 : cleanSegsOf (S "public") = [S "public"] := by simp only [S]; lit_chars; decide +kernel
  rw [h1, h2] at h
  simp at h
  exact absurd h.1 (by decide +kernel)
example : fsOpen .httpDir exTree [] (S "public/../secret") = .file 4 := by
  simp only [exTree, S]; lit_chars; decide +kernel

-- C16_serves_clean_path: a concrete instance of all hypotheses
example : mw ⟨dot, S "index.html", true, true, false, .httpDir⟩ exTree [S "public"] (S "/static/*")
    (S "dir/b.txt") (S "/static/dir/b.txt") .notFound = ([S "dir/b.txt"], .file 2) := by
  simp only [exTree, S]; lit_chars
  exact C16_serves_clean_path _ _ _ [['d', 'i', 'r'], ['b', '.', 't', 'x', 't']] 2 _ _ _ _ false rfl rfl rfl
    (by decide +kernel) (by decide +kernel) (by decide +kernel) (by decide +kernel) (by decide +kernel)
    (by decide +kernel) (by decide +kernel)

-- fs.ValidPath is what keeps Echo.Static inside: `..` survives Clean of a relative name
example : staticDir exTree [S "public"] (S "/%2e%2e/secret") (S "/assets/../secret") = ([S "../secret"], .notFound404) ∧
    validPath (S "../secret") = false ∧ validPath (S "dir/b.txt") = true ∧ validPath (S "/abs") = false := by
  simp only [exTree, S]; lit_chars; decide +kernel
example : staticDir exTree [S "public"] (S "/dir") (S "/assets/dir") = ([S "dir"], .redirect) := by
  simp only [exTree, S]; lit_chars; decide +kernel

end Examples

end C16
