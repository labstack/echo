import EchoModel.C04
import EchoProofs.Lit
/-!
# C04 — the middleware onion

`serve` composes handlers exactly like `applyMiddleware` (a right fold of wrappers).  The
theorems turn that composition into the shape of the observable trace, for every
configuration and every request (`C04_onion`): Pre layers, then Use layers, then the route's middleware
snapshot, then the handler, then the same layers unwinding in exactly the reverse order; the route is
selected on the path, method and host *as rewritten by the Pre chain*.  A route keeps the middleware
snapshot of its registration time: middleware added to a group afterwards never applies to it.
-/
namespace C04
open Router (Str)

/-- the path after the rewrite rules of a list of (Pre) middleware were applied in order -/
def rewriteAll (ms : List MwSpec) (path : Str) : Str := ms.foldl (fun p m => rwStep m p) path

def enters (ms : List MwSpec) : List Ev := ms.map fun m => .enter m.id
def leaves (ms : List MwSpec) (err : Bool) : List Ev := ms.reverse.map fun m => .leave m.id err

/-- wrapping, in a list of middleware, a handler whose effect (events `E`, resulting path `O`, error `R`)
    depends only on the path it is entered with -/
theorem apply_uniform (h : Handler) (E : Str → List Ev) (O : Str → Str) (R : Str → Bool)
    (hs : ∀ c, h c = (⟨c.trace ++ E c.path, O c.path⟩, R c.path)) :
    ∀ (ms : List MwSpec) (c : Ctx),
      applyMiddleware h ms c =
        (⟨c.trace ++ (enters ms ++ E (rewriteAll ms c.path) ++ leaves ms (R (rewriteAll ms c.path))),
          O (rewriteAll ms c.path)⟩, R (rewriteAll ms c.path)) := by
  intro ms
  induction ms with
  | nil =>
    intro c
    simp [applyMiddleware, enters, leaves, rewriteAll, hs]
  | cons m ms ih =>
    intro c
    show wrap m (applyMiddleware h ms) c = _
    unfold wrap
    simp only [ih]
    have hrw : rewriteAll (m :: ms) c.path = rewriteAll ms (rwStep m c.path) := by
      simp [rewriteAll]
    rw [hrw]
    simp [enters, leaves, List.append_assoc]

theorem rewriteAll_plain (ms : List Mw) (p : Str) : rewriteAll (plain ms) p = p := by
  unfold plain rewriteAll
  induction ms generalizing p with
  | nil => rfl
  | cons m ms ih => simpa [rwStep] using ih p

def routedEvs (c : Cfg) (host method p : Str) : List Ev :=
  enters (plain (selected c host method p).2.2) ++ [(selected c host method p).1]
    ++ leaves (plain (selected c host method p).2.2) (selected c host method p).2.1

theorem routed_spec (c : Cfg) (host method : Str) (ctx : Ctx) :
    routed c host method ctx =
      (⟨ctx.trace ++ routedEvs c host method ctx.path, ctx.path⟩, (selected c host method ctx.path).2.1) := by
  unfold routed routedEvs
  generalize hsel : selected c host method ctx.path = s
  obtain ⟨ev, err, ms⟩ := s
  simp only
  rw [apply_uniform (terminal ev err) (fun _ => [ev]) (fun p => p) (fun _ => err) (fun _ => rfl) (plain ms) ctx]
  simp [rewriteAll_plain, List.append_assoc]

/-- **C04_onion** — the trace of every request, for every configuration: Pre layers, Use layers,
    the middleware snapshot of the selected route, the handler, and the same layers unwinding
    in reverse; the route is selected for the path as the Pre chain left it. -/
theorem C04_onion (c : Cfg) (host method path : Str) :
    serve c host method path =
      enters c.pre ++ enters (plain c.use)
        ++ enters (plain (selected c host method (rewriteAll c.pre path)).2.2)
        ++ [(selected c host method (rewriteAll c.pre path)).1]
        ++ leaves (plain (selected c host method (rewriteAll c.pre path)).2.2)
            (selected c host method (rewriteAll c.pre path)).2.1
        ++ leaves (plain c.use) (selected c host method (rewriteAll c.pre path)).2.1
        ++ leaves c.pre (selected c host method (rewriteAll c.pre path)).2.1 := by
  unfold serve
  have h1 := apply_uniform (routed c host method) (routedEvs c host method) (fun p => p)
    (fun p => (selected c host method p).2.1) (routed_spec c host method) (plain c.use)
  simp only [rewriteAll_plain] at h1
  rw [apply_uniform (applyMiddleware (routed c host method) (plain c.use))
    (fun p => enters (plain c.use) ++ routedEvs c host method p
      ++ leaves (plain c.use) (selected c host method p).2.1)
    (fun p => p) (fun p => (selected c host method p).2.1) h1 c.pre ⟨[], path⟩]
  simp [routedEvs, List.append_assoc]

def enterIds (t : List Ev) : List Mw := t.filterMap fun | .enter i => some i | _ => none
def leaveIds (t : List Ev) : List Mw := t.filterMap fun | .leave i _ => some i | _ => none

theorem enterIds_enters (ms : List MwSpec) : enterIds (enters ms) = ms.map (·.id) := by
  simp [enterIds, enters, List.filterMap_map, Function.comp_def]

theorem enterIds_leaves (ms : List MwSpec) (e : Bool) : enterIds (leaves ms e) = [] := by
  simp [enterIds, leaves]

theorem leaveIds_enters (ms : List MwSpec) : leaveIds (enters ms) = [] := by
  simp [leaveIds, enters]

theorem leaveIds_leaves (ms : List MwSpec) (e : Bool) : leaveIds (leaves ms e) = (ms.map (·.id)).reverse := by
  simp [leaveIds, leaves, List.filterMap_map, Function.comp_def]

theorem enterIds_append (a b : List Ev) : enterIds (a ++ b) = enterIds a ++ enterIds b := by
  simp [enterIds, List.filterMap_append]
theorem leaveIds_append (a b : List Ev) : leaveIds (a ++ b) = leaveIds a ++ leaveIds b := by
  simp [leaveIds, List.filterMap_append]

theorem ids_plain (ms : List Mw) : (plain ms).map (·.id) = ms := by
  simp [plain, Function.comp_def]

theorem selected_ev (c : Cfg) (host method path : Str) :
    ∃ n, (selected c host method path).1 = .hnd n ∨ (selected c host method path).1 = .rtr n := by
  unfold selected
  simp only []
  split
  · split
    · split
      · exact ⟨_, Or.inr rfl⟩
      · exact ⟨_, Or.inl rfl⟩
    · exact ⟨_, Or.inr rfl⟩
  · exact ⟨_, Or.inr rfl⟩
  · split <;> exact ⟨_, Or.inr rfl⟩
  · exact ⟨_, Or.inr rfl⟩

def layers (c : Cfg) (host method path : Str) : List Mw :=
  c.pre.map (·.id) ++ c.use ++ (selected c host method (rewriteAll c.pre path)).2.2

/-- **C04_enter_order** — the middleware that go in are exactly Pre ++ Use ++ route snapshot, in
    that order, each once per occurrence in those lists. -/
theorem C04_enter_order (c : Cfg) (host method path : Str) :
    enterIds (serve c host method path) = layers c host method path := by
  rw [C04_onion c host method path]
  have hsel : enterIds [(selected c host method (rewriteAll c.pre path)).1] = [] := by
    obtain ⟨n, h | h⟩ := selected_ev c host method (rewriteAll c.pre path) <;> rw [h] <;> rfl
  simp only [enterIds_append, enterIds_enters, enterIds_leaves, ids_plain, hsel, layers,
    List.append_nil, List.append_assoc]

/-- **C04_leave_reverse** — the layers unwind in exactly the reverse order of going in. -/
theorem C04_leave_reverse (c : Cfg) (host method path : Str) :
    leaveIds (serve c host method path) = (layers c host method path).reverse := by
  rw [C04_onion c host method path]
  have hsel : leaveIds [(selected c host method (rewriteAll c.pre path)).1] = [] := by
    obtain ⟨n, h | h⟩ := selected_ev c host method (rewriteAll c.pre path) <;> rw [h] <;> rfl
  simp only [leaveIds_append, leaveIds_enters, leaveIds_leaves, ids_plain, hsel, layers,
    List.nil_append, List.reverse_append, List.append_assoc]

/-- **C04_error_seen** — every layer, when it unwinds, observes exactly the error status that
    the selected handler returned. -/
theorem C04_error_seen (c : Cfg) (host method path : Str) (i : Mw) (e : Bool)
    (h : Ev.leave i e ∈ serve c host method path) :
    e = (selected c host method (rewriteAll c.pre path)).2.1 := by
  rw [C04_onion c host method path] at h
  have hl : ∀ (ms : List MwSpec) (err : Bool), Ev.leave i e ∈ leaves ms err → e = err := by
    intro ms err hm
    unfold leaves at hm
    simp only [List.mem_map] at hm
    obtain ⟨_, _, heq⟩ := hm
    simp only [Ev.leave.injEq] at heq
    exact heq.2.symm
  have he : ∀ (ms : List MwSpec), Ev.leave i e ∉ enters ms := by
    intro ms hm
    unfold enters at hm
    simp at hm
  have hs : Ev.leave i e ≠ (selected c host method (rewriteAll c.pre path)).1 := by
    obtain ⟨n, h | h⟩ := selected_ev c host method (rewriteAll c.pre path) <;> rw [h] <;> exact Ev.noConfusion
  simp only [List.mem_append, List.mem_singleton] at h
  rcases h with (((((h | h) | h) | h) | h) | h) | h
  · exact absurd h (he _)
  · exact absurd h (he _)
  · exact absurd h (he _)
  · exact absurd h hs
  · exact hl _ _ h
  · exact hl _ _ h
  · exact hl _ _ h

theorem addRoute_routes (c : Cfg) (host method path : Str) (hid : Nat) (fails : Bool) (mws : List Mw) :
    ∃ r, (addRoute c host method path hid fails mws).routes = c.routes ++ [r] ∧ r.mws = mws
      ∧ (addRoute c host method path hid fails mws).groups = c.groups := by
  unfold addRoute
  exact ⟨_, rfl, rfl, rfl⟩

theorem groupUse_routes (c : Cfg) (g : Nat) (ms : List Mw) :
    ∃ extra, (groupUse c g ms).routes = c.routes ++ extra := by
  unfold groupUse
  split
  · exact ⟨[], by simp⟩
  · simp only
    split
    · exact ⟨[], by simp⟩
    · simp only [addRoute]
      exact ⟨_, by simp [List.append_assoc]; rfl⟩

/-- **C04_groupUse_keeps_routes** — adding middleware to a group afterwards never changes a
    route that is already registered (it only appends the refreshed catch-all routes). -/
theorem C04_groupUse_keeps_routes (c : Cfg) (g : Nat) (ms : List Mw) (i : Nat) (r : RouteRec)
    (h : c.routes[i]? = some r) : (exec c (.groupUse g ms)).routes[i]? = some r := by
  obtain ⟨extra, he⟩ := groupUse_routes c g ms
  simp only [exec, he]
  rw [List.getElem?_append_left]
  · exact h
  · exact (List.getElem?_eq_some_iff.mp h).1

/-- **C04_routes_append_only** — every registration op except `Host` (which installs a fresh
    router for that host) leaves the routes registered so far untouched. -/
theorem C04_routes_append_only (c : Cfg) (op : Op) (hop : ∀ n ms, op ≠ .host n ms) :
    ∃ extra, (exec c op).routes = c.routes ++ extra := by
  cases op with
  | pre m => exact ⟨[], by simp [exec]⟩
  | use i => exact ⟨[], by simp [exec]⟩
  | host n ms => exact absurd rfl (hop n ms)
  | group parent pfx ms =>
    simp only [exec]
    cases parent with
    | none =>
      obtain ⟨extra, he⟩ := groupUse_routes { c with groups := c.groups ++ [⟨[], pfx, []⟩] }
        ({ c with groups := c.groups ++ [⟨[], pfx, []⟩] } : Cfg).groups.length.pred ms
      exact ⟨extra, by simpa using he⟩
    | some p =>
      simp only
      split
      · exact ⟨[], by simp⟩
      · rename_i g _
        obtain ⟨extra, he⟩ := groupUse_routes { c with groups := c.groups ++ [⟨g.host, g.pfx ++ pfx, []⟩] }
          ({ c with groups := c.groups ++ [⟨g.host, g.pfx ++ pfx, []⟩] } : Cfg).groups.length.pred (g.mws ++ ms)
        exact ⟨extra, by simpa using he⟩
  | groupUse g ms => exact groupUse_routes c g ms
  | add g method path hid fails ms =>
    simp only [exec]
    cases g with
    | none => exact ⟨_, (addRoute_routes c [] method path hid fails ms).choose_spec.1⟩
    | some gid =>
      simp only
      split
      · exact ⟨[], by simp⟩
      · exact ⟨_, (addRoute_routes c _ method _ hid fails _).choose_spec.1⟩

/-- **C04_snapshot_add** — a route added through a group closes over exactly the group's
    middleware list at that moment followed by its own route-level middleware. -/
theorem C04_snapshot_add (c : Cfg) (gid : Nat) (gr : Group) (hg : c.groups[gid]? = some gr)
    (method path : Str) (hid : Nat) (fails : Bool) (ms : List Mw) :
    ∃ r, (exec c (.add (some gid) method path hid fails ms)).routes = c.routes ++ [r]
      ∧ r.mws = gr.mws ++ ms ∧ r.hid = hid := by
  simp only [exec, hg, addRoute]
  exact ⟨_, rfl, rfl, rfl⟩

def demo : List Op :=
  [ .pre ⟨1, some ("/old".toList, "/g/x".toList), none, none⟩, .use 2,
    .group none "/g".toList [3], .add (some 0) "GET".toList "/x".toList 7 false [4],
    .groupUse 0 [5] ]

example : serve (run demo) [] "GET".toList "/old".toList
    = [.enter 1, .enter 2, .enter 3, .enter 4, .hnd 7,
       .leave 4 false, .leave 3 false, .leave 2 false, .leave 1 false] := by
  unfold demo; lit_chars; decide +kernel
example : serve (run demo) [] "GET".toList "/g/missing".toList
    = [.enter 1, .enter 2, .enter 3, .enter 5, .rtr 404,
       .leave 5 true, .leave 3 true, .leave 2 true, .leave 1 true] := by
  unfold demo; lit_chars; decide +kernel

/-- **C04_pre_sees_method_and_host** — the trace of a request whose Pre chain rewrites the method or the
    Host is the onion around the route selected for the *rewritten* host, method and path: every theorem
    about `serve` applies to `serveRq` at the values the Pre chain leaves behind. -/
theorem C04_pre_sees_method_and_host (c : Cfg) (host method path : Str) :
    serveRq c host method path =
      serve c (hostAfterPre c.pre host) (methodAfterPre c.pre method) path := rfl

theorem serveRq_plain (c : Cfg) (host method path : Str)
    (h : ∀ m ∈ c.pre, m.rwM = none ∧ m.rwH = none) : serveRq c host method path = serve c host method path := by
  have hm : ∀ (ms : List MwSpec) (x : Str), (∀ m ∈ ms, m.rwM = none ∧ m.rwH = none) →
      methodAfterPre ms x = x ∧ hostAfterPre ms x = x := by
    intro ms
    induction ms with
    | nil => intro x _; exact ⟨rfl, rfl⟩
    | cons m ms ih =>
      intro x hx
      have h1 := hx m (by simp)
      have h2 := ih x (fun m' hm' => hx m' (List.mem_cons_of_mem _ hm'))
      simp only [methodAfterPre, hostAfterPre, List.foldl_cons, rwField, h1.1, h1.2]
      exact h2
  unfold serveRq
  rw [(hm c.pre method h).1, (hm c.pre host h).2]

/-- a method-override Pre middleware makes the POST route answer a request that arrived as GET -/
def demoOverride : List Op :=
  [ .pre ⟨1, none, some ("GET".toList, "POST".toList), none⟩,
    .add none "POST".toList "/x".toList 7 false [], .add none "GET".toList "/x".toList 8 false [] ]
example : serveRq (run demoOverride) [] "GET".toList "/x".toList
    = [.enter 1, .hnd 7, .leave 1 false] := by
  unfold demoOverride; lit_chars; decide +kernel
end C04
