import EchoModel.C08
/-!
# C08 — theorems: binding converts text exactly or rejects it

Specification side (defined here, independently of the parser loops of the model):
`posValue` (positional value Σ dᵢ·10^(n-1-i)), `denoteNat` (`[0-9]+`), `denote` (`[+-]?[0-9]+`),
`Dest.inRange` (the values of the destination's Go type).

`C08_exact_or_error` — for every site and every text, success with `v` ⇔ the text denotes `v` and `v`
fits the destination type, so never a wrapped or truncated number — rests on `parseUint_spec` /
`parseInt_spec` (the model of strconv accepts exactly the texts that denote a value in range, and
returns that value, for every bit size 1..64) and on `Dest.bits_eq_width` (at every code site the bit
size equals the width of the destination type).  The other theorems say what a failed conversion leaves
behind: in the `ValueBinder` state machine (one call: `callStep_spec`; then fail-fast chains,
`CustomFunc`, the constructors' default, an `ErrorFunc` that returns nil), in the struct binder
(`C08_struct_exact`, `C08_struct_400`, `C08_no_panic`), and for ANY number of values of one parameter
(`C08_every_value_counts`, `C08_slice_complete`).

All of them quantify over every text, every destination site, every binder state, every chain
and every external parser `Ext` (ParseFloat / ParseDuration are parameters).
-/
namespace C08

/-! ## what a text denotes (specification side, independent of the parser loops) -/

def isDigit (c : Char) : Bool := 48 ≤ c.toNat && c.toNat ≤ 57
def dval (c : Char) : Nat := c.toNat - 48

/-- positional value: Σ dᵢ · 10^(n-1-i) -/
def posValue : List Char → Nat
  | [] => 0
  | c :: r => dval c * 10 ^ r.length + posValue r

def denoteNat (s : List Char) : Option Nat :=
  if s ≠ [] ∧ (∀ c ∈ s, isDigit c = true) then some (posValue s) else none

def denote (s : List Char) : Option Int :=
  match s with
  | [] => none
  | c :: r =>
    if c = '-' then (denoteNat r).map (fun (n : Nat) => -(n : Int))
    else if c = '+' then (denoteNat r).map (fun (n : Nat) => (n : Int))
    else (denoteNat s).map (fun (n : Nat) => (n : Int))

theorem digit?_eq (c : Char) : digit? c = if isDigit c = true then some (dval c) else none := by
  simp only [digit?, isDigit, dval, Bool.and_eq_true, decide_eq_true_eq]

theorem dval_le (c : Char) (h : isDigit c = true) : dval c ≤ 9 := by
  simp only [isDigit, Bool.and_eq_true, decide_eq_true_eq] at h
  simp only [dval]; omega

/-- Taking the leading digit into the accumulator does not change the value read. -/
theorem posValue_shift (n : Nat) (c : Char) (cs : List Char) :
    n * 10 ^ (c :: cs).length + posValue (c :: cs) = (n * 10 + dval c) * 10 ^ cs.length + posValue cs := by
  simp only [List.length_cons, posValue, Nat.pow_succ]
  rw [Nat.add_mul, Nat.mul_assoc, Nat.mul_comm 10 (10 ^ cs.length), Nat.add_assoc]

/-- One round of the digit loop.  For `maxVal < 2^64` the `cutoff` test and the wrap-around test of
    strconv are implied by the comparison with `maxVal` (`cutoff10 * 10 ≥ 2^64`). -/
theorem puLoop_cons (M : Nat) (hM : M < two64) (n : Nat) (c : Char) (cs : List Char) :
    puLoop M n (c :: cs)
      = if isDigit c = true ∧ n * 10 + dval c ≤ M then puLoop M (n * 10 + dval c) cs else none := by
  rw [puLoop, digit?_eq]
  by_cases hc : isDigit c = true
  · simp only [hc, if_true, true_and]
    by_cases hle : n * 10 + dval c ≤ M
    · have hc10 : two64 ≤ cutoff10 * 10 := by decide
      have h : ¬ n ≥ cutoff10 ∧ ¬ (n * 10 + dval c ≥ two64 ∨ n * 10 + dval c > M) := by omega
      rw [if_neg h.1, if_neg h.2, if_pos hle]
    · rw [if_neg hle]
      split
      · rfl
      · rw [if_pos (Or.inr (Nat.lt_of_not_le hle))]
  · simp only [hc, Bool.false_eq_true, if_false, false_and]

theorem puLoop_spec (M : Nat) (hM : M < two64) (cs : List Char) :
    ∀ n v, n ≤ M → (puLoop M n cs = some v ↔
      (∀ c ∈ cs, isDigit c = true) ∧ v = n * 10 ^ cs.length + posValue cs ∧ v ≤ M) := by
  induction cs with
  | nil =>
    intro n v hn
    simp only [puLoop, posValue, List.length_nil, Nat.pow_zero, Nat.mul_one, Nat.add_zero, Option.some.injEq,
      List.not_mem_nil, false_imp_iff, implies_true, true_and]
    exact ⟨fun h => ⟨h.symm, h ▸ hn⟩, fun h => h.1.symm⟩
  | cons c cs ih =>
    intro n v hn
    rw [puLoop_cons M hM, posValue_shift, List.forall_mem_cons, Option.ite_none_right_eq_some]
    constructor
    · intro ⟨⟨hc, hle⟩, hp⟩
      exact ⟨⟨hc, ((ih _ v hle).1 hp).1⟩, ((ih _ v hle).1 hp).2⟩
    · intro ⟨⟨hc, hcs⟩, hv, hle⟩
      -- the accumulator is at most the value read, which is at most `M`
      have hn1 : n * 10 + dval c ≤ M :=
        Nat.le_trans (Nat.le_trans (Nat.le_mul_of_pos_right _ (Nat.pow_pos (by decide))) (Nat.le_add_right _ _)) (hv ▸ hle)
      exact ⟨⟨hc, hn1⟩, (ih _ v hn1).2 ⟨hcs, hv, hle⟩⟩

/-- the bit sizes that occur: 1..64 after `effBits` -/
def okBits (b : Nat) : Prop := 1 ≤ effBits b ∧ effBits b ≤ 64

theorem two_pow_le_two64 (k : Nat) (h : k ≤ 64) : 2 ^ k ≤ two64 := by
  have : two64 = 2 ^ 64 := by decide
  rw [this]; exact Nat.pow_le_pow_right (by omega) h

/-- **parseUint = denotation + range** -/
theorem parseUint_spec (s : List Char) (b : Nat) (hb : okBits b) (v : Nat) :
    parseUint s b = some v ↔ denoteNat s = some v ∧ v < 2 ^ effBits b := by
  have hpos := Nat.two_pow_pos (effBits b)
  have hM : 2 ^ effBits b - 1 < two64 := Nat.sub_one_lt_of_le hpos (two_pow_le_two64 _ hb.2)
  simp only [parseUint, denoteNat, Option.ite_none_left_eq_some, Option.ite_none_right_eq_some, Option.some.injEq,
    puLoop_spec _ hM s 0 v (Nat.zero_le _), Nat.zero_mul, Nat.zero_add, Nat.le_sub_one_iff_lt hpos]
  exact ⟨fun ⟨hs, hd, hv, hlt⟩ => ⟨⟨⟨hs, hd⟩, hv.symm⟩, hlt⟩, fun ⟨⟨⟨hs, hd⟩, hv⟩, hlt⟩ => ⟨hs, hd, hv.symm, hlt⟩⟩

theorem two_pow_cast (k : Nat) : (2 : Int) ^ k = ((2 ^ k : Nat) : Int) := (Int.natCast_pow 2 k).symm

/-- The two cut-off tests of `ParseInt` say that the signed value lies in the range of the bit size,
    whatever the magnitude. -/
theorem applySign_spec (neg : Bool) (b un : Nat) (v : Int) :
    applySign neg b un = some v ↔
      v = (if neg = true then -(un : Int) else (un : Int))
        ∧ -(2 ^ (effBits b - 1) : Int) ≤ v ∧ v < (2 ^ (effBits b - 1) : Int) := by
  have hP := Nat.two_pow_pos (effBits b - 1)
  rw [two_pow_cast]
  unfold applySign
  generalize 2 ^ (effBits b - 1) = P at hP ⊢
  cases neg
  · simp only [Bool.false_eq_true, true_and, false_and, if_false, Option.ite_none_left_eq_some, Option.some.injEq]
    omega
  · simp only [Bool.true_eq_false, false_and, if_false, true_and, if_true, Option.ite_none_left_eq_some,
      Option.some.injEq]
    omega

/-- A magnitude whose signed value lies in the range of `w` bits is at most `2^(w-1)`, hence below `2^w`:
    the range test that `ParseUint` makes inside `ParseInt` never decides. -/
theorem magnitude_lt (w : Nat) (hw : 0 < w) (neg : Bool) (n : Nat) (v : Int)
    (hv : (if neg = true then -(n : Int) else n) = v) (h1 : -(2 ^ (w - 1) : Int) ≤ v) (h2 : v < 2 ^ (w - 1)) :
    n < 2 ^ w := by
  rw [← Nat.two_pow_pred_add_two_pow_pred hw]
  rw [two_pow_cast] at h1 h2
  cases neg
  · rw [if_neg Bool.false_ne_true] at hv; omega
  · rw [if_pos rfl] at hv; omega

/-- `denote` splits off the sign the way `ParseInt` does -/
theorem denote_cons (c : Char) (r : List Char) :
    denote (c :: r) = (denoteNat (if c = '+' ∨ c = '-' then r else c :: r)).map
      (fun (n : Nat) => if decide (c = '-') = true then -(n : Int) else (n : Int)) := by
  unfold denote
  by_cases hm : c = '-'
  · simp [hm]
  · by_cases hp : c = '+'
    · simp [hp]
    · simp [hm, hp]

/-- **parseInt = denotation + range** (`parseInt_denotes` is its forward direction) -/
theorem parseInt_spec (s : List Char) (b : Nat) (hb : okBits b) (v : Int) :
    parseInt s b = some v ↔
      denote s = some v ∧ -(2 ^ (effBits b - 1) : Int) ≤ v ∧ v < (2 ^ (effBits b - 1) : Int) := by
  cases s with
  | nil => simp [parseInt, denote]
  | cons c r =>
    simp only [denote_cons, parseInt]
    -- the rest depends neither on which sign was split off nor on what it was split off from
    generalize (if c = '+' ∨ c = '-' then r else c :: r) = body
    generalize decide (c = '-') = neg
    simp only [Option.bind_eq_some_iff, Option.map_eq_some_iff, parseUint_spec body b hb, applySign_spec]
    exact ⟨fun ⟨n, ⟨hd, _⟩, hv, hr⟩ => ⟨⟨n, hd, hv.symm⟩, hr⟩,
      fun ⟨⟨n, hd, hv⟩, hr⟩ => ⟨n, ⟨hd, magnitude_lt _ hb.1 neg n v hv hr.1 hr.2⟩, hv.symm, hr⟩⟩

theorem parseInt_denotes (s : List Char) (b : Nat) (hb : okBits b) (v : Int)
    (h : parseInt s b = some v) :
    denote s = some v ∧ -(2 ^ (effBits b - 1) : Int) ≤ v ∧ v < (2 ^ (effBits b - 1) : Int) :=
  (parseInt_spec s b hb v).1 h

/-! ## every code site: the bit size written equals the width of the destination type -/

/-- **the table lemma**: at every site the bit size passed to strconv is the width of the
    type the result is converted to.  A wrong literal in any of the 43 sites of the model's
    table `Dest.bits` makes this `rfl` fail; a wrong literal in the Go code breaks the
    correspondence run on the boundary strings of the two widths involved. -/
theorem Dest.bits_eq_width : ∀ d : Dest, effBits d.bits = d.ty.width
  | .structInt t => by cases t <;> rfl
  | .structUint t => by cases t <;> rfl
  | .vbInt t m => by cases t <;> cases m <;> rfl
  | .vbUint t m => by cases t <;> cases m <;> rfl
  | .vbByte m => by cases m <;> rfl
  | .vbInts t => by cases t <;> rfl
  | .vbUints t => by cases t <;> rfl
  | .vbUnix => rfl

theorem FSite.bits_eq_width : ∀ f : FSite, f.bits = f.ty.width
  | .struct t => by cases t <;> rfl
  | .vb t m => by cases t <;> cases m <;> rfl
  | .vbs t => by cases t <;> rfl

theorem ITy.width_bounds (t : ITy) : 1 ≤ t.width ∧ t.width ≤ 64 := by
  cases t <;> decide

theorem Dest.okBits (d : Dest) : C08.okBits d.bits := by
  unfold C08.okBits; rw [d.bits_eq_width]; exact d.ty.width_bounds

theorem wrapS_id (w : Nat) (hw : 1 ≤ w) (v : Int) (h1 : -(2 ^ (w - 1)) ≤ v) (h2 : v < 2 ^ (w - 1)) :
    wrapS w v = v := by
  obtain ⟨k, rfl⟩ := Nat.exists_eq_add_one.2 hw
  rw [Nat.add_sub_cancel] at h1 h2
  rw [wrapS, Nat.add_sub_cancel, Int.pow_succ, Int.emod_eq_of_lt (by omega) (by omega), Int.add_sub_cancel]

theorem wrapU_id (w : Nat) (v : Int) (h1 : 0 ≤ v) (h2 : v < 2 ^ w) : wrapU w v = v :=
  Int.emod_eq_of_lt h1 h2

/-- the values of the destination's Go type -/
def Dest.inRange (d : Dest) (v : Int) : Prop :=
  if d.signed then -(2 ^ (d.ty.width - 1) : Int) ≤ v ∧ v < 2 ^ (d.ty.width - 1)
  else 0 ≤ v ∧ v < 2 ^ d.ty.width

/-- what a text denotes for a destination: `[+-]?[0-9]+` for signed, `[0-9]+` for unsigned types -/
def denoteFor (d : Dest) (s : List Char) : Option Int :=
  if d.signed then denote s else (denoteNat s).map (fun (n : Nat) => (n : Int))

/-- Every number strconv accepts with a site's bit size is a value of the site's type, so the
    conversion to that type is the identity on it: binding is parsing. -/
theorem bindNum_eq (d : Dest) (s : List Char) :
    bindNum d s
      = if d.signed then parseInt s d.bits else (parseUint s d.bits).map (fun (n : Nat) => (n : Int)) := by
  unfold bindNum narrow
  cases d.signed with
  | true =>
    rw [if_pos rfl, if_pos rfl]
    refine (Option.map_congr fun x hp => ?_).trans Option.map_id'
    have hx := (parseInt_spec s d.bits d.okBits x).1 hp
    rw [d.bits_eq_width] at hx
    exact wrapS_id _ d.ty.width_bounds.1 x hx.2.1 hx.2.2
  | false =>
    rw [if_neg Bool.false_ne_true, if_neg Bool.false_ne_true]
    refine Option.map_congr fun n hp => ?_
    have hn := (parseUint_spec s d.bits d.okBits n).1 hp
    rw [d.bits_eq_width] at hn
    exact wrapU_id _ n (Int.natCast_nonneg n) (by exact_mod_cast hn.2)

/-- **C08_exact_or_error** — for EVERY destination site and EVERY text: the conversion succeeds
    with `v` iff the text denotes `v` and `v` is a value of the destination's type.  In particular
    a success never stores a wrapped or truncated number (`narrow` is the identity on every
    accepted value), and a text that does not fit is rejected. -/
theorem C08_exact_or_error (d : Dest) (s : List Char) (v : Int) :
    bindNum d s = some v ↔ denoteFor d s = some v ∧ d.inRange v := by
  rw [bindNum_eq]
  unfold denoteFor Dest.inRange
  cases d.signed with
  | true => simp only [if_true]; rw [parseInt_spec s d.bits d.okBits, d.bits_eq_width]
  | false =>
    simp only [Bool.false_eq_true, if_false, Option.map_eq_some_iff, parseUint_spec s d.bits d.okBits,
      d.bits_eq_width]
    constructor
    · intro ⟨n, ⟨hd, hlt⟩, hv⟩
      subst hv
      exact ⟨⟨n, hd, rfl⟩, Int.natCast_nonneg n, by exact_mod_cast hlt⟩
    · intro ⟨⟨n, hd, hv⟩, _, hlt⟩
      subst hv
      exact ⟨n, ⟨hd, by exact_mod_cast hlt⟩, rfl⟩

/-- never a wrapped number: the narrowing conversion is the identity on every accepted value -/
theorem C08_never_wraps (d : Dest) (s : List Char) (v : Int) (h : bindNum d s = some v) :
    (if d.signed then (parseInt s d.bits) else (parseUint s d.bits).map (fun (n : Nat) => (n : Int))) = some v := by
  rw [← bindNum_eq]; exact h

/-- floats: the stored value is what `strconv.ParseFloat` gives for the width of the
    destination TYPE (so the later `float32(n)` conversion is exact) -/
theorem C08_float_width (ext : Ext) (f : FSite) (s : List Char) :
    parseElem ext (.float f) s = (ext f.ty.width s).map .opq := by
  rw [parseElem, f.bits_eq_width]

/-! ## the ValueBinder state machine -/

theorem frozen_iff (b : VB) : b.frozen = true ↔ b.failFast = true ∧ b.errors ≠ 0 := by
  simp [VB.frozen]

theorem VB.addErr_frozen (b : VB) : b.addErr.frozen = b.failFast := by
  simp [VB.frozen, VB.addErr]

theorem exists_of_map_eq_map_some {α β : Type} {f : α → Option β} {l : List α} {xs : List β}
    (h : l.map f = xs.map some) {a : α} (ha : a ∈ l) : ∃ x, f a = some x := by
  have := List.mem_map_of_mem (f := f) ha
  rw [h] at this
  obtain ⟨x, _, hx⟩ := List.mem_map.1 this
  exact ⟨x, hx.symm⟩

theorem length_eq_of_map_eq_map {α β γ : Type} {f : α → γ} {g : β → γ} {l : List α} {xs : List β}
    (h : l.map f = xs.map g) : xs.length = l.length := by
  simpa using (congrArg List.length h).symm

/-! ### the element loop -/

theorem sliceLoop_cons_some {ext : Ext} {e : Elem} {v : List Char} {x : SVal} (b : VB) (vs : List (List Char))
    (hp : parseElem ext e v = some x) (hf : b.frozen = false) :
    sliceLoop ext e b (v :: vs) = ((sliceLoop ext e b vs).1, (sliceLoop ext e b vs).2.map (x :: ·)) := by
  simp only [sliceLoop, hp, hf, Bool.false_eq_true, if_false]

theorem sliceLoop_cons_none {ext : Ext} {e : Elem} {v : List Char} (b : VB) (vs : List (List Char))
    (hp : parseElem ext e v = none) :
    sliceLoop ext e b (v :: vs) = if b.failFast = true then (b.addErr, none)
      else ((sliceLoop ext e b.addErr vs).1, (sliceLoop ext e b.addErr vs).2.map (zeroOf e :: ·)) := by
  simp only [sliceLoop, hp, VB.addErr_frozen]

theorem sliceLoop_cases (ext : Ext) (e : Elem) (vs : List (List Char)) :
    ∀ b : VB, b.frozen = false →
      (∃ xs, vs.map (parseElem ext e) = xs.map some ∧ sliceLoop ext e b vs = (b, some xs))
      ∨ ((∃ v ∈ vs, parseElem ext e v = none) ∧ b.errors < (sliceLoop ext e b vs).1.errors
          ∧ (sliceLoop ext e b vs).1.failFast = b.failFast) := by
  induction vs with
  | nil => intro b _; exact Or.inl ⟨[], rfl, rfl⟩
  | cons v vs ih =>
    intro b hf
    cases hp : parseElem ext e v with
    | some x =>
      rw [sliceLoop_cons_some b vs hp hf]
      rcases ih b hf with ⟨xs, hm, hl⟩ | ⟨⟨w, hw, hn⟩, hlt, hff⟩
      · exact Or.inl ⟨x :: xs, by rw [List.map_cons, hp, hm, List.map_cons], by rw [hl]; rfl⟩
      · exact Or.inr ⟨⟨w, List.mem_cons_of_mem _ hw, hn⟩, hlt, hff⟩
    | none =>
      refine Or.inr ⟨⟨v, List.mem_cons_self, hp⟩, ?_⟩
      rw [sliceLoop_cons_none b vs hp]
      cases hff : b.failFast with
      | true => exact ⟨Nat.lt_succ_self _, hff⟩
      | false =>
        rcases ih b.addErr (by rw [VB.addErr_frozen, hff]) with ⟨xs, _, hl⟩ | ⟨_, hlt, hff'⟩
        · rw [if_neg Bool.false_ne_true, hl]; exact ⟨Nat.lt_succ_self _, hff⟩
        · rw [if_neg Bool.false_ne_true]; exact ⟨Nat.lt_trans (Nat.lt_succ_self _) hlt, hff'.trans hff⟩

theorem sliceAssign_cases (ext : Ext) (b : VB) (e : Elem) (vs : List (List Char)) (init : DVal)
    (hf : b.frozen = false) :
    (∃ xs, vs.map (parseElem ext e) = xs.map some ∧
        sliceAssign ext b e vs init = if b.errors = 0 then (b, .slice (some xs)) else (b, init))
    ∨ ((∃ v ∈ vs, parseElem ext e v = none) ∧ b.errors < (sliceAssign ext b e vs init).1.errors
        ∧ (sliceAssign ext b e vs init).1.failFast = b.failFast ∧ (sliceAssign ext b e vs init).2 = init) := by
  unfold sliceAssign
  rcases sliceLoop_cases ext e vs b hf with ⟨xs, hm, hl⟩ | ⟨hbad, hlt, hff⟩
  · exact Or.inl ⟨xs, hm, by rw [hl]⟩
  · refine Or.inr ⟨hbad, ?_⟩
    cases hr : sliceLoop ext e b vs with
    | mk b1 r =>
      rw [hr] at hlt hff
      cases r with
      | none => exact ⟨hlt, hff, rfl⟩
      | some tmp =>
        have : b1.errors ≠ 0 := Nat.ne_of_gt (Nat.lt_of_le_of_lt (Nat.zero_le _) hlt)
        simp only [if_neg this]
        exact ⟨hlt, hff, trivial⟩

/-! ### one call -/

/-- the pieces a call converts -/
def Call.pieces (c : Call) : List (List Char) :=
  match c.shape with
  | .scalar => [c.values.headD []]
  | .slice => c.values
  | .delim => c.values.flatMap (split c.delim)

theorem callStep_frozen (ext : Ext) (b : VB) (c : Call) (hf : b.frozen = true) :
    callStep ext b c = (b, c.init) := by
  unfold callStep
  cases c.shape <;> simp only [scalarCall, sliceCall, delimCall, hf, if_true]

theorem callStep_scalar (ext : Ext) (b : VB) (c : Call) (hs : c.shape = .scalar) (hf : b.frozen = false)
    (hv : c.values.headD [] ≠ []) :
    callStep ext b c = match parseElem ext c.elem (c.values.headD []) with
      | none => (b.addErr, c.init)
      | some v => (b, .scalar v) := by
  simp only [callStep, hs, scalarCall, hf, Bool.false_eq_true, if_false, hv]
  rfl

/-- **C08_empty (value binder)** — an empty or absent value is "absent": the destination is not
    touched; only `Must*` records an error -/
theorem C08_empty_vb (ext : Ext) (b : VB) (c : Call) (hs : c.shape = .scalar)
    (he : c.values.headD [] = []) :
    (callStep ext b c).2 = c.init
    ∧ (callStep ext b c).1 = (if b.frozen = false ∧ c.must = true then b.addErr else b) := by
  unfold callStep
  simp only [hs, scalarCall, he]
  cases b.frozen <;> cases c.must <;> simp

theorem callStep_absent (ext : Ext) (b : VB) (c : Call) (hs : c.shape ≠ .scalar) (hf : b.frozen = false)
    (hv : c.values = []) : callStep ext b c = ((if c.must then b.addErr else b), c.init) := by
  unfold callStep
  cases hsh : c.shape with
  | scalar => exact absurd hsh hs
  | slice => simp only [sliceCall, hf, hv, Bool.false_eq_true, if_false, if_true]
  | delim => simp only [delimCall, hf, hv, Bool.false_eq_true, if_false, if_true]

theorem callStep_unsupported (ext : Ext) (b : VB) (c : Call) (hs : c.shape = .delim) (hf : b.frozen = false)
    (hv : c.values ≠ []) (hsup : c.supported = false) : callStep ext b c = (b.addErr, c.init) := by
  simp only [callStep, hs, delimCall, hf, hv, hsup, Bool.false_eq_true, if_false, not_false_eq_true, if_true]

theorem callStep_pieces (ext : Ext) (b : VB) (c : Call) (hs : c.shape ≠ .scalar) (hf : b.frozen = false)
    (hv : c.values ≠ []) (hsup : c.shape = .delim → c.supported = true) :
    callStep ext b c = if c.elem = .str then (b, .slice (some (c.pieces.map .opq)))
      else sliceAssign ext b c.elem c.pieces c.init := by
  have key : callStep ext b c = match c.elem with
      | .str => (b, .slice (some (c.pieces.map .opq)))
      | e => sliceAssign ext b e c.pieces c.init := by
    unfold callStep Call.pieces
    cases hsh : c.shape with
    | scalar => exact absurd hsh hs
    | slice => simp only [sliceCall, hf, hv, Bool.false_eq_true, if_false]; rfl
    | delim => simp only [delimCall, hf, hv, hsup hsh, Bool.false_eq_true, if_false, not_true_eq_false]; rfl
  rw [key]
  generalize c.elem = e
  cases e <;> rfl

/-- `c.elem = .str ∨ b.errors = 0`: when every piece converts the destination receives the conversions
    unless the binder already holds errors — a test that `Strings` alone does not make. -/
theorem callStep_pieces_cases (ext : Ext) (b : VB) (c : Call) (hs : c.shape ≠ .scalar) (hf : b.frozen = false)
    (hv : c.values ≠ []) (hsup : c.shape = .delim → c.supported = true) :
    (∃ xs, c.pieces.map (parseElem ext c.elem) = xs.map some ∧
        callStep ext b c = if c.elem = .str ∨ b.errors = 0 then (b, .slice (some xs)) else (b, c.init))
    ∨ ((∃ p ∈ c.pieces, parseElem ext c.elem p = none) ∧ b.errors < (callStep ext b c).1.errors
        ∧ (callStep ext b c).1.failFast = b.failFast ∧ (callStep ext b c).2 = c.init) := by
  rw [callStep_pieces ext b c hs hf hv hsup]
  by_cases he : c.elem = .str
  · exact Or.inl ⟨c.pieces.map .opq, by rw [he, List.map_map]; rfl, by rw [if_pos he, if_pos (Or.inl he)]⟩
  · rw [if_neg he]
    rcases sliceAssign_cases ext b c.elem c.pieces c.init hf with ⟨xs, hm, h⟩ | h
    · exact Or.inl ⟨xs, hm, by rw [h]; simp only [he, false_or]⟩
    · exact Or.inr h

/-- summary of one call: errors only grow, the mode is kept, and the destination is either
    untouched or holds the conversion of every piece, in which case this call recorded no error -/
theorem callStep_spec (ext : Ext) (b : VB) (c : Call) :
    b.errors ≤ (callStep ext b c).1.errors
    ∧ (callStep ext b c).1.failFast = b.failFast
    ∧ ((callStep ext b c).2 = c.init
        ∨ ((callStep ext b c).1 = b ∧ b.frozen = false ∧
            ((c.shape = .scalar ∧ ∃ v, (callStep ext b c).2 = .scalar v
                ∧ parseElem ext c.elem (c.values.headD []) = some v ∧ c.values.headD [] ≠ [])
             ∨ (c.shape ≠ .scalar ∧ ∃ tmp, (callStep ext b c).2 = .slice (some tmp)
                ∧ c.pieces.map (parseElem ext c.elem) = tmp.map some
                ∧ (c.elem = .str ∨ b.errors = 0))))) := by
  cases hf : b.frozen with
  | true => rw [callStep_frozen ext b c hf]; exact ⟨Nat.le_refl _, rfl, Or.inl rfl⟩
  | false =>
    by_cases hs : c.shape = .scalar
    · by_cases hv : c.values.headD [] = []
      · obtain ⟨h2, h1⟩ := C08_empty_vb ext b c hs hv
        rw [h1]
        exact ⟨by split <;> simp [VB.addErr], by split <;> rfl, Or.inl h2⟩
      · rw [callStep_scalar ext b c hs hf hv]
        cases hp : parseElem ext c.elem (c.values.headD []) with
        | none => exact ⟨Nat.le_succ _, rfl, Or.inl rfl⟩
        | some v => exact ⟨Nat.le_refl _, rfl, Or.inr ⟨rfl, rfl, Or.inl ⟨hs, v, rfl, rfl, hv⟩⟩⟩
    · by_cases hv : c.values = []
      · rw [callStep_absent ext b c hs hf hv]
        cases c.must
        · exact ⟨Nat.le_refl _, rfl, Or.inl rfl⟩
        · exact ⟨Nat.le_succ _, rfl, Or.inl rfl⟩
      · by_cases hu : c.shape = .delim ∧ c.supported = false
        · rw [callStep_unsupported ext b c hu.1 hf hv hu.2]
          exact ⟨Nat.le_succ _, rfl, Or.inl rfl⟩
        · rcases callStep_pieces_cases ext b c hs hf hv (fun hd => eq_true_of_ne_false fun h => hu ⟨hd, h⟩) with
            ⟨xs, hm, h⟩ | ⟨_, hlt, hff, hi⟩
          · rw [h]
            split
            · rename_i hg
              exact ⟨Nat.le_refl _, rfl, Or.inr ⟨rfl, rfl, Or.inr ⟨hs, xs, rfl, hm, hg⟩⟩⟩
            · exact ⟨Nat.le_refl _, rfl, Or.inl rfl⟩
          · exact ⟨Nat.le_of_lt hlt, hff, Or.inl hi⟩

theorem parseElem_num (ext : Ext) (d : Dest) (s : List Char) (x : SVal) :
    parseElem ext (.num d) s = some x ↔ ∃ v, x = .int v ∧ denoteFor d s = some v ∧ d.inRange v := by
  simp only [parseElem, Option.map_eq_some_iff, C08_exact_or_error]
  exact ⟨fun ⟨v, h, hx⟩ => ⟨v, hx.symm, h⟩, fun ⟨v, hx, h⟩ => ⟨v, h, hx.symm⟩⟩

/-- **C08_error_leaves_dest** — a value-binder call that records an error leaves its
    destination unchanged (scalar, slice and delimiter variants, `Must*` included) -/
theorem C08_error_leaves_dest (ext : Ext) (b : VB) (c : Call)
    (h : (callStep ext b c).1.errors ≠ b.errors) : (callStep ext b c).2 = c.init := by
  obtain ⟨_, _, h' | h'⟩ := callStep_spec ext b c
  · exact h'
  · rw [h'.1] at h; exact absurd rfl h

/-- **C08_failfast_frozen** — in fail-fast mode, once an error is recorded a call neither
    writes nor records anything -/
theorem C08_failfast_frozen (ext : Ext) (b : VB) (c : Call) (hff : b.failFast = true)
    (he : b.errors ≠ 0) : callStep ext b c = (b, c.init) :=
  callStep_frozen ext b c ((frozen_iff b).2 ⟨hff, he⟩)

/-- **C08_slice_all_or_nothing** — a slice / delimiter call either leaves its destination
    untouched or stores the conversion of EVERY piece (then it recorded no error).  That every stored
    element of an integer type is exactly what its piece denotes is `C08_slice_exact`. -/
theorem C08_slice_all_or_nothing (ext : Ext) (b : VB) (c : Call) (hs : c.shape ≠ .scalar) :
    (callStep ext b c).2 = c.init
    ∨ ∃ tmp, (callStep ext b c).2 = .slice (some tmp)
        ∧ c.pieces.map (parseElem ext c.elem) = tmp.map some
        ∧ (callStep ext b c).1 = b := by
  obtain ⟨_, _, h | ⟨hb, _, ⟨h, _⟩ | ⟨_, tmp, ht, hm, _⟩⟩⟩ := callStep_spec ext b c
  · exact Or.inl h
  · exact absurd h hs
  · exact Or.inr ⟨tmp, ht, hm, hb⟩

theorem C08_slice_exact (ext : Ext) (b : VB) (c : Call) (d : Dest) (hs : c.shape ≠ .scalar)
    (he : c.elem = .num d) (tmp : List SVal) (h : (callStep ext b c).2 = .slice (some tmp))
    (hch : (callStep ext b c).2 ≠ c.init) :
    c.pieces.map (fun p => (denoteFor d p).map SVal.int) = tmp.map some
    ∧ ∀ p ∈ c.pieces, ∃ v, denoteFor d p = some v ∧ d.inRange v := by
  obtain h' | ⟨tmp', ht, hm, _⟩ := C08_slice_all_or_nothing ext b c hs
  · exact absurd h' hch
  rw [h] at ht
  cases ht
  rw [he] at hm
  have hall : ∀ p ∈ c.pieces, ∃ v, parseElem ext (.num d) p = some (.int v)
      ∧ denoteFor d p = some v ∧ d.inRange v := by
    intro p hp
    obtain ⟨x, hx⟩ := exists_of_map_eq_map_some hm hp
    obtain ⟨v, rfl, hv⟩ := (parseElem_num ext d p x).1 hx
    exact ⟨v, hx, hv⟩
  refine ⟨?_, fun p hp => ?_⟩
  · rw [← hm]
    apply List.map_congr_left
    intro p hp
    obtain ⟨v, hx, hd, _⟩ := hall p hp
    rw [hx, hd]; rfl
  · obtain ⟨v, _, hv⟩ := hall p hp
    exact ⟨v, hv⟩

/-- scalar calls: the destination changes only to exactly what the text denotes -/
theorem C08_scalar_exact (ext : Ext) (b : VB) (c : Call) (d : Dest) (hs : c.shape = .scalar)
    (he : c.elem = .num d) (hch : (callStep ext b c).2 ≠ c.init) :
    ∃ v, (callStep ext b c).2 = .scalar (.int v) ∧ denoteFor d (c.values.headD []) = some v
      ∧ d.inRange v ∧ (callStep ext b c).1 = b := by
  obtain ⟨_, _, h | ⟨hb, _, ⟨_, x, hx, hp, _⟩ | ⟨h, _⟩⟩⟩ := callStep_spec ext b c
  · exact absurd h hch
  · rw [he] at hp
    obtain ⟨v, rfl, hd, hr⟩ := (parseElem_num ext d _ x).1 hp
    exact ⟨v, hx, hd, hr, hb⟩
  · exact absurd hs h

/-- and conversely (no silent skip): an unfrozen scalar call with a non-empty text that denotes
    a value of the destination type stores it; one that does not records exactly one error -/
theorem C08_scalar_complete (ext : Ext) (b : VB) (c : Call) (d : Dest) (hs : c.shape = .scalar)
    (he : c.elem = .num d) (hf : b.frozen = false) (hne : c.values.headD [] ≠ []) :
    (∀ v, denoteFor d (c.values.headD []) = some v → d.inRange v →
        callStep ext b c = (b, .scalar (.int v)))
    ∧ ((∀ v, denoteFor d (c.values.headD []) = some v → ¬ d.inRange v) →
        callStep ext b c = (b.addErr, c.init)) := by
  rw [callStep_scalar ext b c hs hf hne, he]
  constructor
  · intro v hd hr
    rw [(parseElem_num ext d _ _).2 ⟨v, rfl, hd, hr⟩]
  · intro hno
    cases hp : parseElem ext (.num d) (c.values.headD []) with
    | none => rfl
    | some x =>
      obtain ⟨v, _, hd, hr⟩ := (parseElem_num ext d _ x).1 hp
      exact absurd hr (hno v hd)

/-! ### CustomFunc / MustCustomFunc -/

theorem customStep_frozen (b : VB) (c : Custom) (hf : b.frozen = true) : customStep b c = (b, c.init) := by
  simp only [customStep, hf, if_true]

/-- **C08_custom_frozen** — in fail-fast mode with a recorded error the user function is not
    invoked: its destination keeps its value and nothing is recorded -/
theorem C08_custom_frozen (b : VB) (c : Custom) (hff : b.failFast = true) (he : b.errors ≠ 0) :
    customStep b c = (b, c.init) :=
  customStep_frozen b c ((frozen_iff b).2 ⟨hff, he⟩)

/-- **C08_custom_spec** — otherwise: an absent parameter never invokes the function (`Must`
    records exactly one error); a present one invokes it once and EVERY error it returns is
    recorded -/
theorem C08_custom_spec (b : VB) (c : Custom) (hf : b.frozen = false) :
    (c.values = [] → customStep b c = ((if c.must then b.addErr else b), c.init))
    ∧ (c.values ≠ [] → customStep b c = (b.addCustom c.errs, c.result)) := by
  constructor <;> intro h <;> simp [customStep, hf, h]

theorem VB.addCustom_mono (b : VB) (n : Nat) :
    b.errors ≤ (b.addCustom n).errors ∧ (b.addCustom n).failFast = b.failFast := by
  unfold VB.addCustom
  split
  · exact ⟨Nat.le_refl _, rfl⟩
  · exact ⟨Nat.le_add_right _ _, rfl⟩

theorem customStep_mono (b : VB) (c : Custom) :
    b.errors ≤ (customStep b c).1.errors ∧ (customStep b c).1.failFast = b.failFast := by
  cases hf : b.frozen with
  | true => rw [customStep_frozen b c hf]; exact ⟨Nat.le_refl _, rfl⟩
  | false =>
    by_cases hv : c.values = []
    · rw [(C08_custom_spec b c hf).1 hv]
      cases c.must
      · exact ⟨Nat.le_refl _, rfl⟩
      · exact ⟨Nat.le_succ _, rfl⟩
    · rw [(C08_custom_spec b c hf).2 hv]
      exact b.addCustom_mono c.errs

/-- ops that bind a parameter -/
def Op.isBinding : Op → Bool
  | .call _ => true
  | .custom _ => true
  | _ => false

/-- what a binding op reports when it does nothing at all -/
def Op.untouched : Op → Out
  | .call c => .call c.init 0
  | .custom c => .call c.init 0
  | _ => .nothing

/-! ### chains of binding ops -/

def vbEnd (ext : Ext) : VB → List Op → VB
  | b, [] => b
  | b, o :: os => vbEnd ext (vbStep ext b o).1 os

theorem vbRun_append (ext : Ext) (xs ys : List Op) :
    ∀ b, vbRun ext b (xs ++ ys) = vbRun ext b xs ++ vbRun ext (vbEnd ext b xs) ys := by
  induction xs with
  | nil => intro b; rfl
  | cons x xs ih => intro b; simp only [List.cons_append, vbRun, vbEnd, ih]

theorem vbStep_binding_mono (ext : Ext) (b : VB) (o : Op) (ho : o.isBinding = true) :
    b.errors ≤ (vbStep ext b o).1.errors ∧ (vbStep ext b o).1.failFast = b.failFast := by
  cases o with
  | call c => obtain ⟨h1, h2, _⟩ := callStep_spec ext b c; exact ⟨h1, h2⟩
  | custom c => exact customStep_mono b c
  | _ => cases ho

theorem vbEnd_binding (ext : Ext) (ops : List Op) (ho : ∀ o ∈ ops, o.isBinding = true) :
    ∀ b, (vbEnd ext b ops).failFast = b.failFast ∧ b.errors ≤ (vbEnd ext b ops).errors := by
  induction ops with
  | nil => intro b; exact ⟨rfl, Nat.le_refl _⟩
  | cons o os ih =>
    intro b
    obtain ⟨h1, h2⟩ := vbStep_binding_mono ext b o (ho o List.mem_cons_self)
    have := ih (fun x hx => ho x (List.mem_cons_of_mem _ hx)) (vbStep ext b o).1
    exact ⟨this.1.trans h2, Nat.le_trans h1 this.2⟩

theorem vbStep_frozen (ext : Ext) (b : VB) (o : Op) (ho : o.isBinding = true) (hff : b.failFast = true)
    (he : b.errors ≠ 0) : vbStep ext b o = (b, o.untouched) := by
  cases o with
  | call c => simp only [vbStep, C08_failfast_frozen ext b c hff he, Nat.sub_self, Op.untouched]
  | custom c => simp only [vbStep, C08_custom_frozen b c hff he, Nat.sub_self, Op.untouched]
  | _ => cases ho

/-- **C08_failfast_chain_ops** — a frozen binder stays frozen through ANY sequence of binding
    ops (typed calls, slice / delimiter calls, `Time(s)`, `CustomFunc`): nothing is written, no
    user function is invoked, nothing is recorded -/
theorem C08_failfast_chain_ops (ext : Ext) (ops : List Op) (ho : ∀ o ∈ ops, o.isBinding = true) :
    ∀ b, b.failFast = true → b.errors ≠ 0 →
      vbRun ext b ops = ops.map Op.untouched ∧ vbEnd ext b ops = b := by
  induction ops with
  | nil => intro b _ _; exact ⟨rfl, rfl⟩
  | cons o os ih =>
    intro b hff he
    obtain ⟨i1, i2⟩ := ih (fun x hx => ho x (List.mem_cons_of_mem _ hx)) b hff he
    simp only [vbRun, vbEnd, vbStep_frozen ext b o (ho o List.mem_cons_self) hff he, i1, i2, List.map_cons,
      and_self]

/-- **nothing is written after the first error, for every kind of binding op** -/
theorem C08_failfast_nothing_after_error_ops (ext : Ext) (b : VB) (hff : b.failFast = true)
    (pre post : List Op) (o : Op) (hpre : ∀ x ∈ pre, x.isBinding = true) (ho : o.isBinding = true)
    (hpost : ∀ x ∈ post, x.isBinding = true)
    (herr : (vbStep ext (vbEnd ext b pre) o).1.errors ≠ 0) :
    vbRun ext b (pre ++ o :: post)
      = vbRun ext b pre ++ (vbStep ext (vbEnd ext b pre) o).2 :: post.map Op.untouched := by
  rw [vbRun_append]
  congr 1
  simp only [vbRun]
  congr 1
  have h1 := (vbEnd_binding ext pre hpre b).1
  have h2 := (vbStep_binding_mono ext (vbEnd ext b pre) o ho).2
  exact (C08_failfast_chain_ops ext post hpost _ (by rw [h2, h1, hff]) herr).1

theorem calls_binding (cs : List Call) : ∀ o ∈ cs.map Op.call, o.isBinding = true := by
  intro o ho
  obtain ⟨c, _, rfl⟩ := List.mem_map.1 ho
  rfl

/-- a frozen binder stays frozen through any sequence of calls: nothing is written, nothing recorded -/
theorem C08_failfast_chain (ext : Ext) (cs : List Call) :
    ∀ b, b.failFast = true → b.errors ≠ 0 →
      vbRun ext b (cs.map .call) = cs.map (fun c => Out.call c.init 0)
      ∧ vbEnd ext b (cs.map .call) = b := by
  intro b hff he
  have := C08_failfast_chain_ops ext (cs.map .call) (calls_binding cs) b hff he
  rw [List.map_map] at this
  exact this

/-- **nothing is written after the first error** — in fail-fast mode, whatever calls came
    before, once a call records an error every later call of the chain leaves its destination
    as it was and records nothing -/
theorem C08_failfast_nothing_after_error (ext : Ext) (b : VB) (hff : b.failFast = true)
    (pre post : List Call) (c : Call)
    (herr : (callStep ext (vbEnd ext b (pre.map .call)) c).1.errors ≠ 0) :
    vbRun ext b ((pre ++ c :: post).map .call)
      = vbRun ext b (pre.map .call)
        ++ (vbStep ext (vbEnd ext b (pre.map .call)) (.call c)).2
        :: post.map (fun c => Out.call c.init 0) := by
  rw [List.map_append, List.map_cons, C08_failfast_nothing_after_error_ops ext b hff (pre.map .call)
    (post.map .call) (.call c) (calls_binding pre) rfl (calls_binding post) herr, List.map_map]
  rfl

/-! ### the loop of `durations` / `times` as written -/

/-- `durations` and `times` do not call a per-element helper: their loop tests `b.failFast` alone,
    and only in the error branch -/
def errLoop (ext : Ext) (e : Elem) : VB → List (List Char) → VB × Option (List SVal)
  | b, [] => (b, some [])
  | b, v :: vs =>
    match parseElem ext e v with
    | some x =>
      let r := errLoop ext e b vs
      (r.1, r.2.map (x :: ·))
    | none =>
      let b1 := b.addErr
      if b1.failFast then (b1, none)
      else
        let r := errLoop ext e b1 vs
        (r.1, r.2.map (zeroOf e :: ·))

/-- … which is the loop of the other slice methods whenever the method was entered at all
    (its first statement returns if the binder is frozen) -/
theorem C08_errLoop_eq (ext : Ext) (e : Elem) :
    ∀ (vs : List (List Char)) (b : VB), b.frozen = false → errLoop ext e b vs = sliceLoop ext e b vs := by
  intro vs
  induction vs with
  | nil => intro b _; rfl
  | cons v vs ih =>
    intro b hf
    cases hp : parseElem ext e v with
    | some x => rw [sliceLoop_cons_some b vs hp hf, ← ih b hf]; simp only [errLoop, hp]
    | none =>
      rw [sliceLoop_cons_none b vs hp]
      simp only [errLoop, hp]
      rw [show b.addErr.failFast = b.failFast from rfl]
      cases hff : b.failFast with
      | true => rfl
      | false => rw [ih b.addErr (by rw [VB.addErr_frozen, hff])]

/-! ### whitespace-only text, and an `ErrorFunc` that returns nil -/

theorem bindNum_bad_first (d : Dest) (c : Char) (cs : List Char) (hd : digit? c = none)
    (hs : c ≠ '+' ∧ c ≠ '-') : bindNum d (c :: cs) = none := by
  have hu : ∀ bits, parseUint (c :: cs) bits = none := by
    intro bits
    simp [parseUint, puLoop, hd]
  unfold bindNum
  cases d.signed
  · simp [hu]
  · simp [parseInt, hs.1, hs.2, hu]

/-- **C08_blank_text_is_an_error** — "empty counts as absent" means exactly the empty string: an
    unfrozen scalar call whose text is not empty but begins with a blank (space, tab, line feed,
    carriage return — in particular text that is blank as a whole) records exactly one error and
    leaves an integer destination alone, for `Must` and non-`Must` methods alike -/
theorem C08_blank_text_is_an_error (ext : Ext) (b : VB) (c : Call) (d : Dest) (hs : c.shape = .scalar)
    (he : c.elem = .num d) (hf : b.frozen = false) (x : Char) (rest : List Char)
    (hv : c.values.headD [] = x :: rest) (hx : x = ' ' ∨ x = '\t' ∨ x = '\n' ∨ x = '\r') :
    callStep ext b c = (b.addErr, c.init) := by
  have hbad : bindNum d (x :: rest) = none := by
    rcases hx with rfl | rfl | rfl | rfl <;> exact bindNum_bad_first d _ rest (by decide) (by decide)
  rw [callStep_scalar ext b c hs hf (by rw [hv]; exact List.cons_ne_nil _ _), he, hv, parseElem, hbad]
  rfl

/-- **C08_setError_records_nil** — whatever the application's `ErrorFunc` returns (nil included),
    a failed conversion is recorded: the error count grows by one, so the fail-fast test and the
    slice guard `b.errors == nil` see it; only `BindError()` depends on what was returned -/
theorem C08_setError_records_nil (b : VB) :
    b.addErr.errors = b.errors + 1 ∧ b.addErr.frozen = b.failFast ∧ b.addErr.failFast = b.failFast
    ∧ b.addErr.efNil = b.efNil :=
  ⟨rfl, VB.addErr_frozen b, rfl, rfl⟩

/-- the theorems above quantify over every `VB`, hence over both kinds of `ErrorFunc`;
    spelled out for the clause the nil-returning one endangers: with ANY `ErrorFunc`, after a
    failing binding op of a fail-fast binder every later binding op is untouched -/
theorem C08_any_errorfunc_nothing_after_error (ext : Ext) (n : Nat) (en fn : Bool)
    (pre post : List Op) (o : Op) (hpre : ∀ x ∈ pre, x.isBinding = true) (ho : o.isBinding = true)
    (hpost : ∀ x ∈ post, x.isBinding = true)
    (herr : (vbStep ext (vbEnd ext ⟨n, true, en, fn⟩ pre) o).1.errors ≠ 0) :
    vbRun ext ⟨n, true, en, fn⟩ (pre ++ o :: post)
      = vbRun ext ⟨n, true, en, fn⟩ pre ++ (vbStep ext (vbEnd ext ⟨n, true, en, fn⟩ pre) o).2 :: post.map Op.untouched :=
  C08_failfast_nothing_after_error_ops ext ⟨n, true, en, fn⟩ rfl pre post o hpre ho hpost herr

/-! ### the constructors' default -/

/-- **C08_ctor_failfast_default** — every public constructor returns a binder without errors and
    with fail-fast ENABLED -/
theorem C08_ctor_failfast_default (c : Ctor) : (newBinder c).failFast = true ∧ (newBinder c).errors = 0 := by
  cases c <;> exact ⟨rfl, rfl⟩

/-- **C08_default_binder_nothing_after_error** — a binder fresh from ANY constructor, used without
    a `FailFast` call: once a binding op records an error every later binding op of the chain is
    untouched (no write, no user function invoked, nothing recorded) -/
theorem C08_default_binder_nothing_after_error (ext : Ext) (c : Ctor) (pre post : List Op) (o : Op)
    (hpre : ∀ x ∈ pre, x.isBinding = true) (ho : o.isBinding = true)
    (hpost : ∀ x ∈ post, x.isBinding = true)
    (herr : (vbStep ext (vbEnd ext (newBinder c) pre) o).1.errors ≠ 0) :
    vbRun ext (newBinder c) (pre ++ o :: post)
      = vbRun ext (newBinder c) pre ++ (vbStep ext (vbEnd ext (newBinder c) pre) o).2 :: post.map Op.untouched :=
  C08_failfast_nothing_after_error_ops ext (newBinder c) (C08_ctor_failfast_default c).1 pre post o hpre ho hpost herr

/-! ## empty text, in both binders -/

/-- **C08_empty (struct binder)** — empty text binds the zero value -/
theorem C08_empty_struct (ext : Ext) (d : Dest) :
    structElem ext (.num d) [] = some (.int 0) ∧ structElem ext .bool [] = some (.bool false)
    ∧ structElem ext .str [] = some (.opq []) := by
  have hpos : ∀ k : Nat, (0 : Int) < 2 ^ k := fun k => Int.pow_pos (by decide)
  have h : bindNum d ['0'] = some 0 := by
    rw [C08_exact_or_error]
    unfold denoteFor Dest.inRange
    cases d.signed
    · exact ⟨by decide, Int.le_refl _, hpos _⟩
    · exact ⟨by decide, Int.neg_nonpos_of_nonneg (Int.le_of_lt (hpos _)), hpos _⟩
  exact ⟨congrArg (Option.map SVal.int) h, rfl, rfl⟩

/-- **C08_empty** — empty text: zero value in struct binding, "absent" in the value binder -/
theorem C08_empty (ext : Ext) :
    (∀ d : Dest, structElem ext (.num d) [] = some (.int 0))
    ∧ structElem ext .bool [] = some (.bool false)
    ∧ (∀ (b : VB) (c : Call), c.shape = .scalar → c.values.headD [] = [] →
        (callStep ext b c).2 = c.init
        ∧ (callStep ext b c).1 = (if b.frozen = false ∧ c.must = true then b.addErr else b)) :=
  ⟨fun d => (C08_empty_struct ext d).1, (C08_empty_struct ext (.vbUnix)).2.1,
   fun b c hs he => C08_empty_vb ext b c hs he⟩

/-! ## the struct binder -/

/-- what a field must hold after a successful walk: its previous value if the source has no
    key for it, else the conversion of its text(s) — whatever it held before.  A multi-value
    destination (`UnmarshalParams`) holds ALL values of its key. -/
def fieldHolds (ext : Ext) (f : Field) (v : FVal) : Prop :=
  match f.values with
  | none => v = f.init
  | some vals =>
    match f.wrap with
    | .scalar | .ptr => ∃ x, v = .one x ∧ structElem ext f.elem (vals.headD []) = some x
    | .multi | .ptrMulti => v = .many (vals.map .opq) ∧ ∀ s ∈ vals, s.head? ≠ some '!'
    | _ => ∃ xs, v = .many xs ∧ vals.map (structElem ext f.elem) = xs.map some

theorem multiParse_some (vals : List (List Char)) (xs : List SVal) :
    multiParse vals = some xs ↔ xs = vals.map .opq ∧ ∀ s ∈ vals, s.head? ≠ some '!' := by
  simp only [multiParse, Option.ite_none_left_eq_some, Option.some.injEq, List.any_eq_true, decide_eq_true_eq,
    not_exists, not_and]
  exact ⟨fun h => ⟨h.2.symm, h.1⟩, fun h => ⟨h.2, h.1.symm⟩⟩

theorem multiParse_none (vals : List (List Char)) :
    multiParse vals = none ↔ ∃ s ∈ vals, s.head? = some '!' := by
  simp only [multiParse, ite_eq_left_iff, reduceCtorEq, imp_false, Decidable.not_not, List.any_eq_true,
    decide_eq_true_eq]

theorem structElems_spec (ext : Ext) (e : Elem) (ss : List (List Char)) :
    ∀ xs, structElems ext e ss = some xs ↔ ss.map (structElem ext e) = xs.map some := by
  induction ss with
  | nil => intro xs; cases xs <;> simp [structElems]
  | cons s ss ih =>
    intro xs
    simp only [structElems, List.map_cons]
    cases structElem ext e s with
    | none => cases xs <;> simp
    | some v =>
      cases xs with
      | nil => simp
      | cons x xs =>
        simp only [Option.map_eq_some_iff, ih, List.map_cons, List.cons.injEq, Option.some.injEq]
        exact ⟨fun ⟨t, ht, hv, hx⟩ => ⟨hv, hx ▸ ht⟩, fun ⟨hv, ht⟩ => ⟨xs, ht, hv, rfl⟩⟩

/-- a field fails iff the source has a key for it and one of the texts it converts is not convertible -/
def fieldBad (ext : Ext) (f : Field) : Prop :=
  match f.values with
  | none => False
  | some vals =>
    match f.wrap with
    | .scalar | .ptr => structElem ext f.elem (vals.headD []) = none
    | .multi | .ptrMulti => ∃ s ∈ vals, s.head? = some '!'
    | _ => ∃ s ∈ vals, structElem ext f.elem s = none

theorem structElems_none (ext : Ext) (e : Elem) (ss : List (List Char)) :
    structElems ext e ss = none ↔ ∃ s ∈ ss, structElem ext e s = none := by
  induction ss with
  | nil => simp [structElems]
  | cons s ss ih =>
    simp only [structElems, List.mem_cons, exists_eq_or_imp]
    cases hs : structElem ext e s with
    | none => simp
    | some v =>
      simp only [reduceCtorEq, false_or]
      rw [← ih]
      cases structElems ext e ss <;> simp

/-- the wraps that take every value of their key through `setWithProperType`: `[]T`, `[]*T`, `*[]T` -/
def Wrap.isList : Wrap → Bool
  | .slice | .sliceOfPtr | .ptrToSlice => true
  | _ => false

theorem Wrap.isList_iff (w : Wrap) : w.isList = true ↔ w = .slice ∨ w = .sliceOfPtr ∨ w = .ptrToSlice := by
  cases w <;> simp [Wrap.isList]

theorem bindField_list (ext : Ext) (f : Field) (vals : List (List Char)) (hw : f.wrap.isList = true)
    (hv : f.values = some vals) (hne : vals ≠ []) :
    (∀ xs, structElems ext f.elem vals = some xs → bindField ext f = .ok (.many xs))
    ∧ (structElems ext f.elem vals = none → ∃ w, bindField ext f = .err w) := by
  obtain ⟨w, e, init, values⟩ := f
  cases hv
  cases vals with
  | nil => exact absurd rfl hne
  | cons v0 vs =>
    rcases (Wrap.isList_iff w).1 hw with rfl | rfl | rfl <;>
      exact ⟨fun xs h => by simp only [bindField, h], fun h => by simp only [bindField, h]; exact ⟨_, rfl⟩⟩

/-- One step of the field loop, measured against the two predicates: a stored value is the conversion of
    the field's texts, a 400 means one of them is not convertible, and only an empty value list of an
    ordinary field reaches `inputValue[0]`. -/
theorem bindField_spec (ext : Ext) (f : Field) :
    match bindField ext f with
    | .ok v => fieldHolds ext f v ∧ ¬ fieldBad ext f
    | .err _ => fieldBad ext f
    | .panic => f.values = some [] ∧ f.wrap ≠ .multi ∧ f.wrap ≠ .ptrMulti := by
  obtain ⟨w, e, init, values⟩ := f
  cases values with
  | none => exact ⟨rfl, id⟩
  | some vals =>
    cases w
    case multi | ptrMulti =>
      cases h : multiParse vals with
      | none => simp only [bindField, h]; exact (multiParse_none vals).1 h
      | some xs =>
        simp only [bindField, h]
        exact ⟨((multiParse_some vals xs).1 h).imp_left (congrArg _),
          fun hb => Option.some_ne_none xs (h ▸ (multiParse_none vals).2 hb)⟩
    case scalar | ptr =>
      cases vals with
      | nil => exact ⟨rfl, nofun, nofun⟩
      | cons v0 vs =>
        cases h : structElem ext e v0 with
        | none => simp only [bindField, h]; exact h
        | some x => simp only [bindField, h]; exact ⟨⟨x, rfl, h⟩, fun hb => Option.some_ne_none x (h ▸ hb)⟩
    case slice | sliceOfPtr | ptrToSlice =>
      cases vals with
      | nil => exact ⟨rfl, nofun, nofun⟩
      | cons v0 vs =>
        cases h : structElems ext e (v0 :: vs) with
        | none => simp only [bindField, h]; exact (structElems_none ext _ _).1 h
        | some xs =>
          simp only [bindField, h]
          exact ⟨⟨xs, rfl, (structElems_spec ext _ _ xs).1 h⟩,
            fun hb => Option.some_ne_none xs (h ▸ (structElems_none ext _ _).2 hb)⟩

theorem bindField_ok (ext : Ext) (f : Field) (v : FVal) (h : bindField ext f = .ok v) :
    fieldHolds ext f v := by
  have := bindField_spec ext f
  rw [h] at this
  exact this.1

/-- **struct binder, exactness** — if the walk reports no error, every field for which the
    source carries a key holds the conversion of its text(s), WHATEVER it held before (a
    pre-populated destination is overwritten, in particular by the zero value for empty text);
    every other field holds what it held before -/
theorem C08_struct_exact (ext : Ext) (fs : List Field) :
    ∀ vals, structBind ext fs = (.ok, vals) →
      vals.length = fs.length ∧ ∀ p ∈ fs.zip vals, fieldHolds ext p.1 p.2 := by
  induction fs with
  | nil => intro vals h; simp [structBind] at h; subst h; simp
  | cons f fs ih =>
    intro vals h
    unfold structBind at h
    split at h
    · rename_i v hv
      simp only [Prod.mk.injEq] at h
      obtain ⟨h1, h2⟩ := h
      subst h2
      obtain ⟨i1, i2⟩ := ih _ (by rw [← h1])
      exact ⟨by simp [i1], List.forall_mem_cons.2 ⟨bindField_ok ext f v hv, i2⟩⟩
    · simp at h
    · simp at h

/-- **struct binder, never silent** — the walk reports 400 iff some field's text is not
    convertible (given what net/http guarantees: no empty value lists), and it never panics -/
theorem C08_struct_400 (ext : Ext) (fs : List Field)
    (hne : ∀ f ∈ fs, f.values = some [] → f.wrap = .multi ∨ f.wrap = .ptrMulti) :
    ((structBind ext fs).1 = .bad ↔ ∃ f ∈ fs, fieldBad ext f)
    ∧ ((structBind ext fs).1 = .ok ↔ ∀ f ∈ fs, ¬ fieldBad ext f) := by
  induction fs with
  | nil => simp [structBind]
  | cons f fs ih =>
    have ih' := ih (fun g hg => hne g (List.mem_cons_of_mem _ hg))
    have hf := bindField_spec ext f
    unfold structBind
    cases hv : bindField ext f with
    | ok v =>
      rw [hv] at hf
      simp only [List.mem_cons, exists_eq_or_imp, forall_eq_or_imp, hf.2, false_or, not_false_eq_true, true_and]
      exact ih'
    | err v =>
      rw [hv] at hf
      simp only [List.mem_cons, exists_eq_or_imp, forall_eq_or_imp, reduceCtorEq, false_iff, true_iff]
      exact ⟨Or.inl hf, fun hh => hh.1 hf⟩
    | panic =>
      rw [hv] at hf
      cases hne f List.mem_cons_self hf.1 with
      | inl hw => exact absurd hw hf.2.1
      | inr hw => exact absurd hw hf.2.2

/-- **C08_no_panic** — the only partial operation on the binding path is `inputValue[0]`;
    with the data net/http produces (every key has at least one value) it cannot fail — and a
    multi-value destination never reaches it, whatever the value list.  The value binder has no
    partial operation at all (`Out` has no panic outcome). -/
theorem C08_no_panic (ext : Ext) (fs : List Field)
    (hne : ∀ f ∈ fs, f.values = some [] → f.wrap = .multi ∨ f.wrap = .ptrMulti) :
    (structBind ext fs).1 ≠ .panic := by
  have := C08_struct_400 ext fs hne
  intro hp
  by_cases hb : ∃ f ∈ fs, fieldBad ext f
  · rw [this.1.2 hb] at hp; cases hp
  · have : (structBind ext fs).1 = .ok := this.2.2 (fun f hf hbad => hb ⟨f, hf, hbad⟩)
    rw [this] at hp; cases hp

/-- **empty text overwrites** — a scalar integer or bool field whose key is present with empty
    text ends up holding 0 / false whatever it held before (struct with defaults, reused
    struct, a value bound from an earlier source) -/
theorem C08_empty_overwrites (ext : Ext) (f : Field) (rest : List (List Char))
    (hw : f.wrap = .scalar) (hv : f.values = some ([] :: rest)) :
    (∀ d, f.elem = .num d → bindField ext f = .ok (.one (.int 0)))
    ∧ (f.elem = .bool → bindField ext f = .ok (.one (.bool false))) := by
  exact ⟨fun d he => by simp only [bindField, hv, hw, he, (C08_empty_struct ext d).1],
    fun he => by simp only [bindField, hv, hw, he, (C08_empty_struct ext .vbUnix).2.1]⟩

/-- two sources in sequence (path params, then the query string): the second walk starts from
    what the first one left and obeys the same exactness -/
theorem C08_struct2_exact (ext : Ext) (fs : List Field) (second : List (Option (List (List Char))))
    (vals : List FVal) (h : structBind2 ext fs second = (.ok, vals)) :
    ∃ vals1, structBind ext fs = (.ok, vals1)
      ∧ vals.length = (rebase fs vals1 second).length
      ∧ ∀ p ∈ (rebase fs vals1 second).zip vals, fieldHolds ext p.1 p.2 := by
  unfold structBind2 at h
  cases h1 : structBind ext fs with
  | mk st vals1 =>
    rw [h1] at h
    cases st with
    | ok => exact ⟨vals1, rfl, C08_struct_exact ext _ vals h⟩
    | _ => simp at h

/-! ### named types of builtin kind with their own unmarshaler -/

/-- **C08_named_own_parser** — a named type of builtin kind that implements an unmarshaler is
    converted by its own method (the external parser `200 + k`), with the text exactly as sent
    (no `"0"` / `"false"` default for empty text) — never by strconv, whatever its kind -/
theorem C08_named_own_parser (ext : Ext) (k : Nat) (s : List Char) :
    structElem ext (.named k) s = (ext (200 + k) s).map .opq := by
  unfold structElem emptyDefault parseElem
  by_cases h : s = [] <;> simp [h]

/-- … and that holds for every ELEMENT of a slice, slice of pointers or pointer to slice: the
    field is bound iff the type's own method accepts every text, and then holds its answers -/
theorem C08_named_slice_elements (ext : Ext) (k : Nat) (w : Wrap)
    (hw : w = .slice ∨ w = .sliceOfPtr ∨ w = .ptrToSlice) (init : FVal) (v0 : List Char)
    (vs : List (List Char)) (xs : List SVal) :
    bindField ext ⟨w, .named k, init, some (v0 :: vs)⟩ = .ok (.many xs)
      ↔ (v0 :: vs).map (fun s => (ext (200 + k) s).map SVal.opq) = xs.map some := by
  have hfun : (fun s => (ext (200 + k) s).map SVal.opq) = structElem ext (.named k) :=
    funext fun s => (C08_named_own_parser ext k s).symm
  obtain ⟨hok, herr⟩ := bindField_list ext ⟨w, .named k, init, some (v0 :: vs)⟩ (v0 :: vs)
    ((Wrap.isList_iff w).2 hw) rfl (List.cons_ne_nil _ _)
  rw [hfun, ← structElems_spec]
  cases hs : structElems ext (.named k) (v0 :: vs) with
  | none => obtain ⟨e, he⟩ := herr hs; rw [he]; exact ⟨nofun, nofun⟩
  | some ys =>
    rw [hok ys hs]
    exact ⟨fun h => by cases h; rfl, fun h => by cases h; rfl⟩

/-! ## the NUMBER of values (no bound anywhere) -/

theorem structElems_length (ext : Ext) (e : Elem) (ss : List (List Char)) (xs : List SVal)
    (h : structElems ext e ss = some xs) : xs.length = ss.length :=
  length_eq_of_map_eq_map ((structElems_spec ext e ss xs).1 h)

/-- **C08_every_value_counts** — a slice field whose key carries `n` values, for EVERY `n`:
    (1) if the field is accepted it holds exactly `n` elements, the conversions of the `n` texts in order;
    (2) one text that does not fit, at ANY position — after however many valid ones — makes the field
        (hence the whole `Bind`, by `C08_struct_400`) fail.  There is no count after which values are
        neither converted nor reported. -/
theorem C08_every_value_counts (ext : Ext) (f : Field) (vals : List (List Char))
    (hw : f.wrap.isList = true) (hv : f.values = some vals) (hne : vals ≠ []) :
    (∀ v, bindField ext f = .ok v →
        ∃ xs, v = .many xs ∧ xs.length = vals.length ∧ vals.map (structElem ext f.elem) = xs.map some)
    ∧ (∀ pre bad post, vals = pre ++ bad :: post → structElem ext f.elem bad = none →
        ∃ v, bindField ext f = .err v) := by
  obtain ⟨hok, herr⟩ := bindField_list ext f vals hw hv hne
  constructor
  · intro v h
    cases hs : structElems ext f.elem vals with
    | none => obtain ⟨w, e⟩ := herr hs; rw [e] at h; cases h
    | some xs =>
      rw [hok xs hs] at h
      cases h
      have hm := (structElems_spec ext f.elem vals xs).1 hs
      exact ⟨xs, rfl, length_eq_of_map_eq_map hm, hm⟩
  · intro pre bad post hsplit hbad
    exact herr ((structElems_none ext f.elem vals).2 ⟨bad, by rw [hsplit]; exact List.mem_append_right _ List.mem_cons_self, hbad⟩)

/-- the same for `UnmarshalParams` destinations: accepted ⇒ the destination received ALL values -/
theorem C08_multi_receives_all (ext : Ext) (f : Field) (vals : List (List Char))
    (hw : f.wrap = .multi ∨ f.wrap = .ptrMulti) (hv : f.values = some vals) (v : FVal)
    (h : bindField ext f = .ok v) : v = .many (vals.map .opq) ∧ (vals.map SVal.opq).length = vals.length := by
  refine ⟨?_, List.length_map _⟩
  have hh := bindField_ok ext f v h
  rcases hw with hw | hw <;> simp only [fieldHolds, hv, hw] at hh <;> exact hh.1

/-- **C08_slice_complete** — a slice / delimiter call on a binder that holds no error, parameter
    present, every piece convertible — for a list of pieces of ANY length: the destination holds the
    conversion of EVERY piece (as many elements as pieces, in order), nothing is recorded.
    (The converse of `C08_slice_all_or_nothing`: "untouched" is not an option for valid input.) -/
theorem C08_slice_complete (ext : Ext) (b : VB) (c : Call) (hs : c.shape ≠ .scalar) (h0 : b.errors = 0)
    (hv : c.values ≠ []) (hsup : c.shape = .delim → c.supported = true)
    (hall : ∀ p ∈ c.pieces, (parseElem ext c.elem p).isSome = true) :
    ∃ tmp, callStep ext b c = (b, .slice (some tmp))
      ∧ c.pieces.map (parseElem ext c.elem) = tmp.map some ∧ tmp.length = c.pieces.length := by
  rcases callStep_pieces_cases ext b c hs (by simp [VB.frozen, h0]) hv hsup with
    ⟨xs, hm, h⟩ | ⟨⟨p, hp, hn⟩, _⟩
  · exact ⟨xs, by rw [h, if_pos (Or.inr h0)], hm, length_eq_of_map_eq_map hm⟩
  · have := hall p hp
    rw [hn] at this
    cases this

/-- **C08_slice_bad_piece_reported** — an unfrozen slice / delimiter call, parameter present, with a
    piece that does not fit at ANY position of a list of ANY length: at least one error is recorded
    and the destination is untouched -/
theorem C08_slice_bad_piece_reported (ext : Ext) (b : VB) (c : Call) (hs : c.shape ≠ .scalar)
    (hf : b.frozen = false) (hv : c.values ≠ []) (hsup : c.shape = .delim → c.supported = true)
    (hbad : ∃ p ∈ c.pieces, parseElem ext c.elem p = none) :
    b.errors < (callStep ext b c).1.errors ∧ (callStep ext b c).2 = c.init := by
  rcases callStep_pieces_cases ext b c hs hf hv hsup with ⟨xs, hm, _⟩ | ⟨_, hlt, _, hi⟩
  · obtain ⟨p, hp, hn⟩ := hbad
    obtain ⟨x, hx⟩ := exists_of_map_eq_map_some hm hp
    rw [hn] at hx
    cases hx
  · exact ⟨hlt, hi⟩

/-! ## non-vacuity: concrete instances -/

/-- no external parser needed for the integer examples -/
def noExt : Ext := fun _ _ => none

-- width boundaries: int8 (method `Int8`, struct binder), uint16 (`uints`), uint64 (`MustUint64`), int64 (`unixTime`)
example : bindNum (.vbInt .w8 false) ['-','1','2','8'] = some (-128) := by decide +kernel
example : bindNum (.vbInt .w8 false) ['1','2','7'] = some 127 := by decide +kernel
example : bindNum (.vbInt .w8 false) ['1','2','8'] = none := by decide +kernel
example : bindNum (.structInt .w8) ['-','1','2','9'] = none := by decide +kernel
example : bindNum (.vbUints .w16) ['6','5','5','3','5'] = some 65535 := by decide +kernel
example : bindNum (.vbUints .w16) ['6','5','5','3','6'] = none := by decide +kernel
example : bindNum (.vbUint .w64 true) ['1','8','4','4','6','7','4','4','0','7','3','7','0','9','5','5','1','6','1','5']
    = some 18446744073709551615 := by decide +kernel
example : bindNum (.vbUint .w64 true) ['1','8','4','4','6','7','4','4','0','7','3','7','0','9','5','5','1','6','1','6']
    = none := by decide +kernel
example : bindNum .vbUnix ['9','2','2','3','3','7','2','0','3','6','8','5','4','7','7','5','8','0','7']
    = some 9223372036854775807 := by decide +kernel
example : bindNum .vbUnix ['9','2','2','3','3','7','2','0','3','6','8','5','4','7','7','5','8','0','8']
    = none := by decide +kernel
-- signs, leading zeros, look-alikes
example : bindNum (.vbInt .w32 false) ['+','5'] = some 5 := by decide +kernel
example : bindNum (.vbUint .w32 false) ['+','5'] = none := by decide +kernel
example : bindNum (.vbInt .w32 false) ['-','0'] = some 0 := by decide +kernel
example : bindNum (.vbInt .w32 false) ['0','0','7'] = some 7 := by decide +kernel
example : bindNum (.vbInt .w32 false) ['1','_','0'] = none := by decide +kernel
example : bindNum (.vbInt .w32 false) ['0','x','1'] = none := by decide +kernel
example : bindNum (.vbInt .w32 false) [' ','1'] = none := by decide +kernel
example : bindNum (.vbInt .w32 false) [] = none := by decide +kernel
-- the two conjuncts of C08_exact_or_error are independent: a text that denotes a value which does not fit
example : denoteFor (.vbInt .w8 false) ['1','2','8'] = some 128 ∧ ¬ (Dest.vbInt .w8 false).inRange 128 := by
  refine ⟨by decide, ?_⟩; simp [Dest.inRange, Dest.signed, Dest.ty, ITy.width]
-- what a wrong bit size would do: the narrowing conversion really truncates
example : narrow (.vbInt .w8 false) 128 = -128 ∧ narrow (.vbUint .w8 false) 256 = 0
    ∧ narrow (.vbInts .w32) 4294967297 = 1 := by decide +kernel

def exBad : Call := ⟨.num (.vbInt .w8 false), .scalar, false, true, [['1','2','8']], [], .scalar (.int 7)⟩
def exGood : Call := ⟨.num (.vbInt .w8 false), .scalar, false, true, [['1','2','7']], [], .scalar (.int 7)⟩
def exSlice : Call := ⟨.num (.vbInts .w16), .delim, false, true, [['1',',','-','2'], ['3']], [','], .slice none⟩
def exSliceBad : Call := ⟨.num (.vbInts .w16), .delim, false, true, [['1',',','x'], ['3']], [','], .slice none⟩

-- C08_error_leaves_dest: hypothesis satisfiable
example : (callStep noExt (vb 0 true) exBad).1.errors ≠ ((vb 0 true) : VB).errors := by decide +kernel
example : callStep noExt (vb 0 true) exBad = ((vb 1 true), .scalar (.int 7)) := by decide +kernel
example : callStep noExt (vb 0 true) exGood = ((vb 0 true), .scalar (.int 127)) := by decide +kernel
-- C08_failfast_frozen / C08_failfast_chain: a valid call after an error writes nothing, until `BindError` empties the errors
example : vbRun noExt (vb 0 true) [.call exBad, .call exGood, .bindError, .call exGood]
    = [.call (.scalar (.int 7)) 1, .call (.scalar (.int 7)) 0, .err true, .call (.scalar (.int 127)) 0] := by decide +kernel
-- without fail-fast the later call still binds and errors accumulate
example : vbRun noExt (vb 0 false) [.call exBad, .call exGood, .call exSliceBad, .bindErrors]
    = [.call (.scalar (.int 7)) 1, .call (.scalar (.int 127)) 0, .call (.slice none) 1, .errs 2] := by decide +kernel
-- C08_slice_all_or_nothing: both alternatives occur
example : callStep noExt (vb 0 true) exSlice = ((vb 0 true), .slice (some [.int 1, .int (-2), .int 3])) := by decide +kernel
example : callStep noExt (vb 0 true) exSliceBad = ((vb 1 true), .slice none) := by decide +kernel
-- struct binder: first error aborts, later fields keep what they held; empty text is zero
example : structBind noExt [⟨.scalar, .num (.structInt .w8), .one (.int 0), some [['1','2','7']]⟩,
      ⟨.ptr, .num (.structUint .w16), .nil, some [['6','5','5','3','6']]⟩, ⟨.slice, .bool, .nil, some [['t']]⟩]
    = (.bad, [.one (.int 127), .one (.int 0), .nil]) := by decide +kernel
example : structBind noExt [⟨.scalar, .num (.structInt .w8), .one (.int 0), some [[]]⟩,
      ⟨.slice, .num (.structUint .w64), .nil, some [['7'], []]⟩]
    = (.ok, [.one (.int 0), .many [.int 7, .int 0]]) := by decide +kernel
example : (structBind noExt [⟨.scalar, .bool, .one (.bool false), some []⟩]).1 = .panic := by decide +kernel
-- pre-populated destination: empty text stores false / 0 over true / 7, a missing key leaves the
-- field alone, a failing conversion leaves the old value (pointer stays as it was)
example : structBind noExt [⟨.scalar, .bool, .one (.bool true), some [[]]⟩,
      ⟨.scalar, .num (.structInt .w32), .one (.int 7), some [[]]⟩,
      ⟨.scalar, .num (.structInt .w32), .one (.int 7), none⟩,
      ⟨.ptr, .num (.structInt .w8), .one (.int 7), some [['1','2','8']]⟩,
      ⟨.slice, .bool, .many [.bool true], some [['t']]⟩]
    = (.bad, [.one (.bool false), .one (.int 0), .one (.int 7), .one (.int 7), .many [.bool true]]) := by decide +kernel
-- path param `verbose=true`, then query `verbose=` : the field ends up false
example : structBind2 noExt [⟨.scalar, .bool, .one (.bool false), some [['t','r','u','e']]⟩] [some [[]]]
    = (.ok, [.one (.bool false)]) := by decide +kernel

/-- an external parser table: layout 0 parses `a` and `b`, nothing else -/
def exExt : Ext := extOf [(100, ['a'], some ['1']), (100, ['b'], some ['2']), (100, ['x'], none)]

def exTimeBad : Call := ⟨.time 0, .scalar, false, true, [['x']], [], .scalar (.opq ['0'])⟩
def exTimeGood : Call := ⟨.time 0, .scalar, false, true, [['a']], [], .scalar (.opq ['0'])⟩
def exTimes : Call := ⟨.time 0, .slice, true, true, [['a'], ['b']], [], .slice none⟩
def exTimesBad : Call := ⟨.time 0, .slice, true, true, [['a'], ['x'], ['b']], [], .slice (some [.opq ['9']])⟩

-- Time: a failing call leaves the destination, a good one stores what time.Parse returned
example : callStep exExt (vb 0 true) exTimeBad = ((vb 1 true), .scalar (.opq ['0'])) := by decide +kernel
example : callStep exExt (vb 0 true) exTimeGood = ((vb 0 true), .scalar (.opq ['1'])) := by decide +kernel
-- Times: all or nothing; fail-fast stops at the first bad element, otherwise every bad one is counted
example : callStep exExt (vb 0 true) exTimes = ((vb 0 true), .slice (some [.opq ['1'], .opq ['2']])) := by decide +kernel
example : callStep exExt (vb 0 true) exTimesBad = ((vb 1 true), .slice (some [.opq ['9']])) := by decide +kernel
example : callStep exExt (vb 0 false) { exTimesBad with values := [['x'], ['a'], ['x']] }
    = ((vb 2 false), .slice (some [.opq ['9']])) := by decide +kernel
-- MustTimes without the parameter
example : callStep exExt (vb 0 true) { exTimes with values := [] } = ((vb 1 true), .slice none) := by decide +kernel

/-- a user function that would store both values and return two errors -/
def exCustom : Custom := ⟨false, [['p'], ['q']], .slice none, .slice (some [.opq ['p'], .opq ['q']]), 2⟩

-- CustomFunc: invoked once, both errors recorded; after that (fail-fast) neither a typed call nor
-- another CustomFunc does anything; BindErrors reports 2
example : vbRun exExt (vb 0 true) [.custom exCustom, .call exTimeGood, .custom exCustom, .bindErrors]
    = [.call (.slice (some [.opq ['p'], .opq ['q']])) 2, .call (.scalar (.opq ['0'])) 0, .call (.slice none) 0, .errs 2] := by
  decide +kernel
-- absent parameter: not invoked; MustCustomFunc records one error
example : customStep (vb 0 true) { exCustom with values := [], must := true } = ((vb 1 true), .slice none) := by decide +kernel
example : customStep (vb 0 true) { exCustom with values := [] } = ((vb 0 true), .slice none) := by decide +kernel
-- hypotheses of C08_failfast_nothing_after_error_ops hold for a chain with a CustomFunc in the middle
example : (vbStep exExt (vbEnd exExt (vb 0 true) [.call exTimeGood]) (.custom exCustom)).1.errors ≠ 0 := by decide +kernel
-- the literal loop of `times` and the shared loop agree on an unfrozen binder, and differ on a
-- frozen one (which the method never enters)
example : errLoop exExt (.time 0) (vb 0 true) [['a'], ['x'], ['b']] = sliceLoop exExt (.time 0) (vb 0 true) [['a'], ['x'], ['b']] := by
  decide +kernel
example : errLoop exExt (.time 0) (vb 1 true) [['a']] ≠ sliceLoop exExt (.time 0) (vb 1 true) [['a']] := by decide +kernel

-- struct binder, multi-value destination: all values are handed over; `!` rejects; an EMPTY value
-- list does not panic there (it does for an ordinary field)
example : structBind noExt [⟨.multi, .unm, .many [.opq ['o']], some [['1'], [], ['2']]⟩,
      ⟨.ptrMulti, .unm, .nil, some [['a'], ['!']]⟩, ⟨.scalar, .bool, .one (.bool true), some [['0']]⟩]
    = (.bad, [.many [.opq ['1'], .opq [], .opq ['2']], .many [], .one (.bool true)]) := by decide +kernel
example : structBind noExt [⟨.multi, .unm, .many [.opq ['o']], some []⟩] = (.ok, [.many []]) := by decide +kernel
example : (structBind noExt [⟨.scalar, .unm, .one (.opq ['o']), some []⟩]).1 = .panic := by decide +kernel

/-- the hex-id type (k = 0): `10` is sixteen, `20` thirty-two, `zz` and `` are rejected;
    the percent type (k = 1): `100` fits, `250` does not -/
def exNamed : Ext := extOf [(200, ['1','0'], some ['1','6']), (200, ['2','0'], some ['3','2']), (200, ['z','z'], none),
  (200, [], none), (201, ['1','0','0'], some ['1','0','0']), (201, ['2','5','0'], none)]

-- the same text denotes the same number for a scalar field and for slice elements — and it is
-- the type's meaning (16, 32), not strconv's (10, 20)
example : structBind exNamed [⟨.scalar, .named 0, .one (.opq ['0']), some [['1','0']]⟩,
      ⟨.slice, .named 0, .nil, some [['1','0'], ['2','0']]⟩,
      ⟨.ptrToSlice, .named 0, .nil, some [['2','0']]⟩,
      ⟨.sliceOfPtr, .named 1, .nil, some [['1','0','0']]⟩]
    = (.ok, [.one (.opq ['1','6']), .many [.opq ['1','6'], .opq ['3','2']], .many [.opq ['3','2']],
        .many [.opq ['1','0','0']]]) := by decide +kernel
-- a text the type rejects is a 400 also as a slice element (strconv would accept 250 for a uint8)
example : structBind exNamed [⟨.slice, .named 1, .many [.opq ['7']], some [['1','0','0'], ['2','5','0']]⟩]
    = (.bad, [.many [.opq ['7']]]) := by decide +kernel
-- empty text is handed to the method (which rejects it here); an integer KIND would have bound 0
example : structBind exNamed [⟨.scalar, .named 0, .one (.opq ['7']), some [[]]⟩] = (.bad, [.one (.opq ['7'])]) := by
  decide +kernel
-- a default FormFieldBinder: the failing first field freezes the rest of the chain
example : vbRun noExt (newBinder .form) [.call exBad, .call exGood, .bindErrors]
    = [.call (.scalar (.int 7)) 1, .call (.scalar (.int 7)) 0, .errs 1] := by decide +kernel
example : (vbStep noExt (vbEnd noExt (newBinder .form) []) (.call exBad)).1.errors ≠ 0 := by decide +kernel

def exBlank : Call := ⟨.num (.vbInt .w32 false), .scalar, false, true, [[' ']], [], .scalar (.int 7)⟩

-- `?v=%20` through the non-Must method Int32: an error, not "absent"
example : callStep noExt (vb 0 true) exBlank = (vb 1 true, .scalar (.int 7)) := by decide +kernel
example : callStep noExt (vb 0 true) { exBlank with values := [['\t', '\n']] } = (vb 1 true, .scalar (.int 7)) := by decide +kernel
example : callStep noExt (vb 0 true) { exBlank with values := [[]] } = (vb 0 true, .scalar (.int 7)) := by decide +kernel
-- an ErrorFunc that returns nil: the failing call is still counted, the next call is frozen, the
-- slice call does not store its temporary; BindError() hands out the nil, BindErrors() has 1 entry
example : vbRun noExt ⟨0, true, true, false⟩ [.call exBad, .call exGood, .call exSliceBad, .bindError]
    = [.call (.scalar (.int 7)) 1, .call (.scalar (.int 7)) 0, .call (.slice none) 0, .err false] := by decide +kernel
example : vbRun noExt ⟨0, false, true, false⟩ [.call exSliceBad, .call exSlice, .bindErrors]
    = [.call (.slice none) 1, .call (.slice none) 0, .errs 1] := by decide +kernel
-- default ErrorFunc for comparison
example : vbRun noExt (vb 0 true) [.call exBad, .bindError] = [.call (.scalar (.int 7)) 1, .err true] := by decide +kernel

-- 1025 values for a `[]int8` field: 1024 sevens and then 128.  The 1025th text is converted — and rejected
example : ∃ v, bindField noExt ⟨.slice, .num (.structInt .w8), .nil, some (List.replicate 1024 ['7'] ++ [['1','2','8']])⟩ = .err v :=
  (C08_every_value_counts noExt ⟨.slice, .num (.structInt .w8), .nil, some (List.replicate 1024 ['7'] ++ [['1','2','8']])⟩ _
    rfl rfl (List.append_ne_nil_of_right_ne_nil _ (by simp))).2 (List.replicate 1024 ['7']) ['1','2','8'] [] rfl (by decide +kernel)
-- all 1025 valid: the field holds 1025 elements
example : bindField noExt ⟨.ptrToSlice, .num (.structInt .w8), .nil, some (List.replicate 1025 ['7'])⟩
    = .ok (.many (List.replicate 1025 (.int 7))) :=
  (bindField_list noExt _ _ rfl rfl (mt (List.replicate_eq_nil_iff _).1 (by decide))).1 _ ((structElems_spec _ _ _ _).2 (by
    rw [List.map_replicate, List.map_replicate]
    exact congrArg _ (by decide +kernel)))
-- `Int16s` with 1025 values on a fresh fail-fast binder: all stored
def exMany : Call := ⟨.num (.vbInts .w16), .slice, false, true, List.replicate 1025 ['7'], [], .slice none⟩
example : ∃ tmp, callStep noExt (vb 0 true) exMany = (vb 0 true, .slice (some tmp)) ∧ tmp.length = 1025 := by
  obtain ⟨tmp, h1, _, h3⟩ := C08_slice_complete noExt (vb 0 true) exMany (by decide) rfl (by decide) (by decide)
    (by intro p hp
        have : p = ['7'] := List.eq_of_mem_replicate hp
        subst this; decide +kernel)
  exact ⟨tmp, h1, h3.trans List.length_replicate⟩
-- … and with `x` as the 1025th value: reported, destination untouched
example : (callStep noExt (vb 0 false) { exMany with values := List.replicate 1024 ['7'] ++ [['x']] }).2 = .slice none :=
  (C08_slice_bad_piece_reported noExt (vb 0 false) { exMany with values := List.replicate 1024 ['7'] ++ [['x']] }
    (by decide) rfl (List.append_ne_nil_of_right_ne_nil _ (by simp)) (by decide)
    ⟨['x'], List.mem_append_right _ List.mem_cons_self, by decide +kernel⟩).2

end C08
