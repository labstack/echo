import EchoModel.C14
/-!
# C14 — theorems about the BodyLimit model

All statements quantify over *every* limit, *every* sequence of answers of the underlying
reader (hence every body length, chunking and read size), every declared length and every
left-over state of the pooled reader.

Everything about the reader rests on the two equations of `lrRun` (`lrRun_nil`, `lrRun_cons`) and on
the facts about `mark`, the answer `limitedReader.Read` hands on; everything about the middleware
on the two equations of `serve`.
-/
namespace C14

/-- number of body bytes in a sequence of reader answers -/
def total (rs : List Resp) : Nat := (rs.map (·.data.length)).sum

@[simp] theorem total_nil : total [] = 0 := rfl
@[simp] theorem total_cons (u : Resp) (us : List Resp) :
    total (u :: us) = u.data.length + total us := rfl

theorem total_append (us vs : List Resp) : total (us ++ vs) = total us + total vs := by
  induction us with
  | nil => rw [List.nil_append, total_nil, Nat.zero_add]
  | cons u us ih => rw [List.cons_append, total_cons, total_cons, ih, Nat.add_assoc]

theorem total_take_le (us : List Resp) (i : Nat) : total (us.take i) ≤ total us := by
  have h := total_append (us.take i) (us.drop i)
  rw [List.take_append_drop] at h
  exact h ▸ Nat.le_add_right ..

theorem total_take_mono (us : List Resp) {i j : Nat} (h : i ≤ j) :
    total (us.take i) ≤ total (us.take j) := by
  have := total_take_le (us.take j) i
  rwa [List.take_take, Nat.min_eq_left h] at this

/-- what `limitedReader.Read` hands on of the answer `u` when the count, `u` included, has reached
    `n`: `u` itself, or its bytes with the over-limit error -/
def mark (L n : Nat) (u : Resp) : Resp := if n > L then ⟨u.data, .tooLarge⟩ else u

theorem lrRead_eq (L read : Nat) (u : Resp) :
    lrRead L read u = (read + u.data.length, mark L (read + u.data.length) u) := by
  unfold lrRead mark; dsimp only; split <;> rfl

theorem mark_of_le {L n : Nat} (h : n ≤ L) (u : Resp) : mark L n u = u :=
  if_neg (Nat.not_lt.mpr h)

theorem mark_of_gt {L n : Nat} (h : n > L) (u : Resp) : mark L n u = ⟨u.data, .tooLarge⟩ :=
  if_pos h

theorem mark_data (L n : Nat) (u : Resp) : (mark L n u).data = u.data := by
  unfold mark; split <;> rfl

theorem mark_err (L n : Nat) (u : Resp) :
    (mark L n u).err = .tooLarge ↔ n > L ∨ u.err = .tooLarge := by
  unfold mark
  split
  · exact ⟨fun _ => .inl ‹_›, fun _ => rfl⟩
  · exact ⟨.inr, fun h => h.resolve_left ‹_›⟩

theorem mark_mark (A B n : Nat) (u : Resp) : mark B n (mark A n u) = mark (min A B) n u := by
  by_cases hA : n > A
  · rw [mark_of_gt hA, mark_of_gt (Nat.lt_of_le_of_lt (Nat.min_le_left ..) hA)]
    unfold mark; split <;> rfl
  · rw [mark_of_le (Nat.not_lt.mp hA)]
    by_cases hB : n > B
    · rw [mark_of_gt hB, mark_of_gt (Nat.lt_of_le_of_lt (Nat.min_le_right ..) hB)]
    · rw [mark_of_le (Nat.not_lt.mp hB), mark_of_le (Nat.le_min.mpr ⟨Nat.not_lt.mp hA, Nat.not_lt.mp hB⟩)]

theorem lrRun_nil (L read : Nat) : lrRun L read [] = (read, []) := rfl

theorem lrRun_cons (L read : Nat) (u : Resp) (us : List Resp) :
    lrRun L read (u :: us) =
      ((lrRun L (read + u.data.length) us).1,
       mark L (read + u.data.length) u :: (lrRun L (read + u.data.length) us).2) := by
  simp only [lrRun, lrRead_eq]

theorem lrRun_count (L : Nat) (us : List Resp) :
    ∀ read, (lrRun L read us).1 = read + total us := by
  induction us with
  | nil => intro read; rfl
  | cons u us ih => intro read; rw [lrRun_cons, ih, total_cons, Nat.add_assoc]

theorem lrRun_data (L : Nat) (us : List Resp) :
    ∀ read, ((lrRun L read us).2).map (·.data) = us.map (·.data) := by
  induction us with
  | nil => intro read; rfl
  | cons u us ih => intro read; rw [lrRun_cons, List.map_cons, List.map_cons, mark_data, ih]

theorem lrRun_length (L read : Nat) (us : List Resp) : ((lrRun L read us).2).length = us.length := by
  have := congrArg List.length (lrRun_data L us read)
  rwa [List.length_map, List.length_map] at this

theorem lrRun_append (L : Nat) (us vs : List Resp) :
    ∀ read, (lrRun L read (us ++ vs)).2 = (lrRun L read us).2 ++ (lrRun L (read + total us) vs).2 := by
  induction us with
  | nil => intro read; rfl
  | cons u us ih =>
    intro read
    rw [List.cons_append, lrRun_cons, lrRun_cons, ih, total_cons, Nat.add_assoc, List.cons_append]

/-- what the handler's read number `i` returns, in closed form -/
theorem lrRun_getElem? (L : Nat) (us : List Resp) :
    ∀ read (i : Nat), ((lrRun L read us).2)[i]? =
      (us[i]?).map (mark L (read + total (us.take (i+1)))) := by
  induction us with
  | nil => intro _ _; rfl
  | cons u us ih =>
    intro read i
    rw [lrRun_cons]
    cases i with
    | zero => rfl
    | succ j =>
      rw [List.getElem?_cons_succ, List.getElem?_cons_succ, ih, List.take_succ_cons, total_cons,
        Nat.add_assoc]

theorem lrRun_of_le (L : Nat) (us : List Resp) :
    ∀ read, read + total us ≤ L → (lrRun L read us).2 = us := by
  induction us with
  | nil => intro _ _; rfl
  | cons u us ih =>
    intro read h
    rw [total_cons, ← Nat.add_assoc] at h
    rw [lrRun_cons, ih _ h, mark_of_le (Nat.le_trans (Nat.le_add_right ..) h)]

theorem any413_eq_false (l : List Resp) :
    l.any (·.err == .tooLarge) = false ↔ ∀ o ∈ l, o.err ≠ .tooLarge := by
  simp [List.any_eq_false]

/-- Some read of the handler reports the over-limit error exactly when the count passes the limit
    (or the underlying reader produced that very error itself). -/
theorem lrRun_any413 (L : Nat) (us : List Resp) :
    ∀ read, read ≤ L →
      ((lrRun L read us).2).any (·.err == .tooLarge)
        = (decide (read + total us > L) || us.any (·.err == .tooLarge)) := by
  induction us with
  | nil => intro read h; simpa [lrRun_nil] using h
  | cons u us ih =>
    intro read h
    rw [lrRun_cons, List.any_cons, List.any_cons, total_cons, ← Nat.add_assoc]
    by_cases hc : read + u.data.length > L
    · -- this read reports it, and the count only grows
      have h1 : (mark L (read + u.data.length) u).err = .tooLarge := (mark_err ..).mpr (.inl hc)
      have h2 : read + u.data.length + total us > L := Nat.lt_of_lt_of_le hc (Nat.le_add_right ..)
      simp only [h1, h2, beq_self_eq_true, decide_true, Bool.true_or]
    · rw [mark_of_le (Nat.not_lt.mp hc), ih _ (Nat.not_lt.mp hc), Bool.or_left_comm]

theorem lrRun_stack (A B : Nat) (us : List Resp) :
    ∀ read, (lrRun B read (lrRun A read us).2).2 = (lrRun (min A B) read us).2 := by
  induction us with
  | nil => intro _; rfl
  | cons u us ih =>
    intro read
    rw [lrRun_cons, lrRun_cons, lrRun_cons, mark_data, mark_mark, ih]

theorem serve_of_gt {L : Nat} {r : Req} (h : r.declared > (L : Int)) (lo : Nat) :
    serve L lo r = (.rejected, lo) := by
  unfold serve; rw [if_pos h]

theorem serve_of_le {L : Nat} {r : Req} (h : ¬ r.declared > (L : Int)) (lo : Nat) :
    serve L lo r = (.ran (lrRun L 0 r.under).2, (lrRun L 0 r.under).1) := by
  unfold serve; rw [if_neg h]

/-- a declared length above the limit is rejected with 413 before the
    handler runs, whatever the pooled reader held. -/
theorem C14_precheck (L lo : Nat) (r : Req) (h : r.declared > (L : Int)) :
    (serve L lo r).1 = .rejected := by
  rw [serve_of_gt h]

/-- if none of the reads the handler made so far reported 413, the
    handler has been given at most `L` bytes (any prefix of any body, any chunking). -/
theorem C14_never_more (L : Nat) (under : List Resp)
    (h : ∀ o ∈ (lrRun L 0 under).2, o.err ≠ .tooLarge) : total under ≤ L := by
  rw [← any413_eq_false, lrRun_any413 L under 0 (Nat.zero_le L), Bool.or_eq_false_iff,
    Nat.zero_add] at h
  exact Nat.not_lt.mp (of_decide_eq_false h.1)

/-- `C14_never_more` through the middleware; the handler has then seen the body as the underlying reader gave it -/
theorem C14_never_more_serve (L lo : Nat) (r : Req) (seen : List Resp)
    (hs : (serve L lo r).1 = .ran seen) (h : ∀ o ∈ seen, o.err ≠ .tooLarge) :
    total r.under ≤ L ∧ seen = r.under := by
  by_cases hd : r.declared > (L : Int)
  · rw [serve_of_gt hd] at hs; cases hs
  · rw [serve_of_le hd] at hs
    cases hs
    have ht := C14_never_more L r.under h
    exact ⟨ht, lrRun_of_le L r.under 0 (by rwa [Nat.zero_add])⟩

/-- once the bytes handed out exceed `L`, *that* read and every
    later one report 413; in particular the read on which the underlying reader signals
    the end of a too-long body can never look like a clean end-of-body. -/
theorem C14_long_body_413 (L : Nat) (under : List Resp) (i : Nat) (hi : i < under.length)
    (hgt : total (under.take (i+1)) > L) :
    ∃ o, ((lrRun L 0 under).2)[i]? = some o ∧ o.err = .tooLarge := by
  rw [lrRun_getElem?, List.getElem?_eq_getElem hi, Nat.zero_add]
  exact ⟨_, rfl, (mark_err ..).mpr (.inl hgt)⟩

/-- a handler that reads a too-long body to its end sees 413 on its last read -/
theorem C14_long_body_last (L : Nat) (under : List Resp) (hne : under ≠ [])
    (hgt : total under > L) :
    ∃ o, ((lrRun L 0 under).2).getLast? = some o ∧ o.err = .tooLarge := by
  have hpos : 0 < under.length := List.length_pos_iff.mpr hne
  rw [List.getLast?_eq_getElem?, lrRun_length]
  apply C14_long_body_413 L under _ (Nat.sub_lt hpos Nat.one_pos)
  rwa [Nat.sub_add_cancel hpos, List.take_length]

/-- a body of at most `L` bytes reaches the handler
    unchanged: same bytes, same chunking, same final error/EOF. -/
theorem C14_short_body_identity (L lo : Nat) (r : Req)
    (hd : ¬ r.declared > (L : Int)) (hlen : total r.under ≤ L) :
    (serve L lo r).1 = .ran r.under := by
  rw [serve_of_le hd, lrRun_of_le L r.under 0 (by rwa [Nat.zero_add])]

/-- bytes are never altered or reordered, whatever the length -/
theorem C14_bytes_unaltered (L : Nat) (under : List Resp) :
    ((lrRun L 0 under).2).map (·.data) = under.map (·.data) := lrRun_data L under 0

/-- the outcome of a request does not depend on what an earlier request
    left in the pooled reader. -/
theorem C14_no_carry (L lo lo' : Nat) (r : Req) : (serve L lo r).1 = (serve L lo' r).1 := by
  by_cases hd : r.declared > (L : Int)
  · rw [serve_of_gt hd, serve_of_gt hd]
  · rw [serve_of_le hd, serve_of_le hd]

/-- every request of a sequence through one instance behaves as if it were the first -/
theorem C14_sequence_independent (L : Nat) (rs : List Req) :
    ∀ lo, serveAll L lo rs = rs.map (fun r => (serve L 0 r).1) := by
  induction rs with
  | nil => intro _; rfl
  | cons r rs ih =>
    intro lo
    simp only [serveAll, List.map_cons]
    rw [ih, C14_no_carry L lo 0 r]

theorem gt_min_iff (d : Int) (A B : Nat) :
    d > ((min A B : Nat) : Int) ↔ d > (A : Int) ∨ d > (B : Int) := by
  rcases Nat.le_total A B with h | h
  · rw [Nat.min_eq_left h]
    exact ⟨.inl, fun h' => h'.elim id (Int.lt_of_le_of_lt (Int.ofNat_le.mpr h))⟩
  · rw [Nat.min_eq_right h]
    exact ⟨.inr, fun h' => h'.elim (Int.lt_of_le_of_lt (Int.ofNat_le.mpr h)) id⟩

/-- two stacked instances behave, for the handler, exactly like one instance
    with the smaller of the two limits: neither limit can be exceeded unnoticed, and the more
    generous one never switches the stricter one off. -/
theorem C14_nested_min (A B loA loB lo : Nat) (r : Req) :
    (serveNested A B loA loB r).1 = (serve (min A B) lo r).1 := by
  have hmin := gt_min_iff r.declared A B
  unfold serveNested
  by_cases hA : r.declared > (A : Int)
  · rw [if_pos hA, serve_of_gt (hmin.mpr (.inl hA))]
  · by_cases hB : r.declared > (B : Int)
    · rw [if_neg hA, if_pos hB, serve_of_gt (hmin.mpr (.inr hB))]
    · rw [if_neg hA, if_neg hB, serve_of_le (fun h => (hmin.mp h).elim hA hB)]
      exact congrArg Outcome.ran (lrRun_stack A B r.under 0)

/-- every request of a sequence through the application behaves as if it were the first one, with
    the limit(s) of its own route only: nothing carries over between requests, between instances
    or between routes -/
theorem C14_sequence_independent_nested (L : Nat) (rs : List (Option Nat × Req)) :
    ∀ loA loB, serveAllN L loA loB rs
      = rs.map (fun p => match p.1 with
          | none => (serve L 0 p.2).1
          | some B => (serve (min L B) 0 p.2).1) := by
  induction rs with
  | nil => intro _ _; rfl
  | cons p rs ih =>
    intro loA loB
    obtain ⟨i, r⟩ := p
    cases i with
    | none =>
      simp only [serveAllN, List.map_cons]
      rw [ih, C14_no_carry L loA 0 r]
    | some B =>
      simp only [serveAllN, List.map_cons]
      rw [ih, C14_nested_min L B loA loB 0 r]

theorem serveAllN_none (L : Nat) (rs : List Req) :
    ∀ loA loB, serveAllN L loA loB (rs.map (fun r => (none, r))) = serveAll L loA rs := by
  induction rs with
  | nil => intro _ _; rfl
  | cons r rs ih => intro loA loB; simp only [List.map_cons, serveAllN, serveAll, ih]

example : (serveNested 4 9 3 3 ⟨-1, [⟨[1,2,3], .none⟩, ⟨[4,5], .eof⟩]⟩).1
    = .ran [⟨[1,2,3], .none⟩, ⟨[4,5], .tooLarge⟩] := rfl
example : (serveNested 9 4 3 3 ⟨-1, [⟨[1,2,3], .none⟩, ⟨[4,5], .eof⟩]⟩).1
    = .ran [⟨[1,2,3], .none⟩, ⟨[4,5], .tooLarge⟩] := rfl

/-! ### rare answers of the underlying reader, reading on after an error, the status of the response

`io.Reader` allows an answer `(0, nil)` ("nothing happened"), an error that comes together with data, and a
caller that goes on reading after an error (`bufio.Reader` forgets an error once it has reported it).  None of
this has a rule of its own in `limitedReader.Read`: `C14_empty_answer_transparent`, `C14_sticky` and `C14_status`
say what that means for the handler. -/

/-- an answer without bytes (`(0, nil)`, `(0, err)`) of the underlying reader
    is handed to the handler as it is (as 413 only when the limit has been passed already) and changes nothing
    for any other read: the reads before and after it are answered exactly as if it had not happened.  In
    particular it is never turned into an end-of-body. -/
theorem C14_empty_answer_transparent (L : Nat) (us vs : List Resp) (e : RErr) :
    (lrRun L 0 (us ++ ⟨[], e⟩ :: vs)).2
        = (lrRun L 0 us).2 ++ (if total us > L then ⟨[], .tooLarge⟩ else ⟨[], e⟩) :: (lrRun L 0 (us ++ vs)).2.drop us.length
      ∧ (lrRun L 0 (us ++ vs)).2 = (lrRun L 0 us).2 ++ (lrRun L 0 (us ++ vs)).2.drop us.length := by
  -- the reads after `us` are those of a run that starts with the count `total us`, with or without the empty answer
  have hdrop : ((lrRun L 0 (us ++ vs)).2).drop us.length = (lrRun L (total us) vs).2 := by
    rw [lrRun_append, Nat.zero_add]; exact List.drop_left' (lrRun_length ..)
  rw [hdrop, lrRun_append, lrRun_append, lrRun_cons, Nat.zero_add]
  exact ⟨rfl, rfl⟩

/-- the over-limit error is not a one-off: once one read of the handler has reported it, every
    later read reports it too, whatever the underlying reader answers then (more data, nothing, end-of-body,
    another error).  A handler (or a `bufio.Reader`) that reads on after the error never gets a clean
    end-of-body. -/
theorem C14_sticky (L : Nat) (under : List Resp) (hu : ∀ u ∈ under, u.err ≠ .tooLarge)
    (i j : Nat) (hij : i ≤ j) (oi oj : Resp)
    (hi : ((lrRun L 0 under).2)[i]? = some oi) (hj : ((lrRun L 0 under).2)[j]? = some oj)
    (h413 : oi.err = .tooLarge) : oj.err = .tooLarge := by
  rw [lrRun_getElem?] at hi hj
  obtain ⟨ui, hui, rfl⟩ := Option.map_eq_some_iff.mp hi
  obtain ⟨uj, _, rfl⟩ := Option.map_eq_some_iff.mp hj
  -- read `i` can only have got the error from the count, and the count of read `j` is no smaller
  have hgt := ((mark_err ..).mp h413).resolve_right (hu ui (List.mem_of_getElem? hui))
  have hmono := total_take_mono under (Nat.succ_le_succ hij)
  exact (mark_err ..).mpr (.inl (Nat.lt_of_lt_of_le hgt (Nat.add_le_add_left hmono 0)))

/-- the request ends as a 413 exactly when its declared length or the number of bytes the
    handler pulled out of the body exceeds the limit (the handler passing on the first over-limit error a read
    gave it): no body of more than `L` bytes is consumed under a success status, and no request within the
    limit is turned away. -/
theorem C14_status (L lo : Nat) (r : Req) (hu : ∀ u ∈ r.under, u.err ≠ .tooLarge) :
    answered413 (serve L lo r).1 = (decide (r.declared > (L : Int)) || decide (total r.under > L)) := by
  have hu' := (any413_eq_false r.under).mpr hu
  by_cases hd : r.declared > (L : Int)
  · rw [serve_of_gt hd, decide_eq_true hd]; rfl
  · rw [serve_of_le hd, decide_eq_false hd, Bool.false_or]
    exact (lrRun_any413 L r.under 0 (Nat.zero_le L)).trans (by rw [hu', Bool.or_false, Nat.zero_add])

example : (lrRun 10 0 [⟨[1,2,3,4], .none⟩, ⟨[], .none⟩, ⟨[5,6], .eof⟩]).2
    = [⟨[1,2,3,4], .none⟩, ⟨[], .none⟩, ⟨[5,6], .eof⟩] := rfl
example : (lrRun 3 0 [⟨[1,2,3,4], .none⟩, ⟨[], .none⟩, ⟨[], .eof⟩]).2
    = [⟨[1,2,3,4], .tooLarge⟩, ⟨[], .tooLarge⟩, ⟨[], .tooLarge⟩] := rfl
example : answered413 (serve 3 5 ⟨-1, [⟨[1,2], .other⟩, ⟨[3,4], .none⟩, ⟨[], .eof⟩]⟩).1 = true := rfl
example : answered413 (serve 4 5 ⟨4, [⟨[1,2], .other⟩, ⟨[3,4], .none⟩, ⟨[], .eof⟩]⟩).1 = false := rfl

/-! ### non-vacuity: the hypotheses are met by concrete, non-trivial instances -/

example : total [⟨[1,2,3], .none⟩, ⟨[4,5], .eof⟩] > 4 ∧ (2 : Nat) < 3 := by decide
example : (serve 4 7 ⟨-1, [⟨[1,2,3], .none⟩, ⟨[4,5], .eof⟩]⟩).1
    = .ran [⟨[1,2,3], .none⟩, ⟨[4,5], .tooLarge⟩] := rfl
example : (serve 5 7 ⟨5, [⟨[1,2,3], .none⟩, ⟨[4,5], .eof⟩]⟩).1
    = .ran [⟨[1,2,3], .none⟩, ⟨[4,5], .eof⟩] := rfl
example : (serve 4 0 ⟨5, []⟩).1 = .rejected := rfl

end C14
