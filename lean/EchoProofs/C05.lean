import EchoModel.C05
/-!
# C05 — requests are isolated from each other under context recycling and concurrency

Whatever an earlier request left in a pooled context — every setter, hooks, logger, query cache, response state —
`Reset` yields the state of a fresh context, except for the *length* of the (blanked) value slice
(`C05_reset_complete`).  So for every router whose result does not depend on the slack length of that slice, a request
observes on ANY recycled context what it observes on a fresh one (`C05_isolated`), and in every history of requests
(handlers that dirty everything, panic or fail) interleaved with registrations every request observes exactly what it
would observe alone on a fresh instance with the routes registered so far (`C05_history_isolated`).  Concurrent
requests: a step of one request never changes the context another request holds (`C05_frame`).

`LengthIrrelevant` / `NoPanic` are facts about the router (`Router.find` on a slice of blank
values of length ≥ maxParam).  They are hypotheses here; `EchoProofs/Tree/*` proves them for the radix-tree
model on every table of representable patterns (`tree_length_irrelevant_ok`, `tree_no_panic_ok`) and
instantiates the theorems of this file (`C05_isolated_tree_ok`, `C05_history_isolated_tree_ok`).
-/
namespace C05
open Router (Str Outcome)

/-- **C05_reset_complete** — `Reset` of a used context gives the state `Reset` gives a new one, except for the
    number of (blank) value slots. -/
theorem C05_reset_complete (dirty : Ctx) (req mp : Nat) :
    reset dirty req mp = { reset (newCtx mp) req mp with pvalues := blank (max dirty.pvalues.length mp) } := by
  simp [reset, newCtx, blank]

theorem reset_eq_of_len (c c' : Ctx) (req mp : Nat)
    (h : max c.pvalues.length mp = max c'.pvalues.length mp) : reset c req mp = reset c' req mp := by
  simp [reset, h]

/-- the router's answer does not depend on how many blank slots beyond `mp` the slice has -/
def LengthIrrelevant (rt : RouterFn) (mp : Nat) : Prop := ∀ m p n, mp ≤ n → rt m p n = rt m p mp

def ValuesPerName (rt : RouterFn) : Prop :=
  ∀ m p n rm vals, rt m p n = .dispatch rm vals → vals.length = rm.pnames.length

/-- the router never fails on a slice of at least `mp` slots -/
def NoPanic (rt : RouterFn) (mp : Nat) : Prop := ∀ m p n, mp ≤ n → rt m p n ≠ .panic

theorem route_obs_len_indep (rt : RouterFn) (hv : ValuesPerName rt) (c c' : Ctx) (m p : Str)
    (hrt : rt m p c.pvalues.length = rt m p c'.pvalues.length)
    (hrest : c.query = c'.query ∧ c.store = c'.store ∧ c.logger = c'.logger ∧ c.resp = c'.resp
      ∧ c.handler = c'.handler) :
    (route rt c m p).2 = (route rt c' m p).2 := by
  obtain ⟨hq, hs, hl, hr, hh⟩ := hrest
  unfold route
  rw [← hrt]
  cases h : rt m p c.pvalues.length with
  | dispatch rm vals =>
    have hlen := hv _ _ _ _ _ h
    simp [hq, hs, hl, hr, ← hlen]
  | notFound q => simp only [hh]; split <;> simp [hq, hs, hl, hr]
  | methodNotAllowed q a => simp [hq, hs, hl, hr]
  | panic => simp [hq, hs, hl, hr]

/-- **C05_isolated** — a request observes the same on any recycled context as on a fresh one. -/
theorem C05_isolated (rt : RouterFn) (mp : Nat) (hl : LengthIrrelevant rt mp) (hv : ValuesPerName rt)
    (dirty : Ctx) (r : Request) :
    (serveWith rt mp (some dirty) r).1 = (serveWith rt mp none r).1 := by
  have key : (route rt (reset dirty r.id mp) r.method r.path).2
      = (route rt (reset (newCtx mp) r.id mp) r.method r.path).2 := by
    apply route_obs_len_indep rt hv
    · simp only [reset, blank, List.length_replicate, newCtx]
      rw [hl _ _ _ (Nat.le_max_right _ _), hl _ _ _ (Nat.le_max_right _ _)]
    · simp [reset]
  unfold serveWith
  simp only
  generalize hA : route rt (reset dirty r.id mp) r.method r.path = A at key
  generalize hB : route rt (reset (newCtx mp) r.id mp) r.method r.path = B at key
  obtain ⟨ca, oa⟩ := A
  obtain ⟨cb, ob⟩ := B
  simp only at key
  subst key
  split <;> rfl

/-- what request `r` observes alone on a fresh instance with routes `routes` -/
def alone (routes : List Router.Route) (r : Request) : Obs :=
  (serveWith (routerOf routes) (Router.maxParam routes) none r).1

/-- the observations a history should produce: every request as if alone -/
def expected : List Router.Route → List Step → List Obs
  | _, [] => []
  | routes, .register rt :: ss => expected (routes ++ [rt]) ss
  | routes, .request r :: ss => alone routes r :: expected routes ss
  | routes, .borrow _ _ :: ss => expected routes ss   -- whatever the application did with a borrowed context

theorem runSteps_request (w : World) (r : Request) (ss : List Step)
    (hl : LengthIrrelevant (routerOf w.routes) (Router.maxParam w.routes))
    (hv : ValuesPerName (routerOf w.routes)) :
    ∃ w' : World, runSteps w (.request r :: ss) = alone w.routes r :: runSteps w' ss ∧
      w'.routes = w.routes := by
  simp only [runSteps, step]
  cases w.pool with
  | nil => exact ⟨_, rfl, rfl⟩
  | cons c cs => exact ⟨_, congrArg (· :: _) (C05_isolated _ _ hl hv c r), rfl⟩

/-- **C05_history_isolated** — any history of requests and registrations, any pool content. -/
theorem C05_history_isolated
    (hl : ∀ routes, LengthIrrelevant (routerOf routes) (Router.maxParam routes))
    (hv : ∀ routes, ValuesPerName (routerOf routes)) :
    ∀ (steps : List Step) (w : World), runSteps w steps = expected w.routes steps := by
  intro steps
  induction steps with
  | nil => intro w; rfl
  | cons s ss ih =>
    intro w
    cases s with
    | register rt => exact ih _
    | borrow id prog => exact ih _
    | request r =>
      obtain ⟨w', e, hw⟩ := runSteps_request w r ss (hl _) (hv _)
      rw [e, ih w', hw]
      rfl

/-- **C05_no_fail_after_registration** — routing itself never fails, whatever context the pool
    hands out and whatever was registered since that context was created. -/
theorem C05_no_fail_after_registration (rt : RouterFn) (mp : Nat) (hn : NoPanic rt mp)
    (pooled : Option Ctx) (r : Request) : (serveWith rt mp pooled r).1.kind ≠ 3 := by
  -- a new context is a pooled one like any other
  suffices key : ∀ c, (serveWith rt mp (some c) r).1.kind ≠ 3 by
    cases pooled with
    | none => exact key (newCtx mp)
    | some c => exact key c
  intro c
  unfold serveWith
  simp only
  have hlen : mp ≤ (reset c r.id mp).pvalues.length := by
    simp [reset, blank]; exact Nat.le_max_right _ _
  have hkind : (route rt (reset c r.id mp) r.method r.path).2.kind ≠ 3 := by
    unfold route
    cases h : rt r.method r.path (reset c r.id mp).pvalues.length with
    | panic => exact absurd h (hn _ _ _ hlen)
    | dispatch rm vals => simp
    | notFound q => simp only; split <;> simp
    | methodNotAllowed q a => simp
  generalize route rt (reset c r.id mp) r.method r.path = A at hkind ⊢
  obtain ⟨ca, oa⟩ := A
  simp only at hkind ⊢
  split <;> simp_all

/-- so `ValuesPerName` is not an assumption for `routerOf` -/
theorem routerOf_valuesPerName (routes : List Router.Route) : ValuesPerName (routerOf routes) := by
  intro m p n rm vals h
  unfold routerOf Router.find at h
  generalize Router.findNode p m (Router.build routes) _ = fr at h
  obtain ⟨st, res⟩ := fr
  simp only at h
  split at h
  · simp at h
  · cases res with
    | hit rm' =>
      simp only at h
      split at h
      · simp at h
      · rename_i hle
        simp only [Outcome.dispatch.injEq] at h
        obtain ⟨rfl, rfl⟩ := h
        simp only [List.length_take]
        omega
    | leave =>
      simp only at h
      cases hb : st.best with
      | none => simp [hb] at h
      | some b =>
        simp only [hb] at h
        cases hnf : b.nf with
        | none =>
          simp only [hnf] at h
          split at h <;> simp at h
        | some rm' =>
          simp only [hnf] at h
          split at h
          · simp at h
          · simp only [Outcome.dispatch.injEq] at h
            obtain ⟨rfl, rfl⟩ := h
            simp only [List.length_take]
            omega

/-! ### concurrency: interleavings of the atomic steps of several requests -/

inductive Action where
  | acquire (fromPool : Option Nat)   -- pool.Get: the i-th pooled context, or a new one
  | begin (req : Request) (mp : Nat)  -- Reset + Find
  | hop (op : HOp)                    -- one handler op
  | release                           -- pool.Put
deriving Repr, Inhabited

structure GState where
  pool : List Ctx := []
  held : List (Nat × Ctx) := []       -- request id ↦ the context it holds
deriving Repr, Inhabited

def lookup (h : List (Nat × Ctx)) (rid : Nat) : Option Ctx := (h.find? (·.1 = rid)).map (·.2)
def update (h : List (Nat × Ctx)) (rid : Nat) (c : Ctx) : List (Nat × Ctx) :=
  (rid, c) :: h.filter (·.1 ≠ rid)

def gstep (rt : RouterFn) (g : GState) (rid : Nat) : Action → GState
  | .acquire none => { g with held := update g.held rid (newCtx 0) }
  | .acquire (some i) =>
    match g.pool[i]? with
    | some c => { pool := g.pool.eraseIdx i, held := update g.held rid c }
    | none => { g with held := update g.held rid (newCtx 0) }
  | .begin req mp =>
    match lookup g.held rid with
    | some c => { g with held := update g.held rid (route rt (reset c req.id mp) req.method req.path).1 }
    | none => g
  | .hop op =>
    match lookup g.held rid with
    | some c => { g with held := update g.held rid (hstep c op) }
    | none => g
  | .release =>
    match lookup g.held rid with
    | some c => { pool := c :: g.pool, held := g.held.filter (·.1 ≠ rid) }
    | none => g

theorem lookup_filter_ne (h : List (Nat × Ctx)) (rid rid' : Nat) (hne : rid ≠ rid') :
    lookup (h.filter (·.1 ≠ rid')) rid = lookup h rid := by
  unfold lookup
  rw [List.find?_filter]
  congr 2
  funext x
  by_cases hx : x.1 = rid
  · simp [hx, hne]
  · simp [hx]

theorem lookup_update_ne (h : List (Nat × Ctx)) (rid rid' : Nat) (c : Ctx) (hne : rid ≠ rid') :
    lookup (update h rid' c) rid = lookup h rid := by
  have h1 : lookup (update h rid' c) rid = lookup (h.filter (·.1 ≠ rid')) rid := by
    unfold lookup update
    have : decide (rid' = rid) = false := by simpa using fun h => hne h.symm
    simp only [List.find?_cons, this]
  rw [h1]
  exact lookup_filter_ne h rid rid' hne

/-- **C05_frame** — a step of request `rid'` never changes the context held by another request. -/
theorem C05_frame (rt : RouterFn) (g : GState) (rid rid' : Nat) (a : Action) (hne : rid ≠ rid') :
    lookup (gstep rt g rid' a).held rid = lookup g.held rid := by
  cases a with
  | acquire fp =>
    cases fp with
    | none => exact lookup_update_ne _ _ _ _ hne
    | some i =>
      simp only [gstep]
      split <;> exact lookup_update_ne _ _ _ _ hne
  | begin req mp =>
    simp only [gstep]
    split
    · exact lookup_update_ne _ _ _ _ hne
    · rfl
  | hop op =>
    simp only [gstep]
    split
    · exact lookup_update_ne _ _ _ _ hne
    · rfl
  | release =>
    simp only [gstep]
    split
    · exact lookup_filter_ne _ _ _ hne
    · rfl

def grun (rt : RouterFn) (g : GState) : List (Nat × Action) → GState
  | [] => g
  | (rid, a) :: rest => grun rt (gstep rt g rid a) rest

/-- **C05_interleaving** — a run of steps of other requests, however long, leaves what request `rid` holds
    unchanged: between two of its own steps its context is what its previous step left. -/
theorem C05_interleaving (rt : RouterFn) (rid : Nat) (others : List (Nat × Action))
    (hothers : ∀ x ∈ others, x.1 ≠ rid) : ∀ g, lookup (grun rt g others).held rid = lookup g.held rid := by
  induction others with
  | nil => intro g; rfl
  | cons x xs ih =>
    intro g
    obtain ⟨rid', a⟩ := x
    simp only [grun]
    rw [ih (fun y hy => hothers y (List.mem_cons_of_mem _ hy))]
    exact C05_frame rt g rid rid' a (fun h => hothers (rid', a) (List.mem_cons_self) h.symm)

example : (reset { pvalues := [['x'], ['y'], ['z']], pnames := [['a']], path := ['/'], query := some 3,
                   store := [(1, 2)], logger := some 4,
                   resp := { status := 500, size := 9, committed := true, before := [1], after := [2] } } 7 2)
    = { pvalues := blank 3, req := 7 } := by decide

end C05
