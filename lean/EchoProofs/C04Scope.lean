import EchoProofs.C04
import EchoProofs.Lit
/-!
# C04 — group scoping, registration level

"Group middleware runs … never for requests outside the prefix or for another host."

The first half of that clause is a fact about *registration programs*: whatever sequence of
`Pre/Use/Host/Group/Group.Use/Add` calls built the configuration, a middleware id that was only
ever handed to groups (never to `Add` as route-level middleware) can occur in the snapshot of a
route only if that route belongs to the host, and lies below the prefix, of one of the groups the
id was handed to (`C04_scope_routes`).  The request-level half (a route is only selected for
requests that its pattern matches) is `EchoProofs/C04ScopeReq.lean`.
-/
namespace C04
open Router

/-- the host key `Echo.add` files a group's route under is the group's own host -/
theorem addRoute_host (c : Cfg) (host : Str) (hh : host = [] ∨ host ∈ c.hosts) :
    (if c.hosts.contains host then host else []) = host := by
  rcases hh with rfl | hh
  · split <;> rfl
  · rw [if_pos (by simpa using hh)]

theorem mem_hosts_host {hosts : List Str} {name n : Str} :
    n ∈ (if hosts.contains name then hosts else hosts ++ [name]) ↔ n ∈ hosts ∨ n = name := by
  by_cases hc : name ∈ hosts
  · rw [if_pos (by simpa using hc)]
    exact ⟨Or.inl, fun h => h.elim id fun e => e ▸ hc⟩
  · rw [if_neg (by simpa using hc)]
    simp

theorem mem_addRoute {c : Cfg} {host method path : Str} {hid : Nat} {fails : Bool} {mws : List Mw} {r : RouteRec} :
    r ∈ (addRoute c host method path hid fails mws).routes ↔
      r ∈ c.routes ∨ r = ⟨if c.hosts.contains host then host else [], method, normalizeSlash path, hid, fails, mws⟩ := by
  simp [addRoute]

theorem groupUse_hosts (c : Cfg) (gid : Nat) (ms : List Mw) : (groupUse c gid ms).hosts = c.hosts := by
  unfold groupUse
  split
  · rfl
  · simp only
    split <;> rfl

theorem mem_groupUse_groups {c : Cfg} {gid : Nat} {ms : List Mw} {g' : Group}
    (h : g' ∈ (groupUse c gid ms).groups) :
    g' ∈ c.groups ∨ ∃ g, c.groups[gid]? = some g ∧ g' = { g with mws := g.mws ++ ms } := by
  unfold groupUse at h
  cases hg : c.groups[gid]? with
  | none => rw [hg] at h; exact Or.inl h
  | some g =>
    rw [hg] at h
    have h' : g' ∈ c.groups.set gid { g with mws := g.mws ++ ms } := by
      simp only at h
      split at h <;> exact h
    exact (List.mem_or_eq_of_mem_set h').imp_right fun e => ⟨g, rfl, e⟩

theorem mem_groupUse_routes {c : Cfg} {gid : Nat} {ms : List Mw} {r : RouteRec} :
    r ∈ (groupUse c gid ms).routes ↔ r ∈ c.routes ∨ ∃ g, c.groups[gid]? = some g ∧ g.mws ++ ms ≠ [] ∧
      (r = ⟨if c.hosts.contains g.host then g.host else [], routeNotFound, normalizeSlash g.pfx, 0, true, g.mws ++ ms⟩
        ∨ r = ⟨if c.hosts.contains g.host then g.host else [], routeNotFound,
                normalizeSlash (g.pfx ++ "/*".toList), 0, true, g.mws ++ ms⟩) := by
  unfold groupUse
  cases hg : c.groups[gid]? with
  | none => simp
  | some g =>
    simp only [Option.some.injEq, exists_eq_left', List.isEmpty_iff]
    split
    · rename_i he; simp [he]
    · rename_i hne; simp only [mem_addRoute, hne, ne_eq, not_false_eq_true, true_and, or_assoc]; rfl

def PfxOK (p : Str) : Prop := p = [] ∨ p.head? = some '/'

/-- the (host, prefix) of the group to which `op`, executed in configuration `c`, hands middleware `i` -/
def scopeOfOp (c : Cfg) (i : Mw) : Op → List (Str × Str)
  | .host name ms => if i ∈ ms then [(name, [])] else []
  | .group none pfx ms => if i ∈ ms then [([], pfx)] else []
  | .group (some p) pfx ms =>
    match c.groups[p]? with
    | some g => if i ∈ ms then [(g.host, g.pfx ++ pfx)] else []
    | none => []
  | .groupUse g ms =>
    match c.groups[g]? with
    | some gr => if i ∈ ms then [(gr.host, gr.pfx)] else []
    | none => []
  | _ => []

def scopesFrom (i : Mw) : Cfg → List Op → List (Str × Str)
  | _, [] => []
  | c, op :: ops => scopeOfOp c i op ++ scopesFrom i (exec c op) ops

def scopes (i : Mw) (ops : List Op) : List (Str × Str) := scopesFrom i {} ops

/-- `i` is never passed as route-level middleware -/
def GroupOnlyOp (i : Mw) : Op → Prop
  | .add _ _ _ _ _ ms => i ∉ ms
  | _ => True

def PfxOKOp : Op → Prop
  | .group _ pfx _ => PfxOK pfx
  | _ => True

def InScope (S : List (Str × Str)) (host path : Str) : Prop :=
  ∃ s ∈ S, s.1 = host ∧ s.2 <+: path

theorem InScope.mono {S S' : List (Str × Str)} {h p : Str} (hs : ∀ s ∈ S, s ∈ S') :
    InScope S h p → InScope S' h p := by
  rintro ⟨s, hm, h1, h2⟩; exact ⟨s, hs s hm, h1, h2⟩

/-- the invariant of a configuration with respect to one middleware id and the scopes given so far -/
structure Inv (i : Mw) (S : List (Str × Str)) (c : Cfg) : Prop where
  hostOK : ∀ g ∈ c.groups, g.host = [] ∨ g.host ∈ c.hosts
  pfxOK : ∀ g ∈ c.groups, PfxOK g.pfx
  grp : ∀ g ∈ c.groups, i ∈ g.mws → InScope S g.host g.pfx
  rts : ∀ r ∈ c.routes, i ∈ r.mws → InScope S r.host r.path

theorem Inv.mono {i : Mw} {S S' : List (Str × Str)} {c : Cfg} (hs : ∀ s ∈ S, s ∈ S') (h : Inv i S c) :
    Inv i S' c :=
  ⟨h.hostOK, h.pfxOK, fun g hg hi => (h.grp g hg hi).mono hs, fun r hr hi => (h.rts r hr hi).mono hs⟩

theorem pfxOK_append {p q : Str} (hp : PfxOK p) (hq : PfxOK q) : PfxOK (p ++ q) := by
  rcases hp with rfl | hp
  · simpa using hq
  · right
    cases p with
    | nil => simp at hp
    | cons a as => simpa using hp

theorem normalizeSlash_pfx {p : Str} (hp : PfxOK p) (hne : p ≠ []) (q : Str) : normalizeSlash (p ++ q) = p ++ q := by
  cases p with
  | nil => exact absurd rfl hne
  | cons a as =>
    have ha : a = '/' := by simpa [PfxOK] using hp
    simp [normalizeSlash, ha]

theorem prefix_normalize {s p q : Str} (hp : PfxOK p) (h : s <+: p) : s <+: normalizeSlash (p ++ q) := by
  by_cases hne : p = []
  · subst hne
    rw [List.prefix_nil.mp h]
    exact List.nil_prefix
  · rw [normalizeSlash_pfx hp hne]
    exact h.trans (List.prefix_append _ _)

/-- the part shared by the registration invariants `Inv` and `CInv` -/
structure GroupsOK (c : Cfg) : Prop where
  hostOK : ∀ g ∈ c.groups, g.host = [] ∨ g.host ∈ c.hosts
  pfxOK : ∀ g ∈ c.groups, PfxOK g.pfx

theorem Inv.groupsOK {i : Mw} {S : List (Str × Str)} {c : Cfg} (h : Inv i S c) : GroupsOK c := ⟨h.hostOK, h.pfxOK⟩

theorem GroupsOK.push {c : Cfg} (h : GroupsOK c) {hosts : List Str} (hh : ∀ n ∈ c.hosts, n ∈ hosts)
    (routes : List RouteRec) {g0 : Group} (ho : g0.host = [] ∨ g0.host ∈ hosts) (hp : PfxOK g0.pfx) :
    GroupsOK { c with hosts := hosts, routes := routes, groups := c.groups ++ [g0] } := by
  constructor <;> intro g hg <;> rcases List.mem_append.mp hg with hg | hg
  · exact (h.hostOK g hg).imp_right (hh _)
  · rw [List.mem_singleton.mp hg]; exact ho
  · exact h.pfxOK g hg
  · rw [List.mem_singleton.mp hg]; exact hp

theorem GroupsOK.groupUse {c : Cfg} (h : GroupsOK c) (gid : Nat) (ms : List Mw) : GroupsOK (groupUse c gid ms) := by
  constructor <;> intro g' hg' <;> rcases mem_groupUse_groups hg' with hg' | ⟨g, hg, rfl⟩
  · rw [groupUse_hosts]; exact h.hostOK g' hg'
  · rw [groupUse_hosts]; exact h.hostOK g (List.mem_of_getElem? hg)
  · exact h.pfxOK g' hg'
  · exact h.pfxOK g (List.mem_of_getElem? hg)

theorem addRoute_inv {i : Mw} {S : List (Str × Str)} {c : Cfg} (h : Inv i S c)
    (host method path : Str) (hid : Nat) (fails : Bool) (mws : List Mw)
    (hh : host = [] ∨ host ∈ c.hosts)
    (hnew : i ∈ mws → InScope S host (normalizeSlash path)) :
    Inv i S (addRoute c host method path hid fails mws) := by
  refine ⟨h.hostOK, h.pfxOK, h.grp, ?_⟩
  intro r hr hi
  rcases mem_addRoute.mp hr with hr | rfl
  · exact h.rts r hr hi
  · simp only [addRoute_host c host hh]
    exact hnew hi

theorem groupUse_inv {i : Mw} {S : List (Str × Str)} {c : Cfg} (h : Inv i S c) (gid : Nat) (ms : List Mw)
    (hnew : ∀ g, c.groups[gid]? = some g → i ∈ ms → InScope S g.host g.pfx) :
    Inv i S (groupUse c gid ms) := by
  have hsc : ∀ g, c.groups[gid]? = some g → i ∈ g.mws ++ ms → InScope S g.host g.pfx := fun g hg hi =>
    (List.mem_append.mp hi).elim (h.grp g (List.mem_of_getElem? hg)) (hnew g hg)
  have ok := h.groupsOK.groupUse gid ms
  refine ⟨ok.hostOK, ok.pfxOK, ?_, ?_⟩
  · intro g' hg' hi
    rcases mem_groupUse_groups hg' with hg' | ⟨g, hg, rfl⟩
    · exact h.grp g' hg' hi
    · exact hsc g hg hi
  · intro r hr hi
    rcases mem_groupUse_routes.mp hr with hr | ⟨g, hg, _, hr⟩
    · exact h.rts r hr hi
    · -- a catch-all route of the group lies below the group's prefix
      have hgm := List.mem_of_getElem? hg
      obtain ⟨s, hs, hs1, hs2⟩ : InScope S g.host g.pfx := by rcases hr with rfl | rfl <;> exact hsc g hg hi
      rw [addRoute_host c g.host (h.hostOK g hgm)] at hr
      refine ⟨s, hs, ?_⟩
      rcases hr with rfl | rfl
      · exact ⟨hs1, by simpa using prefix_normalize (q := []) (h.pfxOK g hgm) hs2⟩
      · exact ⟨hs1, prefix_normalize (h.pfxOK g hgm) hs2⟩

theorem getLast_groups {gs : List Group} {g0 g : Group}
    (hg : (gs ++ [g0])[(gs ++ [g0]).length - 1]? = some g) : g = g0 := by
  simpa using hg.symm

/-- a group is created with an empty list and handed `ms` right away (`Echo.Host`, `Echo.Group`, `Group.Group`) -/
theorem newGroup_inv {i : Mw} {S : List (Str × Str)} {c : Cfg} (h : Inv i S c) {hosts : List Str}
    (hh : ∀ n ∈ c.hosts, n ∈ hosts) {routes : List RouteRec} (hr : ∀ r ∈ routes, r ∈ c.routes)
    (host pfx : Str) (ho : host = [] ∨ host ∈ hosts) (hp : PfxOK pfx) (ms : List Mw)
    (hnew : i ∈ ms → InScope S host pfx) :
    Inv i S (groupUse { c with hosts := hosts, routes := routes, groups := c.groups ++ [⟨host, pfx, []⟩] }
      ((c.groups ++ [(⟨host, pfx, []⟩ : Group)]).length - 1) ms) := by
  have ok := h.groupsOK.push hh routes (g0 := ⟨host, pfx, []⟩) ho hp
  have h0 : Inv i S { c with hosts := hosts, routes := routes, groups := c.groups ++ [⟨host, pfx, []⟩] } := by
    refine ⟨ok.hostOK, ok.pfxOK, ?_, fun r hr' => h.rts r (hr r hr')⟩
    intro g hg hi
    rcases List.mem_append.mp hg with hg | hg
    · exact h.grp g hg hi
    · rw [List.mem_singleton.mp hg] at hi; simp at hi
  refine groupUse_inv h0 _ ms fun g hg hi => ?_
  rw [getLast_groups (gs := c.groups) (g0 := ⟨host, pfx, []⟩) hg]
  exact hnew hi

theorem inv_init (i : Mw) (S : List (Str × Str)) : Inv i S {} :=
  ⟨by intro g hg; simp at hg, by intro g hg; simp at hg, by intro g hg; simp at hg, by intro r hr; simp at hr⟩

theorem exec_inv {i : Mw} {S : List (Str × Str)} {c : Cfg} (h : Inv i S c) (op : Op)
    (hgo : GroupOnlyOp i op) (hpo : PfxOKOp op) : Inv i (S ++ scopeOfOp c i op) (exec c op) := by
  have hS : ∀ s ∈ S, s ∈ S ++ scopeOfOp c i op := fun s hs => List.mem_append_left _ hs
  have h' := h.mono hS
  -- the scope a step hands out is in the extended list
  have hin : ∀ {s}, scopeOfOp c i op = [s] → InScope (S ++ scopeOfOp c i op) s.1 s.2 := fun {s} e =>
    ⟨s, by rw [e]; simp, rfl, List.prefix_refl _⟩
  cases op with
  | pre m => exact ⟨h'.hostOK, h'.pfxOK, h'.grp, h'.rts⟩
  | use j => exact ⟨h'.hostOK, h'.pfxOK, h'.grp, h'.rts⟩
  | host name ms =>
    exact newGroup_inv h' (fun n hn => mem_hosts_host.mpr (Or.inl hn)) (fun r hr => (List.mem_filter.mp hr).1) name []
      (Or.inr (mem_hosts_host.mpr (Or.inr rfl))) (Or.inl rfl) ms
      (fun hi => hin (s := (name, [])) (by simp [scopeOfOp, hi]))
  | group parent pfx ms =>
    cases parent with
    | none =>
      exact newGroup_inv h' (fun _ hn => hn) (fun _ hr => hr) [] pfx (Or.inl rfl) hpo ms
        (fun hi => hin (s := ([], pfx)) (by simp [scopeOfOp, hi]))
    | some p =>
      simp only [exec]
      cases hp : c.groups[p]? with
      | none => exact h'
      | some gp =>
        have hgpm : gp ∈ c.groups := List.mem_of_getElem? hp
        refine newGroup_inv h' (fun _ hn => hn) (fun _ hr => hr) gp.host (gp.pfx ++ pfx) (h.hostOK gp hgpm)
          (pfxOK_append (h.pfxOK gp hgpm) hpo) (gp.mws ++ ms) ?_
        intro hi
        rcases List.mem_append.mp hi with hi | hi
        · -- inherited from the parent: the parent's scope contains the child
          obtain ⟨s, hs, hs1, hs2⟩ := h'.grp gp hgpm hi
          exact ⟨s, hs, hs1, hs2.trans (List.prefix_append _ _)⟩
        · exact hin (s := (gp.host, gp.pfx ++ pfx)) (by simp [scopeOfOp, hp, hi])
  | groupUse g ms =>
    exact groupUse_inv h' g ms fun gr hg hi => hin (s := (gr.host, gr.pfx)) (by simp [scopeOfOp, hg, hi])
  | add g method path hid fails ms =>
    cases g with
    | none => exact addRoute_inv h' [] method path hid fails ms (Or.inl rfl) (fun hi => absurd hi hgo)
    | some gid =>
      simp only [exec]
      cases hg : c.groups[gid]? with
      | none => exact h'
      | some gr =>
        have hgm : gr ∈ c.groups := List.mem_of_getElem? hg
        refine addRoute_inv h' gr.host method (gr.pfx ++ path) hid fails (gr.mws ++ ms) (h.hostOK gr hgm) ?_
        intro hi
        rcases List.mem_append.mp hi with hi | hi
        · obtain ⟨s, hs, hs1, hs2⟩ := h'.grp gr hgm hi
          exact ⟨s, hs, hs1, prefix_normalize (h.pfxOK gr hgm) hs2⟩
        · exact absurd hi hgo

theorem run_inv (i : Mw) (ops : List Op) (hgo : ∀ op ∈ ops, GroupOnlyOp i op) (hpo : ∀ op ∈ ops, PfxOKOp op) :
    ∀ (c : Cfg) (S : List (Str × Str)), Inv i S c → Inv i (S ++ scopesFrom i c ops) (ops.foldl exec c) := by
  induction ops with
  | nil => intro c S h; simpa [scopesFrom] using h
  | cons op ops ih =>
    intro c S h
    have h1 := exec_inv h op (hgo op (by simp)) (hpo op (by simp))
    have h2 := ih (fun o ho => hgo o (List.mem_cons_of_mem _ ho)) (fun o ho => hpo o (List.mem_cons_of_mem _ ho)) _ _ h1
    simpa [scopesFrom, List.append_assoc] using h2

/-- **C04_scope_routes** — for every registration program, a middleware id that is only handed to
    groups occurs in the snapshot of a registered route only if the route is filed under the host,
    and its pattern starts with the prefix, of one of the groups the id was handed to. -/
theorem C04_scope_routes (i : Mw) (ops : List Op) (hgo : ∀ op ∈ ops, GroupOnlyOp i op)
    (hpo : ∀ op ∈ ops, PfxOKOp op) (r : RouteRec) (hr : r ∈ (run ops).routes) (hi : i ∈ r.mws) :
    ∃ s ∈ scopes i ops, s.1 = r.host ∧ s.2 <+: r.path := by
  have := run_inv i ops hgo hpo {} [] (inv_init i [])
  simp only [List.nil_append] at this
  exact this.rts r hr hi

/-! ### the demo program hands middleware 3 to the group `/g` only -/
example : scopes 3 demo = [([], "/g".toList)] := by unfold demo; lit_chars; decide +kernel
example : ∀ op ∈ demo, GroupOnlyOp 3 op := by
  intro op hop
  simp only [demo, List.mem_cons, List.mem_nil_iff, or_false] at hop
  rcases hop with rfl | rfl | rfl | rfl | rfl <;> simp [GroupOnlyOp]
theorem demo_pfxOK : ∀ op ∈ demo, PfxOKOp op := by
  intro op hop
  simp only [demo, List.mem_cons, List.mem_nil_iff, or_false] at hop
  rcases hop with rfl | rfl | rfl | rfl | rfl <;> simp [PfxOKOp, PfxOK]
example : ∀ op ∈ demo, PfxOKOp op := demo_pfxOK

end C04
