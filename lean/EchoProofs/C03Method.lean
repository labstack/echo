import EchoProofs.C03
import EchoProofs.Tree.OK
import EchoProofs.Lit
/-!
# C03 / C01 — the handler that runs is registered for the request's method

"A request whose path is matched only by routes for other methods is answered 405 …": the priority search never
hands a request to the handler of a route registered for ANOTHER method.  Whatever is dispatched is registered
either for exactly the request's method or as a `RouteNotFound` route (which stands for every method at its
position).  Proved for the reference search, and transported to the radix-tree model of `Router.Find` for every
table of representable patterns.
-/
namespace C03
open Router.Spec
open Router (Str routeNotFound Route)

/-- **C03_dispatch_method** — whatever the reference search dispatches is registered for the request's
    method, or is a RouteNotFound route. -/
theorem C03_dispatch_method (es : List Entry) (m path : Str) (e : Entry) (vals : List Str)
    (h : route es m path = .dispatch e vals) : e.method = m ∨ e.method = routeNotFound := by
  rcases finish_dispatch h with hit | ⟨b, _, hnf, _⟩
  · exact ((search_post m _ _ _ _ _).hit hit).1
  · exact .inr (findNF_some hnf).2

def dispatchedMethod : Outcome → Option Str
  | .dispatch e _ => some e.method
  | _ => none

/-- GET and POST on one pattern, a POST request runs the POST route; a PUT request none -/
example : dispatchedMethod (route ([⟨"GET".toList, "/a/:id".toList, 0⟩, ⟨"POST".toList, "/a/:id".toList, 1⟩].map mkEntry)
    "POST".toList "/a/7".toList) = some "POST".toList := by lit_chars; decide +kernel
example : dispatchedMethod (route ([⟨"GET".toList, "/a/:id".toList, 0⟩, ⟨"POST".toList, "/a/:id".toList, 1⟩].map mkEntry)
    "PUT".toList "/a/7".toList) = none := by lit_chars; decide +kernel

end C03

namespace Router.Tree
open Router Router.Spec

/-- **tree_dispatch_method** — on the radix-tree model of `Router.Find`, for every table of representable
    patterns (routes may be registered again and again): the record a request is dispatched to belongs to a
    registration in force that was made for the request's method or as a RouteNotFound route.  (The tree's
    record does not carry the method; the registration in force with the record's handler id does.) -/
theorem tree_dispatch_method (rs : List Route) (m path : Str) (n : Nat) (hn : maxParam rs ≤ n)
    (hok : okTable rs = true) (rm : RouteMethod) (vals : List Str)
    (h : find (build rs) m path (List.replicate n []) = .dispatch rm vals) :
    ∃ r ∈ dedupLast rs, r.hid = rm.hid ∧ normalizeSlash r.path = rm.ppath
      ∧ (r.method = m ∨ r.method = routeNotFound) := by
  obtain ⟨mm, hr⟩ := (represents_ok hok).route_of_dispatch hn h
  obtain ⟨r, hrl, hre⟩ := List.mem_map.mp (mem_of_route_dispatch hr)
  obtain ⟨hhid, hpp, hmeth, _⟩ := mkEntry_eq_entryOf hre
  exact ⟨r, hrl, hhid, hpp, hmeth ▸ C03.C03_dispatch_method _ _ _ _ _ hr⟩

end Router.Tree
