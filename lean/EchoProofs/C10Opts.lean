import EchoModel.C10
import EchoProofs.C10
/-!
# C10 — the trust options (`TrustOption`, `newIPChecker`)

`newChecker opts` is the checker built by `ExtractIPFromRealIPHeader(opts...)` /
`ExtractIPFromXFFHeader(opts...)`.  The theorems say what a *list* of options means, for every
list: a flag is the value of the last option of its kind (default `true`), every range option
contributes its range wherever it stands, and the trust decision does not depend on how the
kinds are interleaved.
-/
namespace C10

/-- the values given to `TrustLoopback`, in order -/
def loopbackVals : List TrustOpt → List Bool
  | [] => []
  | .loopback v :: r => v :: loopbackVals r
  | _ :: r => loopbackVals r

def linkLocalVals : List TrustOpt → List Bool
  | [] => []
  | .linkLocal v :: r => v :: linkLocalVals r
  | _ :: r => linkLocalVals r

def privateVals : List TrustOpt → List Bool
  | [] => []
  | .privateNet v :: r => v :: privateVals r
  | _ :: r => privateVals r

/-- the ranges given to `TrustIPRange`, in order -/
def rangesOf : List TrustOpt → List IPNet
  | [] => []
  | .range n :: r => n :: rangesOf r
  | _ :: r => rangesOf r

/-- last value of a list of flag settings, `d` when there is none -/
def lastD (d : Bool) : List Bool → Bool
  | [] => d
  | v :: r => lastD v r

theorem lastD_append (d : Bool) (a b : List Bool) : lastD d (a ++ b) = lastD (lastD d a) b := by
  induction a generalizing d with
  | nil => rfl
  | cons v r ih => simp [lastD, ih]

theorem foldl_applyOpt (c : Cfg) (opts : List TrustOpt) :
    opts.foldl applyOpt c =
      ⟨lastD c.loopback (loopbackVals opts), lastD c.linkLocal (linkLocalVals opts),
       lastD c.privateNet (privateVals opts), c.extra ++ rangesOf opts⟩ := by
  induction opts generalizing c with
  | nil => simp [loopbackVals, linkLocalVals, privateVals, rangesOf, lastD]
  | cons o r ih =>
    cases o <;>
      simp [List.foldl_cons, ih, applyOpt, loopbackVals, linkLocalVals, privateVals, rangesOf, lastD]

/-- **C10_options_meaning** — for every option list, in any order and with any repetitions: each
    flag is the last value given for it (`true` when the option is absent) and the extra ranges
    are exactly the `TrustIPRange` arguments, none dropped, whatever stands before or after. -/
theorem C10_options_meaning (opts : List TrustOpt) :
    newChecker opts =
      ⟨lastD true (loopbackVals opts), lastD true (linkLocalVals opts),
       lastD true (privateVals opts), rangesOf opts⟩ := by
  simp [newChecker, foldl_applyOpt, defaultCfg]

/-- no options: loopback, link-local and private networks are trusted, no extra range -/
theorem C10_options_default : newChecker [] = ⟨true, true, true, []⟩ := rfl

theorem rangesOf_append (a b : List TrustOpt) : rangesOf (a ++ b) = rangesOf a ++ rangesOf b := by
  induction a with
  | nil => rfl
  | cons o r ih => cases o <;> simp [rangesOf, ih]

theorem loopbackVals_append (a b : List TrustOpt) :
    loopbackVals (a ++ b) = loopbackVals a ++ loopbackVals b := by
  induction a with
  | nil => rfl
  | cons o r ih => cases o <;> simp [loopbackVals, ih]

theorem linkLocalVals_append (a b : List TrustOpt) :
    linkLocalVals (a ++ b) = linkLocalVals a ++ linkLocalVals b := by
  induction a with
  | nil => rfl
  | cons o r ih => cases o <;> simp [linkLocalVals, ih]

theorem privateVals_append (a b : List TrustOpt) :
    privateVals (a ++ b) = privateVals a ++ privateVals b := by
  induction a with
  | nil => rfl
  | cons o r ih => cases o <;> simp [privateVals, ih]

/-- **C10_options_range_any_position** — a `TrustIPRange(n)` option adds exactly the addresses
    `n.Contains` admits, at whatever position it is given (before or after the flag options,
    whether or not the range lies inside a built-in class that is switched on or off). -/
theorem C10_options_range_any_position (a b : List TrustOpt) (n : IPNet) (ip : IP) :
    trust (newChecker (a ++ .range n :: b)) ip =
      (trust (newChecker (a ++ b)) ip || contains n ip) := by
  simp only [C10_options_meaning, trust, loopbackVals_append, linkLocalVals_append,
    privateVals_append, rangesOf_append, loopbackVals, linkLocalVals, privateVals, rangesOf,
    List.any_append, List.any_cons]
  -- both sides are the same disjunction, bracketed and ordered differently
  ac_rfl

/-- **C10_options_interleaving** — two option lists that give the same sequence of values to
    each flag and the same ranges (in any order) build checkers with the same trust decision for
    every address: how flag options and range options are interleaved never matters. -/
theorem C10_options_interleaving (o o' : List TrustOpt)
    (hl : loopbackVals o = loopbackVals o') (hk : linkLocalVals o = linkLocalVals o')
    (hp : privateVals o = privateVals o') (hr : (rangesOf o).Perm (rangesOf o')) (ip : IP) :
    trust (newChecker o) ip = trust (newChecker o') ip := by
  simp only [C10_options_meaning, trust, hl, hk, hp, hr.any_eq]

theorem lastD_dup (d v : Bool) (a b : List Bool) : lastD d (a ++ v :: v :: b) = lastD d (a ++ v :: b) := by
  simp [lastD_append, lastD]

/-- **C10_options_repeat** — applying the SAME option twice (base options plus appended options that
    repeat one of them) is applying it once: for every option — a flag with `true` or `false`, a
    range — at every position of every list, and for every address.  In particular a second
    `TrustPrivateNet(false)` does not switch the class back on. -/
theorem C10_options_repeat (a b : List TrustOpt) (o : TrustOpt) (ip : IP) :
    trust (newChecker (a ++ o :: o :: b)) ip = trust (newChecker (a ++ o :: b)) ip := by
  simp only [C10_options_meaning, trust, loopbackVals_append, linkLocalVals_append, privateVals_append,
    rangesOf_append]
  cases o with
  | range n =>
    simp only [loopbackVals, linkLocalVals, privateVals, rangesOf, List.any_append, List.any_cons]
    cases contains n ip <;> simp
  | _ => simp only [loopbackVals, linkLocalVals, privateVals, rangesOf, lastD_dup]

/-- any number of repetitions of a `false` flag leaves the class off (the parity of the count is
    irrelevant) -/
theorem C10_options_false_stays_false (k : Nat) (b : List TrustOpt) (hb : privateVals b = []) :
    (newChecker (List.replicate (k + 1) (.privateNet false) ++ b)).privateNet = false := by
  rw [C10_options_meaning]
  simp only [privateVals_append, hb, List.append_nil]
  induction k with
  | zero => simp [privateVals, lastD]
  | succ k ih => simpa [List.replicate_succ, privateVals, lastD] using ih

/-- the trust decision of a checker built from options, in RFC terms (`C10_trust_ranges`
    composed with `C10_options_meaning`) -/
theorem C10_options_trust (opts : List TrustOpt) (ip : IP) :
    trust (newChecker opts) ip = true ↔
      (lastD true (loopbackVals opts) = true ∧ RFCLoopback (addrOf ip)) ∨
      (lastD true (linkLocalVals opts) = true ∧ RFCLinkLocal (addrOf ip)) ∨
      (lastD true (privateVals opts) = true ∧ RFCPrivate (addrOf ip)) ∨
      (∃ n ∈ rangesOf opts, contains n ip = true) := by
  rw [C10_trust_ranges, C10_options_meaning]

/-! ## non-vacuity -/

section Examples

def net10 : IPNet := ⟨[10, 0, 0, 0], [255, 0, 0, 0]⟩

-- the range 10.0.0.0/8 given BEFORE private-network trust is switched off still counts
example : trust (newChecker [.range net10, .privateNet false]) [10, 1, 2, 3] = true ∧
    trust (newChecker [.privateNet false, .range net10]) [10, 1, 2, 3] = true ∧
    trust (newChecker [.privateNet false]) [10, 1, 2, 3] = false ∧
    trust (newChecker [.range net10, .privateNet false]) [192, 168, 0, 1] = false := by decide

-- the same option twice, three times: still off
example : trust (newChecker [.privateNet false, .privateNet false]) [10, 1, 2, 3] = false ∧
    trust (newChecker [.privateNet false, .loopback true, .privateNet false, .privateNet false]) [192, 168, 0, 1] = false ∧
    trust (newChecker [.linkLocal false, .linkLocal false]) [169, 254, 0, 1] = false := by decide

-- the last flag value wins; an absent flag is `true`
example : (newChecker [.loopback false, .range net10, .loopback true, .linkLocal false]).loopback = true ∧
    (newChecker [.loopback false, .range net10, .loopback true, .linkLocal false]).linkLocal = false ∧
    (newChecker [.loopback false, .range net10, .loopback true, .linkLocal false]).privateNet = true := by decide

example : trust (newChecker [.range net10, .privateNet false]) [10, 1, 2, 3] =
    trust (newChecker [.privateNet false, .range net10]) [10, 1, 2, 3] :=
  C10_options_interleaving _ _ rfl rfl rfl (List.Perm.refl _) _

end Examples

end C10
