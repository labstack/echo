import EchoModel.C10
import EchoProofs.Lit
/-!
# C10 — one Echo instance over time: replaced extractors, order of requests

`runSteps` is the model of an application that serves requests and re-assigns
`Echo.IPExtractor` in between.  The theorems say that a served request is answered by the
extractor installed LAST and by nothing else: not by an extractor installed earlier (pooled or
long-lived contexts must not remember one), not by other requests served before, after or —
since the answer is a function of the request alone — at the same time.
-/
namespace C10

variable (parse : Str → Option IP)

theorem runSteps_serves (st : Ext × Cfg) (reqs : List Req) :
    runSteps parse st (reqs.map Step.serve) = reqs.map (realIPCtx st.1 st.2 parse) := by
  induction reqs with
  | nil => rfl
  | cons r rest ih => simp [runSteps, ih]

theorem runSteps_append (st : Ext × Cfg) (pre : List Step) (e : Ext) (cfg : Cfg) (rest : List Step) :
    runSteps parse st (pre ++ Step.setExtractor e cfg :: rest) =
      runSteps parse st pre ++ runSteps parse (e, cfg) rest := by
  induction pre generalizing st with
  | nil => simp [runSteps]
  | cons s r ih =>
    cases s with
    | setExtractor e' cfg' => simp [runSteps, ih]
    | serve q => simp [runSteps, ih]

/-- **C10_replace_extractor** — for every history `pre` (any requests, any earlier extractors) and
    every request list: after `e.IPExtractor = (e, cfg)` each request is answered by exactly that
    extractor; nothing of the history survives. -/
theorem C10_replace_extractor (st : Ext × Cfg) (pre : List Step) (e : Ext) (cfg : Cfg) (reqs : List Req) :
    runSteps parse st (pre ++ Step.setExtractor e cfg :: reqs.map Step.serve) =
      runSteps parse st pre ++ reqs.map (realIPCtx e cfg parse) := by
  rw [runSteps_append, runSteps_serves]

/-- **C10_requests_independent** — the answers to a batch of requests in another order are the same
    answers in that order: no request influences another one (the sequential content of "concurrent
    calls of one extractor give each request its own answer"). -/
theorem C10_requests_independent (st : Ext × Cfg) (l l' : List Req) (h : l.Perm l') :
    (runSteps parse st (l.map Step.serve)).Perm (runSteps parse st (l'.map Step.serve)) := by
  rw [runSteps_serves, runSteps_serves]
  exact h.map _

/-- installing the direct extractor, whatever was installed before: from then on no header matters -/
theorem C10_replace_by_direct (st : Ext × Cfg) (pre : List Step) (cfg : Cfg) (reqs : List Req) :
    runSteps parse st (pre ++ Step.setExtractor .direct cfg :: reqs.map Step.serve) =
      runSteps parse st pre ++ reqs.map (fun r => peerOf r.remoteAddr) := by
  rw [C10_replace_extractor]
  rfl

/-! ## non-vacuity -/

private def exP (s : Str) : Option IP :=
  if s = "10.0.0.1".toList then some [10, 0, 0, 1]
  else if s = "8.8.8.8".toList then some [8, 8, 8, 8]
  else none

private def rq : Req := ⟨"10.0.0.1:80".toList, [], ["8.8.8.8".toList]⟩

-- XFF (defaults) answers with the forwarded address; after the application switched private-network
-- trust off, or installed the direct extractor, the same request is answered with the peer
example : runSteps exP (.xff, defaultCfg)
    [.serve rq, .setExtractor .xff ⟨true, true, false, []⟩, .serve rq, .setExtractor .direct defaultCfg, .serve rq] =
    ["8.8.8.8".toList, "10.0.0.1".toList, "10.0.0.1".toList] := by
  unfold exP rq; lit_chars; decide +kernel

end C10
