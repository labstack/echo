import EchoProofs.C20
import EchoProofs.Tree.OK
import EchoProofs.Lit
/-!
# C20 on the radix-tree model

`C20.lean` proves the inverse law between `Router.Reverse` and routing for the order-free reference
search (L1).  The tree built by `Router.insert` represents the table in force (`represents_ok`), so the same
statements hold for the model of the real `Router.Find` on it (L3), for every table of representable patterns
(no escaped colon, no text after `*`; for patterns with escaped colons the L1 statements and the
correspondence run remain).
-/
namespace C20
open Router Router.Spec Router.Tree

theorem okTable_single {r : Route} (h : okPattern r.path = true) : okTable [r] = true := by
  simp [okTable, h]

/-- **C20_roundtrip_single on the tree model** — a table containing just the route: the reversed URL,
    requested with the route's method, is dispatched by the tree model to that route's record with exactly
    the values that were reversed. -/
theorem C20_roundtrip_single_tree (r : Route) (hne : r.method ≠ routeNotFound) (vs : List Str)
    (hok : okPattern r.path = true)
    (hstar : starLast (normalizeSlash r.path) = true) (hvalid : ValidVals (norm r.path).1 vs)
    (n : Nat) (hn : maxParam [r] ≤ n) :
    ∃ rm, find (build [r]) r.method (reverse r.path vs) (List.replicate n []) = .dispatch rm vs
      ∧ rm.hid = r.hid ∧ rm.ppath = normalizeSlash r.path ∧ rm.pnames = (norm r.path).2 := by
  have hrep := represents_ok (okTable_single hok)
  have hd : dedupLast [r] = [r] := by simp [dedupLast]
  rw [hd] at hrep
  obtain ⟨rm, mm, hf, he⟩ := hrep.dispatch_of_route hn (C20_roundtrip_single r hne vs hstar hvalid)
  exact ⟨rm, hf, congrArg Entry.hid he, congrArg Entry.ppath he, congrArg Entry.pnames he⟩

/-- the round trip of the values on any tree that represents the table in force: the dispatched entry is
    sound for the reversed URL (`C01_sound_partial`), and a sound decomposition is unique -/
theorem roundtrip_values_of_represents {t : Node} {D : Nat} {rs : List Route}
    (hrep : Represents t D ((dedupLast rs).map mkEntry)) (r : Route) (vs vals : List Str)
    (hstar : starLast (normalizeSlash r.path) = true) (hvalid : ValidVals (norm r.path).1 vs)
    {n : Nat} (hn : D ≤ n) (rm : RouteMethod)
    (h : find t r.method (reverse r.path vs) (List.replicate n []) = .dispatch rm vals)
    (hsame : rm.ppath = normalizeSlash r.path)
    (hrec : ∀ r' ∈ rs, r'.hid = rm.hid → r'.method ≠ routeNotFound) : vals = vs := by
  have hinst := C20_reverse_eq_inst r.path vs hstar (validVals_length hvalid)
  have hn' : (norm rm.ppath).1 = (norm r.path).1 := by
    rw [hsame]; unfold norm; rw [normalizeSlash_idem]
  obtain ⟨mm, hr⟩ := hrep.route_of_dispatch hn h
  rcases C01.C01_sound_partial _ _ _ _ _ hr with ⟨_, hi, hsf, _⟩ | ⟨hm, hmem, _, _⟩
  · simp only [entryOf] at hi hsf
    rw [hn'] at hi hsf
    exact C20_decomposition_unique (norm r.path).1 vals vs _ (normAux_anyLast _ _)
      (normAux_paramThenSlash _ _) hi hinst hsf (validVals_slashFree hvalid)
  · obtain ⟨r', hr', hre⟩ := List.mem_map.mp hmem
    obtain ⟨h1, _, h2, _⟩ := mkEntry_eq_entryOf hre
    exact absurd (h2.trans hm) (hrec r' (dedupLast_subset rs r' hr') h1)

/-- **C20_roundtrip_values on the tree model** — in ANY table of representable patterns (re-registrations
    allowed): whenever the tree model dispatches the URL reversed from route `r` with valid values `vs`
    to a record carrying `r`'s pattern — and the handler that runs is not that of a RouteNotFound route,
    which sees cleared values by design — the handler sees exactly `vs`. -/
theorem C20_roundtrip_values_tree (rs : List Route) (hok : okTable rs = true) (r : Route)
    (vs vals : List Str)
    (hstar : starLast (normalizeSlash r.path) = true) (hvalid : ValidVals (norm r.path).1 vs)
    (n : Nat) (hn : maxParam rs ≤ n) (rm : RouteMethod)
    (h : find (build rs) r.method (reverse r.path vs) (List.replicate n []) = .dispatch rm vals)
    (hsame : rm.ppath = normalizeSlash r.path)
    (hrec : ∀ r' ∈ rs, r'.hid = rm.hid → r'.method ≠ routeNotFound) : vals = vs :=
  roundtrip_values_of_represents (represents_ok hok) r vs vals hstar hvalid hn rm h hsame hrec

theorem matches_of_inst : ∀ (ts : List Tok) (vs : List Str) (p : Str),
    paramThenSlash ts = true → ValidVals ts vs → inst ts vs = some p → C02.Matches ts p := by
  intro ts
  induction ts with
  | nil => exact fun vs p _ _ h => (inst_nil_iff.mp h).2
  | cons t ts ih =>
    intro vs p hps hv h
    cases t with
    | lit c =>
      obtain ⟨q, hq, rfl⟩ := inst_lit_iff.mp h
      exact ⟨q, rfl, ih vs q hps hv hq⟩
    | any => trivial
    | param =>
      obtain ⟨v, vs, q, rfl, hq, rfl⟩ := (inst_marker_iff (.inl rfl)).mp h
      obtain ⟨hne, hns, hv⟩ := hv
      refine ⟨fun h0 => hne (List.append_eq_nil_iff.mp h0).1, ?_⟩
      rw [takeWhile_value hps hq hns, List.drop_left]
      simp only [paramThenSlash, Bool.and_eq_true] at hps
      exact ih vs q hps.2 hv hq

example : ∃ rm, find (build [⟨"GET".toList, "/users/:id/files/*".toList, 7⟩]) "GET".toList
      (reverse "/users/:id/files/*".toList ["42".toList, "a/b.txt".toList]) [[], []]
        = .dispatch rm ["42".toList, "a/b.txt".toList] ∧ rm.hid = 7 := by
  obtain ⟨rm, h, hh, _⟩ := C20_roundtrip_single_tree ⟨"GET".toList, "/users/:id/files/*".toList, 7⟩
    (by unfold routeNotFound; lit_chars; decide +kernel) ["42".toList, "a/b.txt".toList]
    (by lit_chars; decide +kernel) (by lit_chars; decide +kernel)
    (by lit_chars; simp [norm, normAux, Router.normalizeSlash, ValidVals]) 2 (by lit_chars; decide +kernel)
  exact ⟨rm, h, hh⟩

end C20
