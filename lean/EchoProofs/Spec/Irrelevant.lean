import EchoModel.RouterSpec
import EchoProofs.Spec.Fuel
/-!
# Residuals that cannot matter for a given path

A residual whose remaining tokens are all literal and spell a text other than the rest of the request path, or are a
literal text that is not a prefix of the rest of the path followed by `*`, never contributes to the reference search
for that path: not to a match, not to the remembered best position, not even to the "does some pattern continue
here" tests — wherever it stands in the residual set (`search_irrelevant`, `route_drop`).
-/
namespace Router.Spec
open Router (Str)

/-- the remaining tokens `ts` cannot match `path`, and this is decided by literal text alone: `ts` spells a text
    different from `path`, or a text that is not a prefix of `path` followed by the wildcard -/
def Irr (path : Str) (ts : List Tok) : Prop :=
  (∃ s : Str, ts = s.map Tok.lit ∧ s ≠ path) ∨ (∃ s : Str, ts = s.map Tok.lit ++ [Tok.any] ∧ ¬ s <+: path)

/-- `r'` is `r` with some residuals that are irrelevant for `path` left out -/
inductive Drop (path : Str) : R → R → Prop
  | nil : Drop path [] []
  | keep (x : List Tok × Entry) {r r' : R} : Drop path r r' → Drop path (x :: r) (x :: r')
  | drop {x : List Tok × Entry} {r r' : R} : Irr path x.1 → Drop path r r' → Drop path (x :: r) r'

theorem Drop.refl (path : Str) : ∀ r : R, Drop path r r
  | [] => .nil
  | x :: r => .keep x (Drop.refl path r)

theorem Drop.append {path : Str} {a a' b b' : R} (ha : Drop path a a') (hb : Drop path b b') :
    Drop path (a ++ b) (a' ++ b') := by
  induction ha with
  | nil => exact hb
  | keep x _ ih => exact .keep x ih
  | drop hx _ ih => exact .drop hx ih

theorem Drop.of_irr {path : Str} : ∀ {c : R}, (∀ x ∈ c, Irr path x.1) → Drop path c []
  | [], _ => .nil
  | x :: _, h => .drop (h x List.mem_cons_self) (Drop.of_irr fun y hy => h y (List.mem_cons_of_mem _ hy))

theorem Drop.trans {path : Str} {a b c : R} (h1 : Drop path a b) (h2 : Drop path b c) : Drop path a c := by
  induction h1 generalizing c with
  | nil => exact h2
  | keep x _ ih =>
    cases h2 with
    | keep _ h => exact .keep x (ih h)
    | drop hx h => exact .drop hx (ih h)
  | drop hx _ ih => exact .drop hx (ih h2)

theorem Drop.nil_left {path : Str} {r' : R} (h : Drop path [] r') : r' = [] := by
  cases h; rfl

theorem Drop.bound_le {path : Str} {r r' : R} (h : Drop path r r') : bound r' ≤ bound r := by
  induction h with
  | nil => exact Nat.le_refl _
  | keep x _ ih => simp only [bound, List.map_cons, List.sum_cons] at ih ⊢; omega
  | drop _ _ ih => simp only [bound, List.map_cons, List.sum_cons] at ih ⊢; omega

theorem Drop.filter {path : Str} (keep : List Tok × Entry → Bool) : ∀ (r : R),
    (∀ x ∈ r, keep x = false → Irr path x.1) → Drop path r (r.filter keep)
  | [], _ => .nil
  | x :: r, h => by
    have ih := Drop.filter keep r (fun y hy => h y (List.mem_cons_of_mem _ hy))
    cases hk : keep x with
    | true => simp only [List.filter_cons, hk, if_true]; exact .keep x ih
    | false =>
      simp only [List.filter_cons, hk, Bool.false_eq_true, if_false]
      exact .drop (h x List.mem_cons_self hk) ih

theorem Irr.ne_nil {ts : List Tok} (h : Irr [] ts) : ts ≠ [] := by
  rintro rfl
  rcases h with ⟨s, hs, hne⟩ | ⟨s, hs, _⟩
  · cases s with
    | nil => exact hne rfl
    | cons _ _ => simp at hs
  · simp at hs

theorem Irr.head_lit {path : Str} {t : Tok} {ts : List Tok} (h : Irr path (t :: ts)) : ∃ c, t = .lit c := by
  rcases h with ⟨s, hs, _⟩ | ⟨s, hs, hp⟩
  · cases s with
    | nil => simp at hs
    | cons c s => simp only [List.map_cons, List.cons.injEq] at hs; exact ⟨c, hs.1⟩
  · cases s with
    | nil => exact absurd List.nil_prefix hp
    | cons c s => simp only [List.map_cons, List.cons_append, List.cons.injEq] at hs; exact ⟨c, hs.1⟩

theorem Irr.tail {c : Char} {rest : Str} {ts : List Tok} (h : Irr (c :: rest) (.lit c :: ts)) : Irr rest ts := by
  rcases h with ⟨s, hs, hne⟩ | ⟨s, hs, hp⟩
  · cases s with
    | nil => simp at hs
    | cons d s =>
      simp only [List.map_cons, List.cons.injEq, Tok.lit.injEq] at hs
      obtain ⟨hd, rfl⟩ := hs
      subst hd
      exact Or.inl ⟨s, rfl, fun h => hne (by rw [h])⟩
  · cases s with
    | nil => exact absurd List.nil_prefix hp
    | cons d s =>
      simp only [List.map_cons, List.cons_append, List.cons.injEq, Tok.lit.injEq] at hs
      obtain ⟨hd, rfl⟩ := hs
      subst hd
      exact Or.inr ⟨s, rfl, fun h => hp (List.cons_prefix_cons.mpr ⟨rfl, h⟩)⟩

theorem deriv_cons_eq (t : Tok) (ts : List Tok) (e : Entry) (r : R) :
    deriv t ((t :: ts, e) :: r) = (ts, e) :: deriv t r := by
  simp [deriv]

theorem deriv_cons_ne {t t' : Tok} (h : t' ≠ t) (ts : List Tok) (e : Entry) (r : R) :
    deriv t ((t' :: ts, e) :: r) = deriv t r := by
  simp [deriv, h]

theorem deriv_cons_nil (t : Tok) (e : Entry) (r : R) : deriv t (([], e) :: r) = deriv t r := by
  simp [deriv]

theorem Drop.deriv_lit {c : Char} {rest : Str} {r r' : R} (h : Drop (c :: rest) r r') :
    Drop rest (deriv (.lit c) r) (deriv (.lit c) r') := by
  induction h with
  | nil => exact .nil
  | keep x _ ih =>
    obtain ⟨ts, e⟩ := x
    cases ts with
    | nil => rw [deriv_cons_nil, deriv_cons_nil]; exact ih
    | cons t ts =>
      by_cases ht : t = .lit c
      · subst ht; rw [deriv_cons_eq, deriv_cons_eq]; exact .keep _ ih
      · rw [deriv_cons_ne ht, deriv_cons_ne ht]; exact ih
  | @drop x _ _ hx _ ih =>
    obtain ⟨ts, e⟩ := x
    cases ts with
    | nil => rw [deriv_cons_nil]; exact ih
    | cons t ts =>
      by_cases ht : t = .lit c
      · subst ht; rw [deriv_cons_eq]; exact .drop (Irr.tail hx) ih
      · rw [deriv_cons_ne ht]; exact ih

/-- the irrelevant residuals do not continue with a marker -/
theorem Drop.deriv_marker {path : Str} {t : Tok} (ht : ∀ c, t ≠ .lit c) {r r' : R} (h : Drop path r r') :
    deriv t r = deriv t r' := by
  induction h with
  | nil => rfl
  | keep x _ ih =>
    obtain ⟨ts, e⟩ := x
    cases ts with
    | nil => rw [deriv_cons_nil, deriv_cons_nil]; exact ih
    | cons t' ts =>
      by_cases h' : t' = t
      · subst h'; rw [deriv_cons_eq, deriv_cons_eq, ih]
      · rw [deriv_cons_ne h', deriv_cons_ne h']; exact ih
  | @drop x _ _ hx _ ih =>
    obtain ⟨ts, e⟩ := x
    cases ts with
    | nil => rw [deriv_cons_nil]; exact ih
    | cons t' ts =>
      obtain ⟨c, hc⟩ := Irr.head_lit hx
      have h' : t' ≠ t := fun h => ht c (h ▸ hc)
      rw [deriv_cons_ne h']; exact ih

theorem Drop.ends_eq {r r' : R} (h : Drop [] r r') : ends r = ends r' := by
  induction h with
  | nil => rfl
  | keep x _ ih => simp only [ends, List.filterMap_cons] at ih ⊢; rw [ih]
  | @drop x _ _ hx _ ih =>
    obtain ⟨ts, e⟩ := x
    cases ts with
    | nil => exact absurd rfl (Irr.ne_nil hx)
    | cons t ts => simp only [ends, List.filterMap_cons, List.isEmpty_cons] at ih ⊢; exact ih

theorem search_empty (m : Str) : ∀ (fuel : Nat) (path : Str) (vals : List Str) (best : Best),
    search m fuel [] path vals best = (.miss, best)
  | 0, _, _, _ => rfl
  | fuel + 1, path, vals, best => by
    have he : stepEnd m (ends []) path best = (none, best) := by
      simp only [stepEnd, ends, List.filterMap_nil, isHandler, List.any_nil, findNF, List.find?_nil]
      split <;> simp
    simp only [search, he, litStep, paramStep, anyStep, deriv, List.filterMap_nil, List.isEmpty_nil, if_true,
      or_true]
    cases path <;> rfl

/-- the literal step without its "does some pattern continue with this byte" test (the search in the empty residual
    set misses and remembers nothing) -/
theorem litStep_search (m : Str) (fuel : Nat) (r : R) (path : Str) (vals : List Str) (best : Best) :
    litStep (fun r' rest b => search m fuel r' rest vals b) r path best =
      match path with
      | c :: rest => search m fuel (deriv (.lit c) r) rest vals best
      | [] => (.miss, best) := by
  cases path with
  | nil => rfl
  | cons c rest =>
    simp only [litStep]
    cases hd : deriv (.lit c) r with
    | nil => simp only [List.isEmpty_nil, if_true, search_empty]
    | cons _ _ => simp only [List.isEmpty_cons, Bool.false_eq_true, if_false]

/-- **residuals that are irrelevant for the path can be left out of the residual set, wherever they stand**: the
    search gives the same result and remembers the same best position -/
theorem search_irrelevant (m : Str) : ∀ (fuel : Nat) {r r' : R} (path : Str) (vals : List Str) (best : Best),
    Drop path r r' → search m fuel r path vals best = search m fuel r' path vals best := by
  intro fuel
  induction fuel with
  | zero => intro r r' path vals best _; rfl
  | succ fuel ih =>
    intro r r' path vals best h
    have hE : stepEnd m (ends r) path best = stepEnd m (ends r') path best := by
      cases path with
      | nil => rw [Drop.ends_eq h]
      | cons c rest => simp only [stepEnd, List.isEmpty_cons, Bool.false_eq_true, if_false]
    have hL : ∀ b, litStep (fun r' rest b => search m fuel r' rest vals b) r path b =
        litStep (fun r' rest b => search m fuel r' rest vals b) r' path b := by
      intro b
      rw [litStep_search, litStep_search]
      cases path with
      | nil => rfl
      | cons c rest => exact ih rest vals b (Drop.deriv_lit h)
    have hP : deriv .param r = deriv .param r' := Drop.deriv_marker (fun c hc => by cases hc) h
    have hA : deriv .any r = deriv .any r' := Drop.deriv_marker (fun c hc => by cases hc) h
    simp only [search, hE, hL, paramStep, anyStep, hP, hA]

/-- the two sides use different fuel: `search_fuel_bound` -/
theorem route_drop {es es' : List Entry} {path : Str} (h : Drop path (initial es) (initial es')) (m : Str) :
    route es m path = route es' m path := by
  unfold route
  rw [search_irrelevant m _ path [] none h]
  rw [search_fuel_bound m (bound (initial es) + 1) (initial es') path [] none
    (Nat.lt_succ_of_le (Drop.bound_le h))]

end Router.Spec
