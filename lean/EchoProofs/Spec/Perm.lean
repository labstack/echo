import EchoModel.RouterSpec
/-!
# The reference search does not depend on the order of the route table

`search_perm`: permuting the residual set (and the remembered best entries) does not change
the result, provided no two entries share tokens and method (`Uniq`).
-/
namespace Router.Spec
open Router

/-- no two residuals with the same remaining tokens and the same method -/
def Uniq (r : R) : Prop :=
  r.Pairwise (fun a b => ¬ (a.1 = b.1 ∧ a.2.method = b.2.method))

def UniqE (es : List Entry) : Prop := es.Pairwise (fun a b => a.method ≠ b.method)

theorem find?_perm_unique {α} (p : α → Bool) {l l' : List α} (h : l.Perm l')
    (hu : l.Pairwise (fun a b => ¬ (p a = true ∧ p b = true))) : l.find? p = l'.find? p := by
  induction h with
  | nil => rfl
  | cons x _ ih =>
    rw [List.pairwise_cons] at hu
    simp only [List.find?_cons]
    split
    · rfl
    · exact ih hu.2
  | swap x y l =>
    rw [List.pairwise_cons, List.pairwise_cons] at hu
    have hxy := hu.1 x (by simp)
    simp only [List.find?_cons]
    cases hx : p x <;> cases hy : p y <;> simp_all
  | trans h₁ _ ih₁ ih₂ =>
    rw [ih₁ hu]
    exact ih₂ (h₁.pairwise hu (fun h => by intro ⟨a, b⟩; exact h ⟨b, a⟩))

theorem Uniq.perm {r r' : R} (h : r.Perm r') (hu : Uniq r) : Uniq r' :=
  h.pairwise hu (fun hxy => by intro ⟨a, b⟩; exact hxy ⟨a.symm, b.symm⟩)

theorem UniqE.perm {a b : List Entry} (h : a.Perm b) (hu : UniqE a) : UniqE b :=
  h.pairwise hu (fun hxy => by intro e; exact hxy e.symm)

theorem deriv_perm (t : Tok) {r r' : R} (h : r.Perm r') : (deriv t r).Perm (deriv t r') :=
  h.filterMap _

theorem ends_perm {r r' : R} (h : r.Perm r') : (ends r).Perm (ends r') := h.filterMap _

theorem uniq_deriv (t : Tok) {r : R} (hu : Uniq r) : Uniq (deriv t r) := by
  unfold Uniq deriv
  refine List.Pairwise.filterMap _ ?_ hu
  intro a a' hR b hb b' hb'
  obtain ⟨ts, e⟩ := a
  obtain ⟨ts', e'⟩ := a'
  cases ts with
  | nil => simp at hb
  | cons t1 rest =>
    cases ts' with
    | nil => simp at hb'
    | cons t2 rest' =>
      by_cases h1 : t1 = t <;> by_cases h2 : t2 = t <;> simp [h1, h2] at hb hb'
      subst hb hb' h1 h2
      intro ⟨hrest, hm⟩
      exact hR ⟨by simp at hrest; simp [hrest], hm⟩

theorem uniq_ends {r : R} (hu : Uniq r) : UniqE (ends r) := by
  unfold Uniq at hu
  unfold UniqE Spec.ends
  refine List.Pairwise.filterMap _ ?_ hu
  intro a a' hR b hb b' hb'
  obtain ⟨ts, e⟩ := a
  obtain ⟨ts', e'⟩ := a'
  cases ts with
  | cons _ _ => simp at hb
  | nil =>
    cases ts' with
    | cons _ _ => simp at hb'
    | nil =>
      simp at hb hb'
      subst hb hb'
      intro hm
      exact hR ⟨rfl, hm⟩

theorem isHandler_perm {a b : List Entry} (h : a.Perm b) : isHandler a = isHandler b :=
  h.any_eq

theorem find?_method_perm {a b : List Entry} (h : a.Perm b) (hu : UniqE a) (m : Str) :
    a.find? (·.method = m) = b.find? (·.method = m) := by
  apply find?_perm_unique _ h
  refine hu.imp ?_
  intro x y hne ⟨hx, hy⟩
  simp only [decide_eq_true_eq] at hx hy
  exact hne (hx.trans hy.symm)

theorem findM_perm {a b : List Entry} (h : a.Perm b) (hu : UniqE a) (m : Str) :
    findM a m = findM b m := by
  unfold findM
  rw [find?_method_perm h hu]

theorem findNF_perm {a b : List Entry} (h : a.Perm b) (hu : UniqE a) : findNF a = findNF b :=
  find?_method_perm h hu _

/-- the remembered best entries agree up to order (and have unique methods) -/
def BRel : Best → Best → Prop
  | none, none => True
  | some a, some b => a.Perm b ∧ UniqE a
  | _, _ => False

theorem BRel.isNone {b b' : Best} (h : BRel b b') : b.isNone = b'.isNone := by
  cases b <;> cases b' <;> simp_all [BRel]

/-- results agree: same hit (entry and values) and best entries up to order -/
def RRel (x y : Res × Best) : Prop := x.1 = y.1 ∧ BRel x.2 y.2

theorem stepEnd_perm (m : Str) {en en' : List Entry} (h : en.Perm en') (hu : UniqE en)
    (path : Str) {best best' : Best} (hb : BRel best best') :
    (stepEnd m en path best).1 = (stepEnd m en' path best').1 ∧
    BRel (stepEnd m en path best).2 (stepEnd m en' path best').2 := by
  unfold stepEnd
  rw [← isHandler_perm h, ← findM_perm h hu, ← findNF_perm h hu, ← hb.isNone]
  split
  · split
    · refine ⟨rfl, ?_⟩
      split
      · exact ⟨h, hu⟩
      · exact hb
    · exact ⟨rfl, hb⟩
  · exact ⟨rfl, hb⟩

theorem stepAny_perm (m : Str) {ea ea' : List Entry} (h : ea.Perm ea') (hu : UniqE ea)
    (path : Str) (vals : List Str) {best best' : Best} (hb : BRel best best') :
    RRel (stepAny m ea path vals best) (stepAny m ea' path vals best') := by
  unfold stepAny RRel
  rw [← findM_perm h hu, ← findNF_perm h hu, ← hb.isNone]
  have hb2 : BRel (if best.isNone then some ea else best) (if best.isNone then some ea' else best') := by
    split
    · exact ⟨h, hu⟩
    · exact hb
  cases findM ea m with
  | some e => exact ⟨rfl, hb⟩
  | none =>
    simp only
    cases findNF ea with
    | some e => exact ⟨rfl, hb2⟩
    | none => exact ⟨rfl, hb2⟩

theorem orElse_rel {x x' : Res × Best} {k k' : Best → Res × Best} (hx : RRel x x')
    (hk : ∀ {b b' : Best}, BRel b b' → RRel (k b) (k' b')) : RRel (orElse x k) (orElse x' k') := by
  obtain ⟨res, b⟩ := x
  obtain ⟨res', b'⟩ := x'
  obtain ⟨hr, hb⟩ := hx
  simp only at hr hb
  subst hr
  cases res with
  | hit e v => exact ⟨rfl, hb⟩
  | miss => exact hk hb

theorem search_perm (m : Str) (fuel : Nat) : ∀ {r r' : R}, r.Perm r' → Uniq r →
    ∀ (path : Str) (vals : List Str) {best best' : Best}, BRel best best' →
      RRel (search m fuel r path vals best) (search m fuel r' path vals best') := by
  induction fuel with
  | zero => intro r r' _ _ path vals best best' hb; exact ⟨rfl, hb⟩
  | succ fuel ih =>
    intro r r' h hu path vals best best' hb
    simp only [search]
    have hend := stepEnd_perm m (ends_perm h) (uniq_ends hu) path hb
    generalize stepEnd m (ends r) path best = s1 at hend
    generalize stepEnd m (ends r') path best' = s1' at hend
    obtain ⟨e1, b1⟩ := s1
    obtain ⟨e1', b1'⟩ := s1'
    simp only at hend
    obtain ⟨he, hb1⟩ := hend
    subst he
    cases e1 with
    | some e => exact ⟨rfl, hb1⟩
    | none =>
      simp only
      apply orElse_rel
      · -- (2)
        unfold litStep
        cases path with
        | nil => exact ⟨rfl, hb1⟩
        | cons c rest =>
          simp only
          rw [← (deriv_perm (.lit c) h).isEmpty_eq]
          split
          · exact ⟨rfl, hb1⟩
          · exact ih (deriv_perm _ h) (uniq_deriv _ hu) rest vals hb1
      · intro b2 b2' hb2
        apply orElse_rel
        · -- (3)
          unfold paramStep
          rw [← (deriv_perm .param h).isEmpty_eq, ← (deriv_perm .param h).all_eq]
          split
          · exact ⟨rfl, hb2⟩
          · exact ih (deriv_perm _ h) (uniq_deriv _ hu) _ _ hb2
        · intro b3 b3' hb3
          unfold anyStep
          rw [← (deriv_perm .any h).isEmpty_eq]
          split
          · exact ⟨rfl, hb3⟩
          · exact stepAny_perm m (ends_perm (deriv_perm _ h)) (uniq_ends (uniq_deriv _ hu)) path vals hb3

end Router.Spec
