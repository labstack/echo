import EchoProofs.C02
import EchoProofs.C03
/-!
# Catch-all not-found routes cover their prefix (layer L1)

A `RouteNotFound` route with pattern `s*` (literal text, then the wildcard) makes the reference search
dispatch EVERY request whose path starts with `s`, whatever the method: the literal descent follows `s`
(the derivative always contains the entry), and at the end of `s` the wildcard step finds either a real
handler for the method or the not-found record (`search_nf_any`).  A `RouteNotFound` route with the
literal pattern `s` makes the request for exactly `s` end in a dispatch as well: the end position is
reached with no best position recorded, so either a handler hits, or the position is remembered and
`finish` dispatches to its not-found record (`search_nf_exact`).  `route_covered` is the corollary for
`route`: such requests never get the router's own 404 / 405 / OPTIONS answer.
-/
namespace Router.Spec
open Router (Str routeNotFound)
open C02 (IsHit orElse_isHit_left orElse_isHit_right)

theorem findNF_isSome_of_mem {es : List Entry} {e : Entry} (he : e ∈ es) (hm : e.method = routeNotFound) :
    (findNF es).isSome = true := by
  unfold findNF
  rw [List.find?_isSome]
  exact ⟨e, he, by simpa using hm⟩

theorem anyStep_nf_hit (m : Str) (r : R) (path : Str) (vals : List Str) (best : Best) (e : Entry)
    (hmem : ([Tok.any], e) ∈ r) (hm : e.method = routeNotFound) : IsHit (anyStep m r path vals best) := by
  unfold anyStep
  simp only [deriv_ne_nil_of_mem hmem, Bool.false_eq_true, if_false]
  have he : e ∈ ends (deriv .any r) := mem_ends.mpr (mem_deriv.mpr hmem)
  unfold stepAny
  cases hf : findM (ends (deriv .any r)) m with
  | some e' => exact ⟨e', _, rfl⟩
  | none =>
    simp only
    have hs := findNF_isSome_of_mem he hm
    cases hn : findNF (ends (deriv .any r)) with
    | some e' => exact ⟨e', _, rfl⟩
    | none => rw [hn] at hs; simp at hs

theorem search_nf_any (m : Str) : ∀ (fuel : Nat) (r : R) (path : Str) (vals : List Str) (best : Best)
    (s : Str) (e : Entry), (s.map Tok.lit ++ [.any], e) ∈ r → e.method = routeNotFound → AnyLastR r →
    s <+: path → s.length + 1 < fuel → IsHit (search m fuel r path vals best) := by
  intro fuel
  induction fuel with
  | zero => intro r path vals best s e _ _ _ _ h; omega
  | succ fuel ih =>
    intro r path vals best s e hmem hm hal hpre hlen
    simp only [search]
    generalize stepEnd m (ends r) path best = s1
    obtain ⟨e1, b1⟩ := s1
    cases e1 with
    | some e1 => exact ⟨e1, vals, rfl⟩
    | none =>
      simp only
      cases s with
      | nil =>
        apply orElse_isHit_right
        intro b2
        apply orElse_isHit_right
        intro b3
        exact anyStep_nf_hit m r path vals b3 e (by simpa using hmem) hm
      | cons c s' =>
        obtain ⟨q, rfl⟩ := hpre
        apply orElse_isHit_left
        simp only [List.map_cons, List.cons_append] at hmem
        simp only [List.cons_append, litStep, deriv_ne_nil_of_mem hmem, Bool.false_eq_true, if_false]
        exact ih _ _ _ _ s' e (mem_deriv.mpr hmem) hm (anyLastR_deriv hal) (List.prefix_append _ _)
          (by simp only [List.length_cons] at hlen; omega)

/-- the outcome "hit, or miss with a remembered position that has a not-found record" -/
def Covered (x : Res × Best) : Prop :=
  IsHit x ∨ (x.1 = .miss ∧ ∃ b, x.2 = some b ∧ (findNF b).isSome = true)

theorem covered_of_best {x : Res × Best} {b : List Entry} (hb : x.2 = some b) (hnf : (findNF b).isSome = true) :
    Covered x := by
  obtain ⟨res, bx⟩ := x
  simp only at hb
  subst hb
  cases res with
  | hit e v => exact Or.inl ⟨e, v, rfl⟩
  | miss => exact Or.inr ⟨rfl, b, rfl, hnf⟩

theorem search_nf_exact (m : Str) : ∀ (fuel : Nat) (r : R) (s : Str) (vals : List Str) (e : Entry),
    (s.map Tok.lit, e) ∈ r → e.method = routeNotFound → s.length < fuel →
    Covered (search m fuel r s vals none) := by
  intro fuel
  induction fuel with
  | zero => intro r s vals e _ _ h; omega
  | succ fuel ih =>
    intro r s vals e hmem hm hlen
    simp only [search]
    -- the later alternatives keep a position that is remembered
    have hrest := fun (path : Str) (b : List Entry) =>
      (Post.orElse (paramStep_post (search_post m fuel) r path vals (some b)) fun _ => anyStep_post ..).best.of_some
    cases s with
    | nil =>
      have he : e ∈ ends r := mem_ends.mpr (by simpa using hmem)
      have hnf := findNF_isSome_of_mem he hm
      unfold stepEnd
      simp only [List.isEmpty_nil, if_true]
      by_cases hh : isHandler (ends r) = true
      · simp only [hh, if_true, Option.isNone_none]
        cases hf : findM (ends r) m with
        | some e' => exact Or.inl ⟨e', vals, rfl⟩
        | none =>
          simp only
          exact covered_of_best (hrest [] (ends r)) hnf
      · simp only [hh, Bool.false_eq_true, if_false]
        cases hn : findNF (ends r) with
        | some e' => exact Or.inl ⟨e', vals, rfl⟩
        | none => rw [hn] at hnf; simp at hnf
    | cons c s' =>
      simp only [List.map_cons] at hmem
      have hstep : stepEnd m (ends r) (c :: s') none = (none, none) := by
        simp [stepEnd]
      rw [hstep]
      simp only [litStep, deriv_ne_nil_of_mem hmem, Bool.false_eq_true, if_false]
      have hrec := ih (deriv (.lit c) r) s' vals e (mem_deriv.mpr hmem) hm
        (by simp only [List.length_cons] at hlen; omega)
      generalize search m fuel (deriv (.lit c) r) s' vals none = x at hrec
      rcases hrec with ⟨e', v, hx⟩ | ⟨hx, b, hb, hnf⟩
      · exact Or.inl (orElse_isHit_left ⟨e', v, hx⟩)
      · obtain ⟨res, bx⟩ := x
        simp only at hx hb
        subst hx hb
        exact covered_of_best (hrest _ b) hnf

/-- a request under a catch-all not-found route is always dispatched to a registered route, whatever
    its method: the reference router never answers it with its own 404, 405 or OPTIONS response -/
theorem route_covered (es : List Entry) (hal : ∀ e ∈ es, anyLast e.toks = true) (e : Entry) (he : e ∈ es)
    (hm : e.method = routeNotFound) (s path : Str)
    (h : (e.toks = s.map Tok.lit ++ [.any] ∧ s <+: path) ∨ (e.toks = s.map Tok.lit ∧ path = s)) (m : Str) :
    ∃ e' vals, route es m path = .dispatch e' vals := by
  have hmem : (e.toks, e) ∈ initial es := List.mem_map.mpr ⟨e, he, rfl⟩
  have hb := bound_ge_of_mem hmem
  rcases h with ⟨ht, hpre⟩ | ⟨ht, rfl⟩
  · rw [ht] at hmem hb
    obtain ⟨e', v, hx⟩ := search_nf_any m (bound (initial es) + 1) (initial es) path [] none s e hmem hm
      (anyLastR_initial hal) hpre (by simp at hb; omega)
    exact ⟨e', v, finish_hit hx⟩
  · rw [ht] at hmem hb
    unfold route
    have hc := search_nf_exact m (bound (initial es) + 1) (initial es) path [] e hmem hm (by simp at hb; omega)
    generalize search m (bound (initial es) + 1) (initial es) path [] none = x at hc
    rcases hc with ⟨e', v, hx⟩ | ⟨hx, b, hb', hnf⟩
    · exact ⟨e', v, finish_hit hx⟩
    · obtain ⟨res, bx⟩ := x
      cases hx
      cases hb'
      obtain ⟨e', hn⟩ := Option.isSome_iff_exists.mp hnf
      exact ⟨e', _, C03.C03_custom_404_wins b e' hn⟩

end Router.Spec
