import EchoModel.RouterSpec
import EchoProofs.Spec.Basics
/-!
# The fuel of the reference search is irrelevant once it exceeds the longest residual

`DepthLe r d`: no residual of `r` has more than `d` tokens.  Every recursive call of `search` works on a
derivative, whose residuals are one token shorter, so any two fuels above `d` give the
same result (`search_fuel`).  This lets later proofs talk about "enough fuel" only.
-/
namespace Router.Spec
open Router (Str)

/-- every residual has at most `d` tokens -/
def DepthLe (r : R) (d : Nat) : Prop := ∀ x ∈ r, x.1.length ≤ d

theorem depthLe_deriv {r : R} {d : Nat} (t : Tok) (h : DepthLe r (d + 1)) : DepthLe (deriv t r) d := by
  intro ⟨ts, e⟩ hx
  have := h _ (mem_deriv.mp hx)
  simpa using this

theorem depthLe_zero_deriv {r : R} (t : Tok) (h : DepthLe r 0) : deriv t r = [] := by
  cases hd : deriv t r with
  | nil => rfl
  | cons x xs =>
    obtain ⟨ts, e⟩ := x
    have hm : (ts, e) ∈ deriv t r := by rw [hd]; simp
    have := h _ (mem_deriv.mp hm)
    simp at this

theorem depthLe_mono {r : R} {d d' : Nat} (h : DepthLe r d) (hle : d ≤ d') : DepthLe r d' :=
  fun x hx => Nat.le_trans (h x hx) hle

theorem depthLe_bound (r : R) : DepthLe r (bound r) := fun ⟨_, _⟩ hx => bound_ge_of_mem hx

/-- **fuel irrelevance** -/
theorem search_fuel (m : Str) : ∀ (d : Nat) (f f' : Nat) (r : R) (path : Str) (vals : List Str) (best : Best),
    DepthLe r d → d < f → d < f' → search m f r path vals best = search m f' r path vals best := by
  intro d
  induction d with
  | zero =>
    intro f f' r path vals best hd hf hf'
    obtain ⟨f, rfl⟩ : ∃ k, f = k + 1 := ⟨f - 1, by omega⟩
    obtain ⟨f', rfl⟩ : ∃ k, f' = k + 1 := ⟨f' - 1, by omega⟩
    simp only [search, litStep, paramStep, anyStep, depthLe_zero_deriv _ hd, List.isEmpty_nil, if_true,
      or_true]
  | succ d ih =>
    intro f f' r path vals best hd hf hf'
    obtain ⟨f, rfl⟩ : ∃ k, f = k + 1 := ⟨f - 1, by omega⟩
    obtain ⟨f', rfl⟩ : ∃ k, f' = k + 1 := ⟨f' - 1, by omega⟩
    have hrec : ∀ (t : Tok) (p : Str) (v : List Str) (b : Best),
        search m f (deriv t r) p v b = search m f' (deriv t r) p v b :=
      fun t p v b => ih f f' (deriv t r) p v b (depthLe_deriv t hd) (by omega) (by omega)
    simp only [search, litStep, paramStep, hrec]

/-- any two fuels above the bound agree; in particular `route` could use any such fuel -/
theorem search_fuel_bound (m : Str) (f : Nat) (r : R) (path : Str) (vals : List Str) (best : Best)
    (hf : bound r < f) : search m f r path vals best = search m (bound r + 1) r path vals best :=
  search_fuel m (bound r) f (bound r + 1) r path vals best (depthLe_bound r) hf (by omega)

end Router.Spec
