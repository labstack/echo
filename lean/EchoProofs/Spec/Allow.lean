import EchoModel.RouterSpec
import EchoProofs.Spec.Sound
/-!
# Two requests that differ only in the method

The search inspects the method only at the positions where it also records `best`.  So the
searches for two methods `m` and `m'` run in lock step until the first such position `X`:
if the search for `m` fails altogether, then `best = X` for it, and the search for `m'`
either hits right at `X` (when `X` has a route for `m'`) or goes on exactly like the one for `m`
(`search_sim`).  This is what makes the Allow header truthful and independent of the method.
-/
namespace Router.Spec
open Router (Str routeNotFound)

theorem search_best_some (m : Str) : ∀ (fuel : Nat) (r : R) (path : Str) (vals : List Str)
    (b : List Entry), (search m fuel r path vals (some b)).2 = some b :=
  fun fuel r path vals b => (search_post m fuel r path vals (some b)).best.of_some

/-- relation between the results of the searches for `m` (left, assumed to fail) and `m'` -/
def Sim (m' : Str) (x x' : Res × Best) : Prop :=
  x.1 = .miss →
    (x.2 = none → x'.1 = .miss ∧ x'.2 = none) ∧
    (∀ b, x.2 = some b →
      ((∃ e ∈ b, e.method = m') → m' ≠ routeNotFound → ∃ e' v, x'.1 = .hit e' v ∧ e'.method = m') ∧
      (x'.1 = .miss → x'.2 = some b))

/-- both runs pass a position `X` where the left one finds no route for `m` and records `X`: the left run, if it
    fails, ends with `X`; so does the right one, unless `X` has a route for `m'`, which it then hits -/
theorem Sim.of_recorded {m' : Str} {X : List Entry} {x x' : Res × Best}
    (hx : x.1 = .miss → x.2 = some X) (hx' : x'.1 = .miss → x'.2 = some X)
    (hhit : (∃ e ∈ X, e.method = m') → m' ≠ routeNotFound → ∃ e' v, x'.1 = .hit e' v ∧ e'.method = m') :
    Sim m' x x' := by
  intro hmiss
  rw [hx hmiss]
  refine ⟨nofun, fun b hb => ?_⟩
  cases hb
  exact ⟨hhit, hx'⟩

theorem orElse_sim {m' : Str} {x x' : Res × Best} {k k' : Best → Res × Best}
    (hx : Sim m' x x')
    (hk : ∀ b, (k (some b)).2 = some b) (hk' : ∀ b, (k' (some b)).2 = some b)
    (hnone : Sim m' (k none) (k' none)) : Sim m' (orElse x k) (orElse x' k') := by
  obtain ⟨res, bx⟩ := x
  obtain ⟨res', bx'⟩ := x'
  cases res with
  | hit e v => exact nofun
  | miss =>
    cases bx with
    | none =>
      obtain ⟨hr', hb'⟩ := (hx rfl).1 rfl
      cases hr'
      cases hb'
      exact hnone
    | some b =>
      obtain ⟨hhit, hb'⟩ := (hx rfl).2 b rfl
      refine .of_recorded (fun _ => hk b) ?_ fun hex hne => ?_
      · cases res' with
        | hit e v => exact nofun
        | miss =>
          cases hb' rfl
          exact fun _ => hk' b
      · obtain ⟨e', v, hh, hm⟩ := hhit hex hne
        cases hh
        exact ⟨e', v, rfl, hm⟩

theorem sim_of_eq {m' : Str} {x : Res × Best} (hb : x.2 = none) : Sim m' x x := by
  intro hmiss
  refine ⟨fun _ => ⟨hmiss, hb⟩, ?_⟩
  intro b hb'
  rw [hb] at hb'
  simp at hb'

theorem stepAny_miss {m : Str} {ea : List Entry} {path : Str} {vals : List Str} :
    (stepAny m ea path vals none).1 = .miss → (stepAny m ea path vals none).2 = some ea := by
  unfold stepAny
  cases findM ea m with
  | some e => exact nofun
  | none =>
    cases findNF ea with
    | some e => exact nofun
    | none => exact fun _ => rfl

theorem stepAny_sim (m m' : Str) (ea : List Entry) (path : Str) (vals : List Str) :
    Sim m' (stepAny m ea path vals none) (stepAny m' ea path vals none) := by
  refine .of_recorded stepAny_miss stepAny_miss fun ⟨e, he, hme⟩ hne => ?_
  obtain ⟨e', hf⟩ := findM_isSome_of_mem he hme hne
  exact ⟨e', vals ++ [path], by simp only [stepAny, hf], (findM_some hf).2.1⟩

/-- **lock-step lemma**: from an empty best, the search for `m'` simulates a failing search for `m` -/
theorem search_sim (m m' : Str) : ∀ (fuel : Nat) (r : R) (path : Str) (vals : List Str),
    Sim m' (search m fuel r path vals none) (search m' fuel r path vals none) := by
  intro fuel
  induction fuel with
  | zero => intro r path vals; exact sim_of_eq rfl
  | succ fuel ih =>
    intro r path vals
    simp only [search]
    -- the alternatives after (1) keep a best position that is handed to them
    have hchain_some := fun (mm : Str) (b : List Entry) =>
      (alternatives_post (search_post mm fuel) r path vals (some b)).best.of_some
    have hparam_some := fun (mm : Str) (b : List Entry) =>
      (Post.orElse (paramStep_post (search_post mm fuel) r path vals (some b))
        fun _ => anyStep_post ..).best.of_some
    have hany_some := fun (mm : Str) (b : List Entry) => (anyStep_post mm r path vals (some b)).best.of_some
    have hchain_none :
        Sim m' (orElse (litStep (fun r' rest b => search m fuel r' rest vals b) r path none) fun best =>
                  orElse (paramStep (fun r' rest vals' b => search m fuel r' rest vals' b) r path vals best) fun best =>
                    anyStep m r path vals best)
               (orElse (litStep (fun r' rest b => search m' fuel r' rest vals b) r path none) fun best =>
                  orElse (paramStep (fun r' rest vals' b => search m' fuel r' rest vals' b) r path vals best) fun best =>
                    anyStep m' r path vals best) := by
      refine orElse_sim ?_ (hparam_some m) (hparam_some m') (orElse_sim ?_ (hany_some m) (hany_some m') ?_)
      · unfold litStep
        cases path with
        | nil => exact sim_of_eq rfl
        | cons c rest =>
          simp only
          split
          · exact sim_of_eq rfl
          · exact ih _ _ _
      · unfold paramStep
        split
        · exact sim_of_eq rfl
        · exact ih _ _ _
      · unfold anyStep
        split
        · exact sim_of_eq rfl
        · exact stepAny_sim _ _ _ _ _
    -- (1)
    cases path with
    | cons c rest => exact hchain_none
    | nil =>
      simp only [stepEnd, List.isEmpty_nil, if_true]
      by_cases hh : isHandler (ends r) = true
      · -- the path ends at a position with handlers: it is recorded unless the method hits
        simp only [hh, if_true, Option.isNone_none]
        refine .of_recorded (X := ends r) ?_ ?_ fun ⟨e, he, hme⟩ hne => ?_
        · cases findM (ends r) m with
          | some e => exact nofun
          | none => exact fun _ => hchain_some m _
        · cases findM (ends r) m' with
          | some e => exact nofun
          | none => exact fun _ => hchain_some m' _
        · obtain ⟨e', hf⟩ := findM_isSome_of_mem he hme hne
          exact ⟨e', vals, by rw [hf], (findM_some hf).2.1⟩
      · simp only [hh, Bool.false_eq_true, if_false]
        cases findNF (ends r) with
        | some e => exact nofun
        | none => exact hchain_none

end Router.Spec
