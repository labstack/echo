import EchoModel.RouterSpec
import EchoProofs.Spec.Perm
/-!
# Basic facts about the reference search: residual sets, lookups, the tail of `Find`, `*` as last token
-/
namespace Router.Spec
open Router

theorem mem_deriv {t : Tok} {r : R} {ts : List Tok} {e : Entry} :
    (ts, e) ∈ deriv t r ↔ (t :: ts, e) ∈ r := by
  unfold deriv
  simp only [List.mem_filterMap]
  constructor
  · rintro ⟨⟨ts', e'⟩, hmem, h⟩
    cases ts' with
    | nil => simp at h
    | cons t' rest =>
      by_cases ht : t' = t
      · simp [ht] at h
        obtain ⟨rfl, rfl⟩ := h
        subst ht
        exact hmem
      · simp [ht] at h
  · intro h
    exact ⟨(t :: ts, e), h, by simp⟩

theorem mem_ends {r : R} {e : Entry} : e ∈ ends r ↔ ([], e) ∈ r := by
  unfold ends
  simp only [List.mem_filterMap]
  constructor
  · rintro ⟨⟨ts, e'⟩, hmem, h⟩
    cases ts with
    | nil => simp at h; subst h; exact hmem
    | cons _ _ => simp at h
  · intro h
    exact ⟨([], e), h, by simp⟩

theorem deriv_ne_nil_of_mem {t : Tok} {r : R} {ts : List Tok} {e : Entry}
    (h : (t :: ts, e) ∈ r) : (deriv t r).isEmpty = false := by
  have := mem_deriv.mpr h
  cases hd : deriv t r with
  | nil => rw [hd] at this; simp at this
  | cons _ _ => rfl

theorem bound_ge_of_mem {r : R} {ts : List Tok} {e : Entry} (h : (ts, e) ∈ r) :
    ts.length ≤ bound r := by
  unfold bound
  induction r with
  | nil => simp at h
  | cons x xs ih =>
    simp only [List.map_cons, List.sum_cons]
    rcases List.mem_cons.mp h with rfl | h'
    · simp
    · have := ih h'
      omega

/-- a real method found among entries really is in the list and has that method -/
theorem findM_some {es : List Entry} {m : Str} {e : Entry} (h : findM es m = some e) :
    e ∈ es ∧ e.method = m ∧ m ≠ routeNotFound := by
  unfold findM at h
  split at h
  · simp at h
  · rename_i hne
    refine ⟨List.mem_of_find?_eq_some h, ?_, hne⟩
    have := List.find?_some h
    simpa using this

theorem findNF_some {es : List Entry} {e : Entry} (h : findNF es = some e) :
    e ∈ es ∧ e.method = routeNotFound := by
  unfold findNF at h
  refine ⟨List.mem_of_find?_eq_some h, ?_⟩
  have := List.find?_some h
  simpa using this

theorem findM_isSome_of_mem {es : List Entry} {m : Str} {e : Entry} (he : e ∈ es)
    (hm : e.method = m) (hne : m ≠ routeNotFound) : ∃ e', findM es m = some e' := by
  unfold findM
  simp only [hne, if_false]
  cases h : es.find? (·.method = m) with
  | some e' => exact ⟨e', rfl⟩
  | none =>
    rw [List.find?_eq_none] at h
    exact absurd (by simpa using hm) (h e he)

/-- with unique methods, the lookup returns exactly the entry one knows to be there -/
theorem findM_eq_of_mem {es : List Entry} {m : Str} {e : Entry} (hu : UniqE es) (he : e ∈ es)
    (hm : e.method = m) (hne : m ≠ routeNotFound) : findM es m = some e := by
  obtain ⟨e', h⟩ := findM_isSome_of_mem he hm hne
  obtain ⟨he', hm', _⟩ := findM_some h
  rw [h]
  by_cases hne' : e' = e
  · rw [hne']
  · exfalso
    unfold UniqE at hu
    rcases List.mem_iff_getElem.mp he with ⟨i, hi, rfl⟩
    rcases List.mem_iff_getElem.mp he' with ⟨j, hj, rfl⟩
    have hij : i ≠ j := fun h => hne' (by subst h; rfl)
    rw [List.pairwise_iff_getElem] at hu
    rcases Nat.lt_or_gt_of_ne hij with hlt | hgt
    · exact hu i j hi hj hlt (hm.trans hm'.symm)
    · exact hu j i hj hi hgt (hm'.trans hm.symm)

theorem isHandler_of_mem {es : List Entry} {e : Entry} (he : e ∈ es)
    (hne : e.method ≠ routeNotFound) : isHandler es = true := by
  unfold isHandler
  simp only [List.any_eq_true]
  exact ⟨e, he, by simpa using hne⟩

theorem mem_initial {es : List Entry} {ts : List Tok} {e : Entry} (h : (ts, e) ∈ initial es) :
    e ∈ es ∧ ts = e.toks := by
  obtain ⟨e', he', heq⟩ := List.mem_map.mp h
  cases heq
  exact ⟨he', rfl⟩

/-! ### the tail of `Find` -/

theorem finish_hit {x : Res × Best} {e : Entry} {v : List Str} (h : x.1 = .hit e v) :
    finish x = .dispatch e v := by
  obtain ⟨res, b⟩ := x
  cases h
  rfl

/-- a dispatch is a hit of the search, or the custom not-found route of the best position with blank values -/
theorem finish_dispatch {x : Res × Best} {e : Entry} {v : List Str} (h : finish x = .dispatch e v) :
    x.1 = .hit e v ∨
      ∃ b, x = (.miss, some b) ∧ findNF b = some e ∧ v = e.pnames.map fun _ => [] := by
  obtain ⟨res, b⟩ := x
  cases res with
  | hit e' v' => cases h; exact .inl rfl
  | miss =>
    cases b with
    | none => cases h
    | some bl =>
      simp only [finish] at h
      cases hnf : findNF bl with
      | none => rw [hnf] at h; simp only at h; split at h <;> cases h
      | some e' => rw [hnf] at h; cases h; exact .inr ⟨bl, rfl, hnf, rfl⟩

/-- 405/204: the search failed, the best position has handlers and no custom not-found route, and Allow is
    computed from the methods registered there -/
theorem finish_mna {x : Res × Best} {allow : List Str} (h : finish x = .methodNotAllowed allow) :
    ∃ b, x = (.miss, some b) ∧ findNF b = none ∧ isHandler b = true ∧ allow = allowOf b := by
  obtain ⟨res, b⟩ := x
  cases res with
  | hit e v => cases h
  | miss =>
    cases b with
    | none => cases h
    | some bl =>
      simp only [finish] at h
      cases hnf : findNF bl with
      | some e => rw [hnf] at h; cases h
      | none =>
        rw [hnf] at h
        simp only at h
        split at h
        · rename_i hh; cases h; exact ⟨bl, rfl, hnf, hh, rfl⟩
        · cases h

/-- `*`, if it occurs, is the last token -/
def anyLast : List Tok → Bool
  | [] => true
  | .any :: ts => ts.isEmpty
  | _ :: ts => anyLast ts

def AnyLastR (r : R) : Prop := ∀ x ∈ r, anyLast x.1 = true

theorem anyLastR_deriv {t : Tok} {r : R} (h : AnyLastR r) : AnyLastR (deriv t r) := by
  intro ⟨ts, e⟩ hx
  have := h _ (mem_deriv.mp hx)
  cases t <;> simp_all [anyLast]

theorem anyLastR_initial {es : List Entry} (h : ∀ e ∈ es, anyLast e.toks = true) : AnyLastR (initial es) := by
  intro x hx
  obtain ⟨e, he, rfl⟩ := List.mem_map.mp hx
  exact h e he

/-- Induction along the scan that `normAux` (like `okPatternAux`, `okPatternEAux`, `reverseAux`) makes of a pattern
    text, with the tokens and names it yields (only after a `:name` does it matter which they are): out of fuel or of
    text; an escaped colon; a `:name`, skipped up to the next `/`; a `*`; any other byte. -/
theorem normAux_induction {P : Nat → Str → List Tok → List Str → Prop}
    (stop : ∀ f p, f = 0 ∨ p = [] → P f p [] [])
    (esc : ∀ f rest ts ns, P f rest ts ns → P (f + 1) ('\\' :: ':' :: rest) (.lit ':' :: ts) ns)
    (param : ∀ f rest, P f (rest.dropWhile (· ≠ '/')) (normAux f (rest.dropWhile (· ≠ '/'))).1
        (normAux f (rest.dropWhile (· ≠ '/'))).2 →
      P (f + 1) (':' :: rest) (.param :: (normAux f (rest.dropWhile (· ≠ '/'))).1)
        (rest.takeWhile (· ≠ '/') :: (normAux f (rest.dropWhile (· ≠ '/'))).2))
    (any : ∀ f rest, P (f + 1) ('*' :: rest) [.any] ["*".toList])
    (lit : ∀ f c rest ts ns, ¬(c = '\\' ∧ rest.head? = some ':') → c ≠ ':' → c ≠ '*' → P f rest ts ns →
      P (f + 1) (c :: rest) (.lit c :: ts) ns) :
    ∀ f p, P f p (normAux f p).1 (normAux f p).2 := by
  intro f
  induction f with
  | zero => exact fun p => stop 0 p (.inl rfl)
  | succ f ih =>
    intro p
    cases p with
    | nil => exact stop _ [] (.inr rfl)
    | cons c rest =>
      simp only [normAux]
      split
      next h =>
        cases rest with
        | nil => simp at h
        | cons d ds =>
          obtain ⟨rfl, rfl⟩ : c = '\\' ∧ d = ':' := by simpa using h
          exact esc f ds _ _ (ih ds)
      next h =>
        split
        next hc => exact hc ▸ param f rest (ih _)
        next hc =>
          split
          next hs => exact hs ▸ any f rest
          next hs => exact lit f c rest _ _ h hc hs (ih rest)

/-- the scan stops at a `*`, so a wildcard token is always the last -/
theorem normAux_anyLast : ∀ (f : Nat) (p : Str), anyLast (normAux f p).1 = true :=
  normAux_induction (P := fun _ _ ts _ => anyLast ts = true) (fun _ _ _ => rfl) (fun _ _ _ _ h => h) (fun _ _ h => h)
    (fun _ _ => rfl) (fun _ _ _ _ _ _ _ _ h => h)

end Router.Spec
