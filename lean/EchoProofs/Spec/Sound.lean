import EchoModel.RouterSpec
import EchoModel.RouterInv
import EchoProofs.Spec.Basics
/-!
# Soundness of the reference search

`Post` says what a run of the search returns: a hit is an entry for the request's method (or a not-found
entry) of the residual set whose remaining tokens, instantiated with the values added since, rebuild the
remaining path; the best position (for 405 / custom 404) is recorded at most once, and only entries that
match the path are recorded.  It is proved once, step by step (`search_post`); `search_sound`,
`search_best_covers` here, `search_best_some` (Allow.lean) and `C03_dispatch_method` are its projections.
-/
namespace Router.Spec
open Router (Str routeNotFound)

/-- substitute values for the markers of a token list; `none` when the arity differs -/
def inst : List Tok → List Str → Option Str
  | [], [] => some []
  | [], _ :: _ => none
  | .lit c :: ts, vs => (inst ts vs).map (c :: ·)
  | .param :: ts, v :: vs => (inst ts vs).map (v ++ ·)
  | .any :: ts, v :: vs => (inst ts vs).map (v ++ ·)
  | .param :: _, [] => none
  | .any :: _, [] => none

/-- a named parameter that is followed by more pattern text holds no `/` -/
def SlashFree : List Tok → List Str → Prop
  | .lit _ :: ts, vs => SlashFree ts vs
  | .param :: ts, v :: vs => (ts ≠ [] → '/' ∉ v) ∧ SlashFree ts vs
  | .any :: ts, _ :: vs => SlashFree ts vs
  | _, _ => True

theorem inst_nil_iff {vs : List Str} {p : Str} : inst [] vs = some p ↔ vs = [] ∧ p = [] := by
  cases vs <;> simp [inst, eq_comm]

theorem inst_lit_iff {c : Char} {ts : List Tok} {vs : List Str} {p : Str} :
    inst (.lit c :: ts) vs = some p ↔ ∃ q, inst ts vs = some q ∧ c :: q = p := by
  simp only [inst, Option.map_eq_some_iff]

theorem inst_marker_iff {t : Tok} (ht : t = .param ∨ t = .any) {ts : List Tok} {vs : List Str} {p : Str} :
    inst (t :: ts) vs = some p ↔ ∃ v vs' q, vs = v :: vs' ∧ inst ts vs' = some q ∧ v ++ q = p := by
  cases vs with
  | nil => rcases ht with rfl | rfl <;> simp [inst]
  | cons v vs =>
    have e : inst (t :: ts) (v :: vs) = (inst ts vs).map (v ++ ·) := by rcases ht with rfl | rfl <;> rfl
    rw [e, Option.map_eq_some_iff]
    exact ⟨fun ⟨q, hq, e⟩ => ⟨v, vs, q, rfl, hq, e⟩, fun ⟨_, _, q, e, hq, e'⟩ => by cases e; exact ⟨q, hq, e'⟩⟩

theorem inst_length {ts : List Tok} {vs : List Str} {p : Str} (h : inst ts vs = some p) :
    vs.length = arity ts := by
  induction ts generalizing vs p with
  | nil => rw [(inst_nil_iff.mp h).1]; rfl
  | cons t ts ih =>
    cases t with
    | lit c =>
      obtain ⟨q, hq, _⟩ := inst_lit_iff.mp h
      simpa [arity] using ih hq
    | param =>
      obtain ⟨v, vs, q, rfl, hq, _⟩ := (inst_marker_iff (.inl rfl)).mp h
      simpa [arity] using ih hq
    | any =>
      obtain ⟨v, vs, q, rfl, hq, _⟩ := (inst_marker_iff (.inr rfl)).mp h
      simpa [arity] using ih hq

/-- `e` is in the residual set with tokens that, instantiated with `w`, give `path` -/
def Witness (r : R) (path : Str) (e : Entry) (w : List Str) : Prop :=
  ∃ ts, (ts, e) ∈ r ∧ inst ts w = some path ∧ SlashFree ts w

def Covers (r : R) (path : Str) (e : Entry) : Prop := ∃ w, Witness r path e w

theorem paramValue_prefix (leaf : Bool) (path : Str) :
    paramValue leaf path ++ path.drop (paramValue leaf path).length = path := by
  unfold paramValue
  split
  · simp
  · have h1 : path.takeWhile (· ≠ '/') = path.take (path.takeWhile (· ≠ '/')).length := by
      rw [List.takeWhile_eq_take_findIdx_not]
      simp
    conv => lhs; arg 1; rw [h1]
    exact List.take_append_drop _ _

theorem takeWhile_no_slash (path : Str) : '/' ∉ path.takeWhile (· ≠ '/') := by
  induction path with
  | nil => simp
  | cons c rest ih =>
    simp only [List.takeWhile_cons]
    split
    · rename_i hc
      simp only [List.mem_cons, not_or]
      exact ⟨fun h => by simp [← h] at hc, ih⟩
    · simp

theorem Witness.end {r : R} {e : Entry} (he : e ∈ ends r) : Witness r [] e [] :=
  ⟨[], mem_ends.mp he, rfl, trivial⟩

theorem Witness.lit {c : Char} {r : R} {rest : Str} {e : Entry} {w : List Str}
    (h : Witness (deriv (.lit c) r) rest e w) : Witness r (c :: rest) e w := by
  obtain ⟨ts, hmem, hi, hsf⟩ := h
  exact ⟨.lit c :: ts, mem_deriv.mp hmem, by simp [inst, hi], hsf⟩

/-- the value of a parameter that is followed by more pattern text stops at the next `/`: then some
    residual after the parameter is non-empty, so the parameter is no leaf -/
theorem Witness.param {r : R} {path : Str} {e : Entry} {w : List Str}
    (h : Witness (deriv .param r)
      (path.drop (paramValue ((deriv .param r).all (·.1.isEmpty)) path).length) e w) :
    Witness r path e (paramValue ((deriv .param r).all (·.1.isEmpty)) path :: w) := by
  obtain ⟨ts, hmem, hi, hsf⟩ := h
  refine ⟨.param :: ts, mem_deriv.mp hmem, ?_, ?_, hsf⟩
  · simp only [inst, hi, Option.map_some]
    rw [paramValue_prefix]
  · intro hts
    have hleaf : (deriv .param r).all (·.1.isEmpty) = false := by
      cases hall : (deriv .param r).all (·.1.isEmpty) with
      | false => rfl
      | true => exact absurd (by simpa using List.all_eq_true.mp hall _ hmem) hts
    simp only [paramValue, hleaf, Bool.false_eq_true, if_false]
    exact takeWhile_no_slash path

theorem Witness.any {r : R} {path : Str} {e : Entry} (he : e ∈ ends (deriv .any r)) :
    Witness r path e [path] :=
  ⟨[.any], mem_deriv.mp (mem_ends.mp he), by simp [inst], trivial⟩

/-- the best position after a step: the one handed in, or — when none was handed in — entries whose
    patterns match the path -/
def BestStep (r : R) (path : Str) (best b' : Best) : Prop :=
  b' = best ∨ best = none ∧ ∃ b, b' = some b ∧ ∀ e ∈ b, Covers r path e

theorem BestStep.trans {r : R} {path : Str} {b0 b1 b2 : Best} (h1 : BestStep r path b0 b1)
    (h2 : BestStep r path b1 b2) : BestStep r path b0 b2 := by
  rcases h1 with rfl | ⟨rfl, b, rfl, hc⟩
  · exact h2
  · rcases h2 with rfl | ⟨h, _⟩
    · exact .inr ⟨rfl, b, rfl, hc⟩
    · cases h

theorem BestStep.of_some {r : R} {path : Str} {b : List Entry} {b' : Best}
    (h : BestStep r path (some b) b') : b' = some b := by
  rcases h with h | ⟨h, _⟩
  · exact h
  · cases h

/-- what the search for method `m` in `r` on `path`, or one of its alternatives, returns: a hit is an entry
    for `m` or a not-found entry, witnessed in `r` by the values added to `vals`; the best position is
    recorded at most once, and only entries that match the path are recorded -/
structure Post (m : Str) (r : R) (path : Str) (vals : List Str) (best : Best) (x : Res × Best) : Prop where
  hit : ∀ {e v}, x.1 = .hit e v →
    (e.method = m ∨ e.method = routeNotFound) ∧ ∃ w, v = vals ++ w ∧ Witness r path e w
  best : BestStep r path best x.2

namespace Post
variable {m : Str} {r : R} {path : Str} {vals : List Str} {best : Best}

theorem miss {b' : Best} (hb : BestStep r path best b') : Post m r path vals best (.miss, b') :=
  ⟨nofun, hb⟩

theorem mk_hit {e : Entry} {w : List Str} {b' : Best} (hm : e.method = m ∨ e.method = routeNotFound)
    (hw : Witness r path e w) (hb : BestStep r path best b') :
    Post m r path vals best (.hit e (vals ++ w), b') where
  hit h := by cases h; exact ⟨hm, w, rfl, hw⟩
  best := hb

theorem of_best {b1 : Best} {x : Res × Best} (hb : BestStep r path best b1)
    (h : Post m r path vals b1 x) : Post m r path vals best x :=
  ⟨h.hit, hb.trans h.best⟩

theorem orElse {x : Res × Best} {k : Best → Res × Best} (hx : Post m r path vals best x)
    (hk : ∀ b, Post m r path vals b (k b)) : Post m r path vals best (orElse x k) := by
  obtain ⟨res, b⟩ := x
  cases res with
  | hit e v => exact hx
  | miss => exact (hk b).of_best hx.best

/-- a run on a derivative, after `u` was added to the values, seen from the residual set it came from -/
theorem lift {r' : R} {path' : Str} {u : List Str} {x : Res × Best}
    (f : ∀ {e w}, Witness r' path' e w → Witness r path e (u ++ w))
    (h : Post m r' path' (vals ++ u) best x) : Post m r path vals best x where
  hit hx := by
    obtain ⟨hm, w, rfl, hw⟩ := h.hit hx
    exact ⟨hm, u ++ w, List.append_assoc .., f hw⟩
  best := by
    rcases h.best with hb | ⟨hn, b, hb, hc⟩
    · exact .inl hb
    · exact .inr ⟨hn, b, hb, fun e he => let ⟨w, hw⟩ := hc e he; ⟨u ++ w, f hw⟩⟩

end Post

theorem stepEnd_some {m : Str} {en : List Entry} {path : Str} {best b1 : Best} {e : Entry}
    (h : stepEnd m en path best = (some e, b1)) :
    path = [] ∧ e ∈ en ∧ (e.method = m ∨ e.method = routeNotFound) := by
  unfold stepEnd at h
  split at h
  · rename_i hp
    refine ⟨List.isEmpty_iff.mp hp, ?_⟩
    split at h
    · obtain ⟨he, hm, _⟩ := findM_some (Prod.mk.inj h).1
      exact ⟨he, .inl hm⟩
    · obtain ⟨he, hm⟩ := findNF_some (Prod.mk.inj h).1
      exact ⟨he, .inr hm⟩
  · cases h

theorem stepEnd_best (m : Str) (r : R) (path : Str) (best : Best) :
    BestStep r path best (stepEnd m (ends r) path best).2 := by
  unfold stepEnd
  split
  · rename_i hp
    split
    · cases best with
      | none =>
        rw [List.isEmpty_iff.mp hp]
        exact .inr ⟨rfl, _, rfl, fun e he => ⟨[], .end he⟩⟩
      | some b => exact .inl rfl
    · exact .inl rfl
  · exact .inl rfl

theorem litStep_post {m : Str} {vals : List Str} {k : R → Str → Best → Res × Best}
    (hk : ∀ r path best, Post m r path vals best (k r path best)) (r : R) (path : Str) (best : Best) :
    Post m r path vals best (litStep k r path best) := by
  unfold litStep
  cases path with
  | nil => exact .miss (.inl rfl)
  | cons c rest =>
    simp only
    split
    · exact .miss (.inl rfl)
    · exact .lift (u := []) .lit (by rw [List.append_nil]; exact hk ..)

theorem paramStep_post {m : Str} {k : R → Str → List Str → Best → Res × Best}
    (hk : ∀ r path vals best, Post m r path vals best (k r path vals best)) (r : R) (path : Str)
    (vals : List Str) (best : Best) : Post m r path vals best (paramStep k r path vals best) := by
  unfold paramStep
  split
  · exact .miss (.inl rfl)
  · exact .lift (u := [_]) .param (hk ..)

theorem anyStep_post (m : Str) (r : R) (path : Str) (vals : List Str) (best : Best) :
    Post m r path vals best (anyStep m r path vals best) := by
  unfold anyStep
  split
  · exact .miss (.inl rfl)
  · unfold stepAny
    have hb : BestStep r path best (if best.isNone then some (ends (deriv .any r)) else best) := by
      cases best with
      | none => exact .inr ⟨rfl, _, rfl, fun e he => ⟨_, .any he⟩⟩
      | some b => exact .inl rfl
    split
    · rename_i e hf
      obtain ⟨he, hm, _⟩ := findM_some hf
      exact .mk_hit (.inl hm) (.any he) (.inl rfl)
    · simp only
      split
      · rename_i e hf
        obtain ⟨he, hm⟩ := findNF_some hf
        exact .mk_hit (.inr hm) (.any he) hb
      · exact .miss hb

theorem alternatives_post {m : Str} {s : R → Str → List Str → Best → Res × Best}
    (hs : ∀ r path vals best, Post m r path vals best (s r path vals best)) (r : R) (path : Str)
    (vals : List Str) (best : Best) :
    Post m r path vals best
      (orElse (litStep (fun r' rest b => s r' rest vals b) r path best) fun best =>
        orElse (paramStep s r path vals best) fun best => anyStep m r path vals best) :=
  .orElse (litStep_post (fun _ _ _ => hs ..) ..) fun _ =>
    .orElse (paramStep_post hs ..) fun _ => anyStep_post ..

/-- **what the search returns** (soundness, the method of a hit, and the life of the best position in one
    statement; `search_sound`, `search_best_covers`, `search_best_some` are its projections) -/
theorem search_post (m : Str) : ∀ (fuel : Nat) (r : R) (path : Str) (vals : List Str) (best : Best),
    Post m r path vals best (search m fuel r path vals best)
  | 0, _, _, _, _ => .miss (.inl rfl)
  | fuel + 1, r, path, vals, best => by
    simp only [search]
    have hb := stepEnd_best m r path best
    generalize hs : stepEnd m (ends r) path best = s at hb
    obtain ⟨e1, b1⟩ := s
    cases e1 with
    | some e =>
      obtain ⟨rfl, he, hm⟩ := stepEnd_some hs
      simpa using Post.mk_hit (vals := vals) hm (.end he) hb
    | none =>
      exact .of_best hb (alternatives_post (search_post m fuel) ..)

/-- **soundness of the search**: a hit is an entry of the residual set whose remaining
    tokens, instantiated with exactly the values added since, rebuild the remaining path. -/
theorem search_sound (m : Str) : ∀ (fuel : Nat) (r : R) (path : Str) (vals : List Str) (best : Best)
    (e : Entry) (v : List Str), (search m fuel r path vals best).1 = .hit e v →
    ∃ w, v = vals ++ w ∧ Witness r path e w :=
  fun fuel r path vals best _ _ h => ((search_post m fuel r path vals best).hit h).2

theorem search_best_covers (m : Str) : ∀ (fuel : Nat) (r : R) (path : Str) (vals : List Str)
    (best : Best) (b : List Entry), (search m fuel r path vals best).2 = some b →
    best = some b ∨ ∀ e ∈ b, Covers r path e := by
  intro fuel r path vals best b h
  rcases (search_post m fuel r path vals best).best with hb | ⟨_, b', hb, hc⟩
  · exact .inl (hb ▸ h)
  · exact .inr (Option.some.inj (hb ▸ h) ▸ hc)

end Router.Spec
