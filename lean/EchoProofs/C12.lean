import EchoModel.C12
import EchoProofs.Lit
/-!
# C12 — theorems about the CSRF model

All statements quantify over every configuration (token length, parsed lookup list, cookie
name) and every request (method string, cookies, headers, query, body, random stream).
-/
namespace C12

/-! ## randomString -/

def isLetter (ch : Nat) : Bool := (65 ≤ ch && ch ≤ 90) || (97 ≤ ch && ch ≤ 122)

theorem scanChunk_eq (l : List Nat) : ∀ need : Nat,
    scanChunk need l =
      (((l.filter accepted).take need).map letterOf, need - (l.filter accepted).length) := by
  induction l with
  | nil => intro need; cases need <;> simp [scanChunk]
  | cons rb r ih =>
    intro need
    cases need with
    | zero => simp [scanChunk]
    | succ n =>
      simp only [scanChunk, List.filter_cons]
      by_cases ha : accepted rb = true
      · by_cases hn : n = 0
        · simp [ha, hn]
        · simp [ha, hn, ih n]
      · simp [ha, ih (n + 1)]

theorem fillLoop_spec (chunk : Nat) : ∀ (fuel need : Nat) (stream : List Nat) (s : List Nat),
    fillLoop chunk fuel need stream = some s →
      s = ((stream.filter accepted).take need).map letterOf ∧ s.length = need := by
  intro fuel
  induction fuel with
  | zero => intro need stream s h; simp [fillLoop] at h
  | succ fuel ih =>
    intro need stream s h
    -- the accepted bytes of the stream: those of the chunk read now, then those of the rest
    have hsplit := congrArg (List.filter accepted) (List.take_append_drop chunk stream)
    rw [List.filter_append] at hsplit
    rw [← hsplit, List.take_append, List.map_append]
    simp only [fillLoop, scanChunk_eq, Option.ite_none_left_eq_some] at h
    generalize (stream.take chunk).filter accepted = A at h ⊢
    split at h
    · next h0 =>
      obtain rfl := Option.some.inj h.2
      simp [h0]; omega
    · next h0 =>
      split at h
      · next rest hrest =>
        obtain rfl := Option.some.inj h.2
        obtain ⟨rfl, hlen⟩ := ih _ _ _ hrest
        refine ⟨rfl, ?_⟩
        simp only [List.length_append, List.length_map, List.length_take] at hlen ⊢
        omega
      · simp at h

/-- The letter table in closed form: entry `j < 26` is `'A' + j`, entry `26 + i` is
    `'a' + i`, and `'a' = 'A' + 26 + 6`.  The only evaluation of the table; everything else about
    it is read off this form. -/
theorem charset_eq : charset = (List.range 52).map fun j => j + 65 + 6 * (j / 26) := by
  simp only [charset, lit]
  lit_chars
  decide +kernel

theorem charset_length : charset.length = 52 := by simp [charset_eq]

theorem charset_getD (j : Nat) (hj : j < 52) : charset.getD j 0 = j + 65 + 6 * (j / 26) := by
  simp [charset_eq, hj]

theorem letterOf_eq (rb : Nat) : letterOf rb = rb % 52 + 65 + 6 * (rb % 52 / 26) :=
  charset_getD _ (Nat.mod_lt _ (by decide))

theorem charset_nodup : charset.Nodup := by
  rw [charset_eq]
  exact List.pairwise_lt_range.map _ fun a b h => by omega

theorem letterOf_mem (rb : Nat) : letterOf rb ∈ charset := by
  rw [letterOf_eq, charset_eq]
  exact List.mem_map.mpr ⟨rb % 52, List.mem_range.mpr (Nat.mod_lt _ (by decide)), rfl⟩

theorem charset_letters : ∀ ch ∈ charset, isLetter ch = true := by
  intro ch h
  rw [charset_eq] at h
  obtain ⟨j, hj, rfl⟩ := List.mem_map.mp h
  have := List.mem_range.mp hj
  simp [isLetter]; omega

/-- **C12_random** — when `randomString n` returns, the token has exactly `n` characters, all
    ASCII letters, and it is the image under `b ↦ charset[b % 52]` of the first `n`
    *accepted* bytes (`≤ 207`) of the random stream, whatever the buffering: it is a function
    of the random stream alone (not of the request). -/
theorem C12_random (n : Nat) (stream : List Nat) (s : Str) (h : randomString n stream = some s) :
    s.length = n ∧ (∀ ch ∈ s, isLetter ch = true) ∧
    s = ((stream.filter accepted).take n).map letterOf := by
  obtain ⟨h1, h2⟩ := fillLoop_spec _ _ _ _ _ h
  refine ⟨h2, ?_, h1⟩
  intro ch hch
  rw [h1] at hch
  obtain ⟨b, _, rfl⟩ := List.mem_map.mp hch
  exact charset_letters _ (letterOf_mem b)

theorem accepted_iff (b : Nat) : accepted b = true ↔ b < 208 := by
  simp [accepted, show maxByte = 207 from rfl]; omega

theorem letterOf_eq_iff (b j : Nat) (hj : j < 52) : letterOf b = charset.getD j 0 ↔ b % 52 = j := by
  -- `charset.length` is kept away from the numeral: unifying the two would decode the literal
  have hlen {i : Nat} (h : i < 52) : i < charset.length := by rwa [charset_length]
  exact List.getD_inj (hlen (Nat.mod_lt b (Nat.zero_lt_succ 51))) (hlen hj) charset_nodup

theorem bytes_of_letter (j : Nat) (hj : j < 52) :
    ((List.range 256).filter fun b => accepted b && (letterOf b == charset.getD j 0)).Perm
      [j, j + 52, j + 104, j + 156] := by
  rw [List.perm_ext_iff_of_nodup (List.nodup_range.filter _) (by simp)]
  intro b
  simp only [List.mem_filter, List.mem_range, Bool.and_eq_true, accepted_iff, beq_iff_eq,
    letterOf_eq_iff b j hj, List.mem_cons, List.not_mem_nil, or_false]
  omega

/-- **C12_random_uniform** — the rejection rule removes exactly the bias: a byte is accepted
    iff it is below `208 = 4 * 52`, every one of the 52 letters has exactly 4 accepted bytes
    mapped to it, and the 52 letters are distinct.  (So uniformly distributed bytes give
    uniformly distributed letters; the probabilistic conclusion itself is not formalised.) -/
theorem C12_random_uniform :
    (∀ b, b < 256 → (accepted b = true ↔ b < 208)) ∧
    (∀ j, j < 52 → ((List.range 256).filter (fun b => accepted b && (letterOf b == charset.getD j 0))).length = 4) ∧
    charset.Nodup ∧ charset.length = 52 :=
  ⟨fun b _ => accepted_iff b, fun j hj => (bytes_of_letter j hj).length_eq, charset_nodup, charset_length⟩

/-- the source can run dry only if it does not hold `n` acceptable bytes in whole buffers;
    concrete non-vacuity: a stream of 5 zero bytes yields "AAAA" for n = 4 -/
example : randomString 4 [0, 0, 0, 0, 0] = some (lit "AAAA") := by
  simp only [lit]; lit_chars; decide +kernel
example : randomString 4 [255, 51, 52, 207, 208, 0, 0, 0, 0, 25] = some (lit "zAzA") := by
  simp only [lit]; lit_chars; decide +kernel
example : randomString 4 [0, 0, 0, 0] = none := by decide +kernel   -- buffer is 5 bytes: short read

/-! ## the validation loop -/

theorem anyMatch_iff (token : Str) (toks : List Str) : anyMatch token toks = true ↔ token ∈ toks := by
  induction toks with
  | nil => simp [anyMatch]
  | cons t ts ih => by_cases h : token = t <;> simp [anyMatch, h, ih]

/-- some extractor returns a token equal to `token` -/
def hasMatch (token : Str) (r : Req) (es : List Extractor) : Bool :=
  es.any fun e => (extract r e).any (anyMatch token)

/-- closed form of the `outer:` loop -/
theorem validate_eq (token : Str) (r : Req) (es : List Extractor) : ∀ st : Loop,
    validate token r es st =
      if hasMatch token r es then { matched := true, lastExtractorErr := false, lastTokenErr := false }
      else { matched := st.matched
             lastExtractorErr := st.lastExtractorErr || es.any (fun e => (extract r e).isNone)
             lastTokenErr := st.lastTokenErr || es.any (fun e => (extract r e).isSome) } := by
  induction es with
  | nil => intro st; simp [validate, hasMatch]
  | cons e es ih =>
    intro st
    simp only [validate, hasMatch, List.any_cons]
    split
    · next hx => simp [hx, ih, hasMatch]
    · next toks hx =>
      by_cases hm : anyMatch token toks = true
      · simp [hx, hm]
      · simp [hx, hm, ih, hasMatch]

/-! ## where a token can be found in a request -/

/-- the request holds `tok` at the lookup location `e` -/
def heldAt (r : Req) (e : Extractor) (tok : Str) : Prop :=
  match e with
  | .header name pfx =>
    ∃ v ∈ valuesOf name r.headers, v.drop pfx.length = tok ∧
      (pfx ≠ [] → equalFold (v.take pfx.length) pfx = true ∧ v.length > pfx.length)
  | .query name => tok ∈ valuesOf name r.query
  | .form name => tok ∈ valuesOf name r.form ∨ tok ∈ valuesOf name r.query
  | .param name => tok ∈ valuesOf name r.params
  | .cookie name => tok ∈ valuesOf name r.cookies

theorem valuesOf_cons (k : Str) (p : Str × Str) (l : List (Str × Str)) :
    valuesOf k (p :: l) = if p.1 = k then p.2 :: valuesOf k l else valuesOf k l := by
  by_cases h : p.1 = k <;> simp [valuesOf, h]

/-- both scanning loops stop after the value with index 19; what they return up to there comes
    from the unbounded scan -/
theorem mem_capped {tok : Str} {i : Nat} {l : List Str} (h : tok ∈ if i ≥ 19 then [] else l) : tok ∈ l := by
  split at h
  · simp at h
  · exact h

theorem headerScan_held (pfx : Str) (i : Nat) (vals : List Str) (tok : Str)
    (h : tok ∈ headerScan pfx i vals) : ∃ v ∈ vals, v.drop pfx.length = tok ∧
      (pfx ≠ [] → equalFold (v.take pfx.length) pfx = true ∧ v.length > pfx.length) := by
  fun_induction headerScan pfx i vals with
  | case1 => cases h
  | case2 i v vs hp ih =>
    simp only [List.mem_cons, exists_eq_or_imp]
    rcases List.mem_cons.mp h with rfl | h
    · exact .inl ⟨by rw [hp, List.drop_zero], fun hne => absurd (List.eq_nil_of_length_eq_zero hp) hne⟩
    · exact .inr (ih (mem_capped h))
  | case3 i v vs hp hc ih =>
    simp only [List.mem_cons, exists_eq_or_imp]
    rw [Bool.and_eq_true, decide_eq_true_eq] at hc
    rcases List.mem_cons.mp h with rfl | h
    · exact .inl ⟨rfl, fun _ => ⟨hc.2, hc.1⟩⟩
    · exact .inr (ih (mem_capped h))
  | case4 i v vs hp hc ih =>
    simp only [List.mem_cons, exists_eq_or_imp]
    exact .inr (ih h)

theorem cookieScan_held (name : Str) (i : Nat) (cs : List (Str × Str)) (tok : Str)
    (h : tok ∈ cookieScan name i cs) : tok ∈ valuesOf name cs := by
  fun_induction cookieScan name i cs with
  | case1 => cases h
  | case2 i ck cs hn ih =>
    rw [valuesOf_cons, if_pos hn]
    exact List.mem_cons.mpr ((List.mem_cons.mp h).imp_right fun h => ih (mem_capped h))
  | case3 i ck cs hn ih =>
    rw [valuesOf_cons, if_neg hn]
    exact ih h

theorem mem_formValues (r : Req) (name tok : Str) (h : tok ∈ formValues r name) :
    tok ∈ valuesOf name r.form ∨ tok ∈ valuesOf name r.query := by
  unfold formValues at h
  split at h
  · exact (List.mem_append.mp h).symm
  · rcases List.mem_append.mp h with h | h
    · split at h
      · exact Or.inl h
      · simp at h
    · exact Or.inr h

theorem extract_held (r : Req) (e : Extractor) (toks : List Str) (tok : Str)
    (h : extract r e = some toks) (hm : tok ∈ toks) : heldAt r e tok := by
  -- every branch of `extract` is `if … then none else some l`
  cases e <;> simp only [extract, Option.ite_none_left_eq_some, Option.some.injEq] at h
  case header name pfx => obtain ⟨_, _, rfl⟩ := h; exact headerScan_held pfx 0 _ tok hm
  case query name => obtain ⟨_, rfl⟩ := h; exact List.mem_of_mem_take hm
  case form name => obtain ⟨_, rfl⟩ := h; exact mem_formValues r name tok (List.mem_of_mem_take hm)
  case param name => obtain ⟨_, rfl⟩ := h; exact cookieScan_held name 0 _ tok hm
  case cookie name => obtain ⟨_, rfl⟩ := h; exact cookieScan_held name 0 _ tok hm

theorem hasMatch_held {token : Str} {r : Req} {es : List Extractor} (h : hasMatch token r es = true) :
    ∃ e ∈ es, heldAt r e token := by
  simp only [hasMatch, List.any_eq_true, Option.any_eq_true, anyMatch_iff] at h
  obtain ⟨e, he, toks, hx, hmem⟩ := h
  exact ⟨e, he, extract_held r e toks token hx hmem⟩

/-! ## the property -/

theorem tokenOf_spec (c : Cfg) (r : Req) (t : Str) (h : tokenOf c r = some t) :
    (findCookie c.cookieName r.cookies = some t) ∨
    (findCookie c.cookieName r.cookies = none ∧ randomString c.tokenLength r.rnd = some t) := by
  unfold tokenOf at h
  cases hc : findCookie c.cookieName r.cookies with
  | none => simp only [hc] at h; exact Or.inr ⟨rfl, h⟩
  | some v => simp only [hc] at h; exact Or.inl h

theorem handlerStatus_4xx (c : Cfg) (s : Nat) (h : s = 400 ∨ s = 403) :
    400 ≤ handlerStatus c s ∧ handlerStatus c s < 500 := by
  unfold handlerStatus
  split <;> omega

/-- the safe-method switch is exact: nothing but the four strings is safe -/
theorem C12_safe_exact (m : Str) :
    safeMethod m = true ↔ (m = lit "GET" ∨ m = lit "HEAD" ∨ m = lit "OPTIONS" ∨ m = lit "TRACE") := by
  simp [safeMethod, or_assoc]

example : safeMethod (lit "get") = false ∧ safeMethod (lit "GET ") = false ∧
    safeMethod (lit "") = false ∧ safeMethod (lit "Options") = false := by
  simp only [lit]; lit_chars; decide +kernel

/-- `serve` once the token of the request is known.  Without a match the loop leaves one of its
    two error flags set as soon as there is an extractor at all: `lastTokenErr` if some extractor
    offered tokens (403), else `lastExtractorErr` (400). -/
theorem serve_some (c : Cfg) (r : Req) (token : Str) (ht : tokenOf c r = some token) :
    serve c r =
      if safeMethod r.method = true ∨ hasMatch token r c.extractors = true ∨ c.extractors = [] then
        .passed token token
      else if c.extractors.any (fun e => (extract r e).isSome) then .rejected (handlerStatus c 403)
      else .rejected (handlerStatus c 400) := by
  simp only [serve, ht, validate_eq]
  by_cases hs : safeMethod r.method = true
  · simp [hs]
  · by_cases hm : hasMatch token r c.extractors = true
    · simp [hm]
    · simp only [hs, hm, false_or, Bool.false_eq_true, ite_false, Bool.false_or]
      cases c.extractors with
      | nil => simp
      | cons e es => cases hx : extract r e <;> simp [hx]

theorem serve_passed (c : Cfg) (r : Req) (sc ctx : Str) (h : serve c r = .passed sc ctx) :
    tokenOf c r = some sc ∧ sc = ctx ∧
      (safeMethod r.method = true ∨ hasMatch sc r c.extractors = true ∨ c.extractors = []) := by
  cases ht : tokenOf c r with
  | none => simp [serve, ht] at h
  | some token =>
    rw [serve_some c r token ht] at h
    split at h
    · next hwhy =>
      obtain ⟨rfl, rfl⟩ := Result.passed.inj h
      exact ⟨rfl, rfl, hwhy⟩
    · split at h <;> cases h

/-- **C12_unsafe_needs_match** — a request with an unsafe method that reaches the handler
    carries, at one of the configured lookup locations, exactly the token of the request; and
    that token is the CSRF cookie's value if the request has the cookie.  The only other way
    is a request *without* the cookie that presents exactly the string `randomString` is
    about to produce from the random stream (a function of the stream alone, `C12_random`;
    that `crypto/rand` cannot be predicted is outside the model).

    `c.extractors ≠ []`: a TokenLookup whose sources are all unknown words (e.g. "headr:…")
    yields no extractor at all and then nothing is validated — the property quantifies over
    header/form/query lookups, which always yield one. -/
theorem C12_unsafe_needs_match (c : Cfg) (r : Req) (hne : c.extractors ≠ [])
    (hunsafe : safeMethod r.method = false) (sc ctx : Str) (h : serve c r = .passed sc ctx) :
    (∃ e ∈ c.extractors, heldAt r e sc) ∧
    (findCookie c.cookieName r.cookies = some sc ∨
      (findCookie c.cookieName r.cookies = none ∧ randomString c.tokenLength r.rnd = some sc)) := by
  obtain ⟨ht, _, hwhy⟩ := serve_passed c r sc ctx h
  refine ⟨?_, tokenOf_spec c r sc ht⟩
  rcases hwhy with hs | hm | he
  · rw [hunsafe] at hs; cases hs
  · exact hasMatch_held hm
  · exact absurd he hne

/-- **C12_reject_4xx** — an unsafe request whose token is not held at any configured lookup
    location is rejected with 403 (some location offered tokens, none equal) or 400 (no
    location offered anything) — through the configured ErrorHandler (`handlerStatus`: nil, or
    a custom one that writes its own response and returns nil, or returns its own error); in
    every case the handler does not run (`Result.rejected` carries no handler observation: in
    the model the handler runs exactly in `Result.passed`). -/
theorem C12_reject_4xx (c : Cfg) (r : Req) (hne : c.extractors ≠ [])
    (hunsafe : safeMethod r.method = false) (token : Str) (ht : tokenOf c r = some token)
    (hno : ∀ e ∈ c.extractors, ¬ heldAt r e token) :
    (serve c r = .rejected (handlerStatus c 403) ∧ ∃ e ∈ c.extractors, (extract r e).isSome) ∨
    (serve c r = .rejected (handlerStatus c 400) ∧ ∀ e ∈ c.extractors, extract r e = none) := by
  have hm : ¬ hasMatch token r c.extractors = true := fun hm =>
    let ⟨e, he, hheld⟩ := hasMatch_held hm
    hno e he hheld
  rw [serve_some c r token ht, if_neg (by simp [hunsafe, hm, hne])]
  by_cases hs : c.extractors.any (fun e => (extract r e).isSome) = true
  · exact Or.inl ⟨if_pos hs, List.any_eq_true.mp hs⟩
  · refine Or.inr ⟨if_neg hs, fun e he => ?_⟩
    cases hx : extract r e with
    | none => rfl
    | some toks => exact absurd (List.any_eq_true.mpr ⟨e, he, by simp [hx]⟩) hs

/-- every rejection is a 4xx: 400 or 403 with the default (nil) ErrorHandler, the custom
    handler's own 4xx otherwise; and only unsafe methods are ever rejected -/
theorem C12_reject_status (c : Cfg) (r : Req) (s : Nat) (h : serve c r = .rejected s) :
    (s = handlerStatus c 400 ∨ s = handlerStatus c 403) ∧ (400 ≤ s ∧ s < 500) ∧
    (c.errorHandler = 0 → s = 400 ∨ s = 403) ∧ safeMethod r.method = false := by
  cases ht : tokenOf c r with
  | none => simp [serve, ht] at h
  | some token =>
    rw [serve_some c r token ht] at h
    split at h
    · cases h
    · next hwhy =>
      have key : s = handlerStatus c 400 ∨ s = handlerStatus c 403 := by
        split at h
        · exact Or.inr (Result.rejected.inj h).symm
        · exact Or.inl (Result.rejected.inj h).symm
      refine ⟨key, ?_, ?_, by simpa using mt Or.inl hwhy⟩
      · rcases key with rfl | rfl
        · exact handlerStatus_4xx c 400 (Or.inl rfl)
        · exact handlerStatus_4xx c 403 (Or.inr rfl)
      · intro h0
        simpa [handlerStatus, h0] using key

/-- **C12_safe_passes** — GET, HEAD, OPTIONS and TRACE (exactly these strings) always pass,
    whatever cookie and client tokens the request carries. -/
theorem C12_safe_passes (c : Cfg) (r : Req) (token : Str) (ht : tokenOf c r = some token)
    (hsafe : r.method = lit "GET" ∨ r.method = lit "HEAD" ∨ r.method = lit "OPTIONS" ∨ r.method = lit "TRACE") :
    serve c r = .passed token token := by
  rw [serve_some c r token ht, if_pos (Or.inl ((C12_safe_exact _).mpr hsafe))]

/-- **C12_publish** — every passed request gets a Set-Cookie with the token and finds the
    same token in its context; the token is the request cookie's value when there is one,
    otherwise a fresh string of the configured length made of ASCII letters only. -/
theorem C12_publish (c : Cfg) (r : Req) (sc ctx : Str) (h : serve c r = .passed sc ctx) :
    sc = ctx ∧
    (∀ v, findCookie c.cookieName r.cookies = some v → sc = v) ∧
    (findCookie c.cookieName r.cookies = none →
      randomString c.tokenLength r.rnd = some sc ∧ sc.length = c.tokenLength ∧
      ∀ ch ∈ sc, isLetter ch = true) := by
  obtain ⟨ht, rfl, _⟩ := serve_passed c r sc ctx h
  refine ⟨rfl, fun v hv => ?_, fun hnone => ?_⟩
  · rcases tokenOf_spec c r sc ht with h1 | ⟨h1, _⟩
    · exact Option.some.inj (h1.symm.trans hv)
    · rw [hv] at h1; cases h1
  · rcases tokenOf_spec c r sc ht with h1 | ⟨_, h2⟩
    · rw [hnone] at h1; cases h1
    · exact ⟨h2, (C12_random _ _ _ h2).1, (C12_random _ _ _ h2).2.1⟩

/-- the fresh token does not depend on the request (only on the random stream and the
    configured length): two requests that differ in everything but `rnd` get the same one -/
theorem C12_fresh_independent (c : Cfg) (r r' : Req) (h : r.rnd = r'.rnd)
    (h1 : findCookie c.cookieName r.cookies = none) (h2 : findCookie c.cookieName r'.cookies = none) :
    tokenOf c r = tokenOf c r' := by
  simp [tokenOf, h1, h2, h]

/-! ## the lookup configuration -/

/-- one extractor per source, of the kind the source names; header names are canonicalised -/
example : createExtractors (lit "header:X-CSRF-Token,form:csrf,query:csrf") =
    some [.header (lit "X-Csrf-Token") [], .form (lit "csrf"), .query (lit "csrf")] := by
  simp only [lit]; lit_chars; decide +kernel
example : createExtractors (lit "header:Authorization:Bearer ") =
    some [.header (lit "Authorization") (lit "Bearer ")] := by
  simp only [lit]; lit_chars; decide +kernel
/-- a misspelt source is dropped without an error: no extractor, nothing is validated -/
example : createExtractors (lit "headr:X-CSRF-Token") = some [] := by
  simp only [lit]; lit_chars; decide +kernel
example : createExtractors (lit "header") = none := by
  simp only [lit]; lit_chars; decide +kernel

/-! ## non-vacuity: concrete requests -/

def cfgDefault : Cfg := { tokenLength := 4, extractors := [.header (lit "X-Csrf-Token") []], cookieName := lit "_csrf" }
/-- a custom ErrorHandler that writes 418 and returns nil: still rejected, handler not run -/
def cfgCustomEH : Cfg := { cfgDefault with errorHandler := 1 }

def reqOK : Req :=
  ⟨lit "POST", [(lit "_csrf", lit "tokn")], [(lit "X-Csrf-Token", lit "tokn")], [], [], [], [], false⟩
def reqNear : Req :=
  ⟨lit "POST", [(lit "_csrf", lit "tokn")], [(lit "X-Csrf-Token", lit "tokN")], [], [], [], [], false⟩
def reqMissing : Req := ⟨lit "post", [(lit "_csrf", lit "tokn")], [], [], [], [], [], false⟩
def reqFresh : Req := ⟨lit "GET", [], [], [], [], [0, 1, 26, 51, 0], [], false⟩

example : serve cfgDefault reqOK = .passed (lit "tokn") (lit "tokn") := by
  simp only [cfgDefault, reqOK, lit]; lit_chars; decide +kernel
example : serve cfgDefault reqNear = .rejected 403 := by
  simp only [cfgDefault, reqNear, lit]; lit_chars; decide +kernel
example : serve cfgDefault reqMissing = .rejected 400 := by
  simp only [cfgDefault, reqMissing, lit]; lit_chars; decide +kernel
example : serve cfgCustomEH reqNear = .rejected 418 ∧ serve cfgCustomEH reqOK = .passed (lit "tokn") (lit "tokn") := by
  simp only [cfgCustomEH, cfgDefault, reqNear, reqOK, lit]; lit_chars; decide +kernel
example : serve cfgDefault reqFresh = .passed (lit "ABaz") (lit "ABaz") := by
  simp only [cfgDefault, reqFresh, lit]; lit_chars; decide +kernel
example : cfgDefault.extractors ≠ [] ∧ safeMethod reqOK.method = false := by
  simp only [cfgDefault, reqOK, lit]; lit_chars; decide +kernel

/-- a `form:` lookup finds the token in the multipart body of a DELETE request, but not in a
    urlencoded body of the same request (net/http parses that for POST/PUT/PATCH only) -/
def cfgForm : Cfg := { tokenLength := 4, extractors := [.form (lit "csrf")], cookieName := lit "_csrf" }
example :
    serve cfgForm ⟨lit "DELETE", [(lit "_csrf", lit "tokn")], [], [], [(lit "csrf", lit "tokn")], [], [], true⟩
      = .passed (lit "tokn") (lit "tokn") ∧
    serve cfgForm ⟨lit "DELETE", [(lit "_csrf", lit "tokn")], [], [], [(lit "csrf", lit "tokn")], [], [], false⟩
      = .rejected 400 := by
  simp only [cfgForm, lit]; lit_chars; decide +kernel

end C12
