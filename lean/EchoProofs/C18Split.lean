import EchoModel.C18
import EchoProofs.C18
/-!
# C18 — `Allow` split at the `Unlock`: what holds under every interleaving

`RateLimiterMemoryStore.Allow` is two steps for the scheduler: the locked part (`lockStep`: lookup
or creation, `lastSeen := now`, maybe the sweep) and the unlocked tail (`tailStep`: `AllowN` on the
limiter the goroutine left the critical section with).  Other goroutines' locked parts — sweeps
included — can run between the two.  The model keeps limiters in a heap, so a limiter whose map
entry was swept while a goroutine still holds it lives on as an orphan, exactly like the `*Visitor`
of the code.

Schedules without overlap are the atomic model (`C18_split_atomic_run`), so the theorems about `run`
speak about them.  Under every interleaving a new limiter still needs `ExpiresIn` of the identifier's
own silence, and a parked goroutine keeps the identifier's current limiter while the locked parts
read instants at most `ExpiresIn` later.  The two `_false` theorems (finding F24) show that the bound
is needed and that a delay between `Unlock` and the clock reading is observable: the window theorems
of `EchoProofs/C18.lean` need what they assume, that all readings of one call agree.
-/
namespace C18

set_option linter.unusedSectionVars false

variable {α : Type} [DecidableEq α]

/-! ## refinement: no overlap = `allow2` -/

/-- the map entry as the atomic model sees it -/
def absE (heap : Nat → Bucket) (o : Option Entry) : Option Visitor :=
  match o with
  | some e => some ⟨heap e.addr, e.lastSeen⟩
  | none => none

/-- the store as the atomic model sees it -/
def absS (st : SStore α) : Store α := ⟨fun i => absE st.heap (st.visitors i), st.lastCleanup⟩

def WF (st : SStore α) : Prop :=
  (∀ i e, st.visitors i = some e → e.addr < st.next) ∧
  (∀ i j e f, st.visitors i = some e → st.visitors j = some f → e.addr = f.addr → i = j)

theorem wf_init (t0 : Nat) : WF (SStore.init t0 : SStore α) :=
  ⟨fun _ _ h => (nomatch h), fun _ _ _ _ h => nomatch h⟩

theorem absS_visitors (st : SStore α) (i : α) :
    (absS st).visitors i = absE st.heap (st.visitors i) := rfl

theorem absS_lastCleanup (st : SStore α) : (absS st).lastCleanup = st.lastCleanup := rfl

theorem absE_congr {heap heap' : Nat → Bucket} {o : Option Entry}
    (h : ∀ e, o = some e → heap' e.addr = heap e.addr) : absE heap' o = absE heap o := by
  cases o with
  | none => rfl
  | some e => simp only [absE, h e rfl]

theorem absE_cleanupS (c : Cfg) (heap : Nat → Bucket) (vis : α → Option Entry) (now : Nat) (i : α) :
    absE heap (cleanupS c vis now i) = cleanup c (fun j => absE heap (vis j)) now i := by
  simp only [cleanupS, cleanup]
  cases vis i with
  | none => rfl
  | some e => by_cases h : now - e.lastSeen > c.expiresIn <;> simp [absE, h]

theorem Store.ext {s t : Store α} (hv : s.visitors = t.visitors)
    (hl : s.lastCleanup = t.lastCleanup) : s = t := by
  cases s; cases t; cases hv; cases hl; rfl

theorem cleanupS_some {c : Cfg} {vis : α → Option Entry} {now : Nat} {i : α} {e : Entry}
    (h : cleanupS c vis now i = some e) : vis i = some e := by
  unfold cleanupS at h
  split at h
  · split at h
    · cases h
    · cases h; assumption
  · cases h

theorem lockStep_entry (c : Cfg) (st : SStore α) (id : α) (now : Nat) :
    (lockStep c st id now).1.visitors id = some ⟨(lockStep c st id now).2, now⟩ := by
  unfold lockStep
  by_cases hs : now - st.lastCleanup > c.expiresIn <;> simp [hs, cleanupS]

theorem lockStep_other (c : Cfg) (st : SStore α) (id i : α) (now : Nat) (h : i ≠ id) :
    (lockStep c st id now).1.visitors i =
      if now - st.lastCleanup > c.expiresIn then cleanupS c st.visitors now i else st.visitors i := by
  unfold lockStep
  by_cases hs : now - st.lastCleanup > c.expiresIn <;> simp [hs, cleanupS, h]

theorem lockStep_lastCleanup (c : Cfg) (st : SStore α) (id : α) (now : Nat) :
    (lockStep c st id now).1.lastCleanup =
      if now - st.lastCleanup > c.expiresIn then now else st.lastCleanup := by
  unfold lockStep
  by_cases hs : now - st.lastCleanup > c.expiresIn <;> simp [hs]

theorem lockStep_addr (c : Cfg) (st : SStore α) (id : α) (now : Nat) :
    (lockStep c st id now).2 = match st.visitors id with
      | some e => e.addr
      | none => st.next := rfl

theorem lockStep_next (c : Cfg) (st : SStore α) (id : α) (now : Nat) :
    (lockStep c st id now).1.next = match st.visitors id with
      | some _ => st.next
      | none => st.next + 1 := rfl

theorem lockStep_heap (c : Cfg) (st : SStore α) (id : α) (now : Nat) :
    (lockStep c st id now).1.heap = match st.visitors id with
      | some _ => st.heap
      | none => fun x => if x = st.next then fresh c else st.heap x := rfl

theorem lockStep_heap_old (c : Cfg) (st : SStore α) (id : α) (now : Nat) {a : Nat} (h : a < st.next) :
    (lockStep c st id now).1.heap a = st.heap a := by
  rw [lockStep_heap]
  cases st.visitors id with
  | none => exact if_neg (Nat.ne_of_lt h)
  | some _ => rfl

theorem lockStep_other_some (c : Cfg) (st : SStore α) (id i : α) (now : Nat) (h : i ≠ id) (e : Entry)
    (he : (lockStep c st id now).1.visitors i = some e) : st.visitors i = some e := by
  rw [lockStep_other c st id i now h] at he
  split at he
  · exact cleanupS_some he
  · exact he

theorem lockStep_keeps (c : Cfg) (st : SStore α) {id i : α} (now : Nat) {e : Entry} (h : i ≠ id)
    (he : st.visitors i = some e) :
    (lockStep c st id now).1.visitors i = some e ∨
      (c.expiresIn < now - e.lastSeen ∧ (lockStep c st id now).1.lastCleanup = now) := by
  rw [lockStep_other c st id i now h, lockStep_lastCleanup]
  by_cases hs : now - st.lastCleanup > c.expiresIn
  · by_cases hst : now - e.lastSeen > c.expiresIn
    · exact Or.inr ⟨hst, if_pos hs⟩
    · left
      rw [if_pos hs]
      simp only [cleanupS, he]
      exact if_neg hst
  · rw [if_neg hs]; exact Or.inl he

theorem lockStep_addr_ne (c : Cfg) {st : SStore α} (hwf : WF st) {id i : α} (now : Nat) {e : Entry}
    (h : i ≠ id) (he : st.visitors i = some e) : e.addr ≠ (lockStep c st id now).2 := by
  intro heq
  rw [lockStep_addr] at heq
  cases hv : st.visitors id with
  | none =>
    rw [hv] at heq
    exact Nat.lt_irrefl _ (Nat.lt_of_lt_of_eq (hwf.1 i e he) heq.symm)
  | some f =>
    rw [hv] at heq
    exact h (hwf.2 i id e f he hv heq)

theorem lockStep_wf (c : Cfg) (st : SStore α) (hwf : WF st) (id : α) (now : Nat) :
    WF (lockStep c st id now).1 := by
  have hid := lockStep_entry c st id now
  have ha : (lockStep c st id now).2 < (lockStep c st id now).1.next := by
    rw [lockStep_addr, lockStep_next]
    cases hv : st.visitors id with
    | none => exact Nat.lt_succ_self _
    | some e => exact hwf.1 id e hv
  have hle : st.next ≤ (lockStep c st id now).1.next := by
    rw [lockStep_next]
    cases st.visitors id with
    | none => exact Nat.le_succ _
    | some _ => exact Nat.le_refl _
  have hold := lockStep_other_some c st id
  constructor
  · intro i e he
    by_cases hi : i = id
    · subst hi; rw [hid] at he; cases he; exact ha
    · exact Nat.lt_of_lt_of_le (hwf.1 i e (hold i now hi e he)) hle
  · intro i j e f he hf heq
    by_cases hi : i = id <;> by_cases hj : j = id
    · rw [hi, hj]
    · subst hi; rw [hid] at he; cases he
      exact absurd heq.symm (lockStep_addr_ne c hwf now hj (hold j now hj f hf))
    · subst hj; rw [hid] at hf; cases hf
      exact absurd heq (lockStep_addr_ne c hwf now hi (hold i now hi e he))
    · exact hwf.2 i j e f (hold i now hi e he) (hold j now hj f hf) heq

theorem lockStep_bucket (c : Cfg) (st : SStore α) (id : α) (now : Nat) :
    (lockStep c st id now).1.heap (lockStep c st id now).2 =
      (lookupOrNew c ((absS st).visitors id)).b := by
  rw [lockStep_heap, lockStep_addr, absS_visitors]
  cases st.visitors id with
  | none => exact if_pos rfl
  | some _ => rfl

theorem tailStep_visitors (c : Cfg) (st : SStore α) (a tb : Nat) :
    (tailStep c st a tb).1.visitors = st.visitors ∧ (tailStep c st a tb).1.next = st.next ∧
      (tailStep c st a tb).1.lastCleanup = st.lastCleanup := ⟨rfl, rfl, rfl⟩

theorem tailStep_heap_self (c : Cfg) (st : SStore α) (a tb : Nat) :
    (tailStep c st a tb).1.heap a = (allowN c (st.heap a) tb).1 := if_pos rfl

theorem tailStep_heap_ne (c : Cfg) (st : SStore α) (a tb : Nat) {x : Nat} (h : x ≠ a) :
    (tailStep c st a tb).1.heap x = st.heap x := if_neg h

theorem tailStep_wf (c : Cfg) (st : SStore α) (hwf : WF st) (a tb : Nat) : WF (tailStep c st a tb).1 := hwf

/-- **refinement**: the locked part of `Allow` immediately followed by its own tail is `allow2` of the
    atomic model — same decision, same store (through `absS`), well-formedness kept -/
theorem C18_split_atomic (c : Cfg) (st : SStore α) (hwf : WF st) (id : α) (now tb : Nat) :
    (tailStep c (lockStep c st id now).1 (lockStep c st id now).2 tb).2 = (allow2 c (absS st) id now tb).2 ∧
    absS (tailStep c (lockStep c st id now).1 (lockStep c st id now).2 tb).1 = (allow2 c (absS st) id now tb).1 ∧
    WF (tailStep c (lockStep c st id now).1 (lockStep c st id now).2 tb).1 := by
  have hb := lockStep_bucket c st id now
  refine ⟨?_, Store.ext (funext fun i => ?_) ?_, tailStep_wf c _ (lockStep_wf c st hwf id now) _ _⟩
  · rw [allow2_ok, ← hb]; rfl
  · rw [absS_visitors, (tailStep_visitors c _ _ tb).1]
    by_cases hi : i = id
    · subst hi
      rw [lockStep_entry, allow2_self, ← hb]
      exact congrArg (fun b => some (Visitor.mk b now)) (tailStep_heap_self c _ _ tb)
    · have hheap : ∀ e, (lockStep c st id now).1.visitors i = some e →
          (tailStep c (lockStep c st id now).1 (lockStep c st id now).2 tb).1.heap e.addr =
            st.heap e.addr := by
        intro e he
        have he' := lockStep_other_some c st id i now hi e he
        rw [tailStep_heap_ne c _ _ tb (lockStep_addr_ne c hwf now hi he'),
          lockStep_heap_old c st id now (hwf.1 i e he')]
      rw [absE_congr hheap, lockStep_other c st id i now hi, allow2_other c _ id i now tb hi,
        absS_lastCleanup]
      split
      · exact absE_cleanupS c st.heap st.visitors now i
      · rfl
  · rw [absS_lastCleanup, (tailStep_visitors c _ _ tb).2.2, lockStep_lastCleanup, allow2_lastCleanup,
      absS_lastCleanup]

/-- a call of a schedule without overlap: goroutine, identifier, reading under the mutex, `AllowN` reading -/
structure Call (α : Type) where
  k : Nat
  id : α
  now : Nat
  tb : Nat

/-- the schedule in which every call runs to its end before the next one starts -/
def atomicSched : List (Call α) → List (SStep α)
  | [] => []
  | x :: xs => .lock x.k x.id x.now :: .tail x.k x.tb :: atomicSched xs

/-- **schedules without overlap are the atomic model**: their decisions are those of `run` on the
    `directAt` events — so `C18_window`, `C18_independent`, `C18_expiry_one_burst`, … speak about them -/
theorem C18_split_atomic_run (c : Cfg) (calls : List (Call α)) :
    ∀ (s : SState α), WF s.st →
      runS c s (atomicSched calls) =
        (run c (absS s.st) (calls.map fun x => ⟨x.now, .directAt x.tb, x.id⟩)).map (·.ran) := by
  induction calls with
  | nil => intro s _; rfl
  | cons x xs ih =>
    intro s hwf
    obtain ⟨h1, h2, h3⟩ := C18_split_atomic c s.st hwf x.id x.now x.tb
    simp only [atomicSched, runS, sstep, List.map, run, step, if_true]
    rw [ih _ h3, h2, h1]

/-! ## what holds under every interleaving -/

/-- the clock is monotone over the locked parts of a schedule (they are serialised by the mutex) -/
def LockMono : Nat → List (SStep α) → Prop
  | _, [] => True
  | hi, .lock _ _ now :: xs => hi ≤ now ∧ LockMono now xs
  | hi, .tail _ _ :: xs => LockMono hi xs

def decLockMono : ∀ (hi : Nat) (xs : List (SStep α)), Decidable (LockMono hi xs)
  | _, [] => isTrue trivial
  | hi, .lock _ _ now :: xs =>
    have := decLockMono now xs
    inferInstanceAs (Decidable (hi ≤ now ∧ LockMono now xs))
  | hi, .tail _ _ :: xs => decLockMono hi xs

instance (hi : Nat) (xs : List (SStep α)) : Decidable (LockMono hi xs) := decLockMono hi xs

/-- the reading of the last locked part -/
def endHi : Nat → List (SStep α) → Nat
  | hi, [] => hi
  | _, .lock _ _ now :: xs => endHi now xs
  | hi, .tail _ _ :: xs => endHi hi xs

theorem lockMono_append (xs ys : List (SStep α)) : ∀ hi, LockMono hi (xs ++ ys) →
    LockMono hi xs ∧ LockMono (endHi hi xs) ys := by
  induction xs with
  | nil => intro hi h; exact ⟨trivial, h⟩
  | cons x xs ih =>
    intro hi h
    cases x with
    | lock k id now =>
      obtain ⟨h1, h2⟩ := h
      obtain ⟨h3, h4⟩ := ih now h2
      exact ⟨⟨h1, h3⟩, h4⟩
    | tail k tb => exact ih hi h

/-- invariant of the store under every schedule: `hi` = newest locked reading; every locked part
    `(id, t)` of the history either still has its entry (with `lastSeen ≥ t`) or was swept by a
    sweep that ran later than `t + ExpiresIn` -/
def SInv (c : Cfg) (st : SStore α) (hi : Nat) (hist : List (α × Nat)) : Prop :=
  st.lastCleanup ≤ hi ∧ (∀ p ∈ hist, p.2 ≤ hi) ∧
  (∀ p ∈ hist, (∃ e, st.visitors p.1 = some e ∧ p.2 ≤ e.lastSeen) ∨ p.2 + c.expiresIn < st.lastCleanup)

theorem sinv_lock (c : Cfg) (st : SStore α) (hi : Nat) (hist : List (α × Nat)) (h : SInv c st hi hist)
    (id : α) (now : Nat) (hle : hi ≤ now) : SInv c (lockStep c st id now).1 now ((id, now) :: hist) := by
  obtain ⟨h1, h2, h3⟩ := h
  have hid := lockStep_entry c st id now
  have hlc : st.lastCleanup ≤ (lockStep c st id now).1.lastCleanup ∧
      (lockStep c st id now).1.lastCleanup ≤ now := by
    rw [lockStep_lastCleanup]
    split
    · exact ⟨Nat.le_trans h1 hle, Nat.le_refl _⟩
    · exact ⟨Nat.le_refl _, Nat.le_trans h1 hle⟩
  refine ⟨hlc.2, List.forall_mem_cons.mpr ⟨Nat.le_refl _, fun p hp => Nat.le_trans (h2 p hp) hle⟩,
    List.forall_mem_cons.mpr ⟨Or.inl ⟨_, hid, Nat.le_refl _⟩, fun p hp => ?_⟩⟩
  by_cases hpi : p.1 = id
  · left; rw [hpi]; exact ⟨_, hid, Nat.le_trans (h2 p hp) hle⟩
  · rcases h3 p hp with ⟨e, he, hle2⟩ | hsw
    · rcases lockStep_keeps c st now hpi he with hk | ⟨hgt, hnow⟩
      · exact Or.inl ⟨e, hk, hle2⟩
      · -- swept just now: last seen, hence entered, more than `ExpiresIn` ago
        right; rw [hnow]
        exact Nat.lt_of_le_of_lt (Nat.add_le_add_right hle2 _) (Nat.add_lt_of_lt_sub' hgt)
    · exact Or.inr (Nat.lt_of_lt_of_le hsw hlc.1)

/-- the locked parts of a schedule, newest first, in front of `hist` -/
def locksOnto : List (α × Nat) → List (SStep α) → List (α × Nat)
  | hist, [] => hist
  | hist, .lock _ id now :: xs => locksOnto ((id, now) :: hist) xs
  | hist, .tail _ _ :: xs => locksOnto hist xs

theorem mem_locksOnto (xs : List (SStep α)) : ∀ (hist : List (α × Nat)) (p : α × Nat),
    (p ∈ hist ∨ ∃ k, SStep.lock k p.1 p.2 ∈ xs) → p ∈ locksOnto hist xs := by
  induction xs with
  | nil =>
    intro hist p h
    exact h.elim id (fun ⟨_, hk⟩ => nomatch hk)
  | cons x xs ih =>
    intro hist p h
    cases x with
    | tail _ _ =>
      refine ih hist p (h.imp_right fun ⟨k, hk⟩ => ⟨k, ?_⟩)
      cases hk with
      | tail _ hk => exact hk
    | lock _ _ _ =>
      refine ih _ p ?_
      rcases h with hp | ⟨k, hk⟩
      · exact Or.inl (List.mem_cons_of_mem _ hp)
      · cases hk with
        | head => exact Or.inl List.mem_cons_self
        | tail _ hk => exact Or.inr ⟨k, hk⟩

theorem sinv_run (c : Cfg) (xs : List (SStep α)) : ∀ (s : SState α) (hi : Nat) (hist : List (α × Nat)),
    SInv c s.st hi hist → LockMono hi xs →
      SInv c (finalS c s xs).st (endHi hi xs) (locksOnto hist xs) := by
  induction xs with
  | nil => intro s hi hist h _; exact h
  | cons x xs ih =>
    intro s hi hist h hm
    cases x with
    | lock k id now =>
      obtain ⟨hle, hm'⟩ := hm
      exact ih _ now _ (sinv_lock c s.st hi hist h id now hle) hm'
    | tail k tb =>
      simp only [finalS, endHi, locksOnto]
      apply ih _ hi hist _ hm
      simp only [sstep]
      cases s.held k with
      | none => exact h
      | some a => exact h

theorem sinv_init (c : Cfg) (t0 : Nat) : SInv c (SState.init t0 : SState α).st t0 [] := by
  refine ⟨Nat.le_refl _, ?_, ?_⟩ <;> (intro p hp; cases hp)

/-- **a new limiter needs ExpiresIn of the identifier's own silence — under every interleaving.**
    Whatever the schedule (any number of goroutines parked between `Unlock` and `AllowN`, for any
    time; clock monotone over the locked parts): if the locked part of a call of `id` at reading
    `now` finds no entry (and therefore creates a fresh limiter with a full burst), then every
    earlier call of `id` entered the store more than `ExpiresIn` before `now`. -/
theorem C18_split_fresh_needs_idle (c : Cfg) (t0 : Nat) (pre : List (SStep α)) (k : Nat) (id : α) (now : Nat)
    (hm : LockMono t0 (pre ++ [.lock k id now]))
    (hfresh : (finalS c (SState.init t0) pre).st.visitors id = none) :
    ∀ k' now', SStep.lock k' id now' ∈ pre → now' + c.expiresIn < now := by
  intro k' now' hmem
  obtain ⟨hm1, hm2⟩ := lockMono_append pre _ t0 hm
  obtain ⟨h1, _, h3⟩ := sinv_run c pre (SState.init t0) t0 [] (sinv_init c t0) hm1
  have hle : endHi t0 pre ≤ now := hm2.1
  rcases h3 (id, now') (mem_locksOnto pre [] _ (Or.inr ⟨k', hmem⟩)) with ⟨e, he, _⟩ | hsw
  · rw [hfresh] at he; cases he
  · exact Nat.lt_of_lt_of_le hsw (Nat.le_trans h1 hle)

theorem lockStep_live (c : Cfg) (st : SStore α) {id id' : α} {a now t : Nat} (hnt : now ≤ t)
    (ht : t ≤ now + c.expiresIn) (hent : ∃ e, st.visitors id = some e ∧ e.addr = a ∧ now ≤ e.lastSeen) :
    ∃ e, (lockStep c st id' t).1.visitors id = some e ∧ e.addr = a ∧ now ≤ e.lastSeen := by
  obtain ⟨e, he, hea, hes⟩ := hent
  by_cases hi : id = id'
  · subst hi
    refine ⟨_, lockStep_entry c st id t, ?_, hnt⟩
    rw [lockStep_addr, he]; exact hea
  · rcases lockStep_keeps c st t hi he with hk | ⟨hgt, _⟩
    · exact ⟨e, hk, hea, hes⟩
    · -- a sweep at `t ≤ now + ExpiresIn` cannot find the entry stale
      exact absurd hgt (Nat.not_lt.mpr
        (Nat.le_trans (Nat.sub_le_sub_left hes t) (Nat.sub_le_iff_le_add'.mpr ht)))

theorem finalS_live (c : Cfg) {id : α} {a now : Nat} (mid : List (SStep α)) :
    ∀ (s : SState α) (hi : Nat), now ≤ hi → LockMono hi mid →
      (∀ k' id' t, SStep.lock k' id' t ∈ mid → t ≤ now + c.expiresIn) →
      (∃ e, s.st.visitors id = some e ∧ e.addr = a ∧ now ≤ e.lastSeen) →
      ∃ e, (finalS c s mid).st.visitors id = some e ∧ e.addr = a ∧ now ≤ e.lastSeen := by
  induction mid with
  | nil => intro s hi _ _ _ h; exact h
  | cons x xs ih =>
    intro s hi hhi hmono hw hent
    have hw' := fun k' id' t h => hw k' id' t (List.mem_cons_of_mem _ h)
    cases x with
    | tail k' tb =>
      apply ih _ hi hhi hmono hw'
      simp only [sstep]
      cases s.held k' with
      | none => exact hent
      | some a' => exact hent
    | lock k' id' t =>
      obtain ⟨hle, hmono'⟩ := hmono
      have hnt := Nat.le_trans hhi hle
      exact ih _ t hnt hmono' hw'
        (lockStep_live c s.st hnt (hw k' id' t List.mem_cons_self) hent)

/-- **a parked goroutine keeps working on the identifier's current limiter** as long as the locked
    parts that run while it is parked read instants at most `ExpiresIn` after its own: its entry is
    neither swept nor replaced (no orphan, no second limiter for the identifier). -/
theorem C18_split_live (c : Cfg) (s : SState α) (k : Nat) (id : α) (now : Nat) (mid : List (SStep α))
    (hm : LockMono now mid)
    (hwithin : ∀ k' id' t, SStep.lock k' id' t ∈ mid → t ≤ now + c.expiresIn) :
    ∃ e, (finalS c (sstep c s (.lock k id now)).1 mid).st.visitors id = some e ∧
      e.addr = (lockStep c s.st id now).2 ∧ now ≤ e.lastSeen :=
  finalS_live c mid _ now (Nat.le_refl _) hm hwithin
    ⟨_, lockStep_entry c s.st id now, rfl, Nat.le_refl _⟩

/-! ## instances -/

/-- rate 1/s, burst 3, ExpiresIn 10 s (the side condition holds: 10 s · 1/s ≥ 3) -/
def cfgSplit : Cfg := mkCfg ⟨1, 1, 3, 10000000000⟩

/-- B (id 2) spends its burst at 0; at 11 s a call of A (id 1) triggers the sweep and is parked
    before `AllowN`; B returns meanwhile: three calls on a NEW limiter (the old one was swept under
    the mutex), A's tail, then two more calls of B (refused) -/
def schedSweep : List (SStep Nat) :=
  [.lock 0 2 0, .tail 0 0, .lock 1 2 0, .tail 1 0, .lock 2 2 0, .tail 2 0,
   .lock 3 1 11000000000,
   .lock 4 2 11000000000, .tail 4 11000000000, .lock 5 2 11000000000, .tail 5 11000000000,
   .lock 6 2 11000000000, .tail 6 11000000000,
   .tail 3 11000000000,
   .lock 7 2 11000000000, .tail 7 11000000000, .lock 8 2 11000000000, .tail 8 11000000000]

example : runS cfgSplit (SState.init 0) schedSweep =
    [true, true, true, true, true, true, true, false, false] := by decide +kernel
example : LockMono 0 schedSweep := by decide +kernel
/-- hypotheses of `C18_split_fresh_needs_idle` met by a non-trivial instance: B's call at 11 s finds no entry -/
example : (finalS cfgSplit (SState.init 0) (schedSweep.take 7)).st.visitors 2 = none := by decide +kernel
/-- `C18_split_live`: A's parked goroutine (call 3) still owns A's entry after B's calls -/
example : ((finalS cfgSplit (SState.init 0) (schedSweep.take 13)).st.visitors 1).map (·.addr) = some 1 ∧
    (finalS cfgSplit (SState.init 0) (schedSweep.take 13)).held 3 = some 1 := by decide +kernel

/-- rate 1000/s, burst 1, ExpiresIn 1 ms (side condition: 1 ms · 1000/s ≥ 1) -/
def cfgStall : Cfg := mkCfg ⟨1000, 1, 1, 1000000⟩

/-- identifier 1: one call at 0 (admitted) and a second goroutine that passes the locked part at 0
    and then sleeps; at 1 ms + 1 ns another identifier's call sweeps identifier 1 away, identifier 1
    comes back on a fresh limiter, and the sleeper wakes up, reads the clock and draws on the orphan -/
def schedStall : List (SStep Nat) :=
  [.lock 0 1 0, .tail 0 0, .lock 1 1 0,
   .lock 2 2 1000001, .tail 2 1000001,
   .lock 3 1 1000001, .tail 3 1000001,
   .tail 1 1000001]

/-- **the bound on the parking time in `C18_split_live` is needed (finding F24 (b))**: a goroutine that
    sleeps longer than `ExpiresIn` between `Unlock` and its clock reading works on an orphaned
    limiter that has refilled, while the identifier's new calls draw on a fresh one: 3 admissions
    of identifier 1 within 1 000 001 ns although burst + rate · (d + 1 ns) = 1 + 1.000002 < 3.
    The side condition holds, the clock is monotone, the limiter sees its readings in order. -/
theorem C18_split_stall_false :
    cfgStall.full ≤ ((cfgStall.expiresIn * cfgStall.rateNum : Nat) : Int) ∧
    LockMono 0 schedStall ∧
    runS cfgStall (SState.init 0) schedStall = [true, true, true, true] ∧
    ¬ (3 * cfgStall.scale ≤ cfgStall.burst * cfgStall.scale + cfgStall.rateNum * (1000001 + 1)) := by
  decide +kernel

/-- rate 8/s, burst 1, ExpiresIn 125 ms (side condition: 125 ms · 8/s ≥ 1) -/
def cfgDelay : Cfg := mkCfg ⟨8, 1, 1, 125000000⟩

/-- identifier 1 passes the locked part at 0 and reads the clock 99.609375 ms later (admitted; its
    limiter counts from then, `lastSeen` stays 0); at 126.953125 ms a call of identifier 2 sweeps
    it away and identifier 1 returns -/
def schedDelay : List (SStep Nat) :=
  [.lock 0 1 0, .lock 1 2 99609375, .tail 1 99609375, .tail 0 99609375,
   .lock 2 2 126953125, .tail 2 126953125, .lock 3 1 126953125, .tail 3 126953125]

/-- **finding F24 (a)**: a delay SHORTER than `ExpiresIn` between `Unlock` and the clock reading makes
    the sweep forget the record that much early: identifier 1 is admitted at 99.609375 ms and again
    at 126.953125 ms — 2 admissions within 27 343 750 ns although burst + rate · (d + 1 ns) = 1.22.
    (`C18_split_live` is not contradicted: the entry survives WHILE the goroutine is parked.) -/
theorem C18_split_delay_false :
    cfgDelay.full ≤ ((cfgDelay.expiresIn * cfgDelay.rateNum : Nat) : Int) ∧
    LockMono 0 schedDelay ∧
    runS cfgDelay (SState.init 0) schedDelay = [true, true, false, true] ∧
    ¬ (2 * cfgDelay.scale ≤ cfgDelay.burst * cfgDelay.scale + cfgDelay.rateNum * (27343750 + 1)) := by
  decide +kernel

end C18
