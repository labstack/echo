import EchoProofs.C04
import EchoProofs.Lit
/-!
# C04 — "middleware added to a group after a route was registered does not apply to that route"

A route closes over the middleware list its group has at registration time (`C04_snapshot_add`), and no
later registration op other than `Echo.Host` for the same host (which installs a fresh router, i.e. removes
the route altogether) touches a route that is already registered.  Hence, for EVERY registration program
that continues after the route was added, the layers that go in for a request dispatched to that route are
`Pre ++ Use ++ snapshot-at-registration`: a middleware that is handed to the group (or to any group) only
later, and is not an Echo-level Pre/Use middleware, does not go in.
-/
namespace C04
open Router

def NotHost : Op → Prop
  | .host _ _ => False
  | _ => True

theorem foldl_exec_routes_append (ops : List Op) (hno : ∀ op ∈ ops, NotHost op) :
    ∀ c : Cfg, ∃ extra, (ops.foldl exec c).routes = c.routes ++ extra := by
  induction ops with
  | nil => intro c; exact ⟨[], by simp⟩
  | cons op ops ih =>
    intro c
    have h1 : ∀ n ms, op ≠ .host n ms := by
      intro n ms he
      have := hno op (by simp)
      subst he
      exact this
    obtain ⟨e1, he1⟩ := C04_routes_append_only c op h1
    obtain ⟨e2, he2⟩ := ih (fun o ho => hno o (by simp [ho])) (exec c op)
    exact ⟨e1 ++ e2, by simp only [List.foldl_cons, he2, he1, List.append_assoc]⟩

/-- **C04_registered_route_is_frozen** — whatever is registered afterwards (groups, `Group.Use`, more
    routes, Echo-level `Pre`/`Use`), the record of an already registered route — its handler and the
    middleware snapshot it closed over — stays what it was. -/
theorem C04_registered_route_is_frozen (c : Cfg) (ops : List Op) (hno : ∀ op ∈ ops, NotHost op)
    (k : Nat) (r : RouteRec) (hk : c.routes[k]? = some r) :
    (ops.foldl exec c).routes[k]? = some r := by
  obtain ⟨extra, he⟩ := foldl_exec_routes_append ops hno c
  rw [he, List.getElem?_append_left]
  · exact hk
  · exact (List.getElem?_eq_some_iff.mp hk).1

theorem selected_mws_of_dispatch (c : Cfg) (host method path : Str) (rm : RouteMethod) (vals : List Str)
    (r : RouteRec)
    (hf : find (build (tableOf c (if c.hosts.contains host then host else [])))
            method path (List.replicate (maxParam (tableOf c (if c.hosts.contains host then host else []))) [])
          = .dispatch rm vals)
    (hr : c.routes[rm.hid]? = some r) :
    (selected c host method path).2.2 = r.mws := by
  unfold selected
  simp only [hf, hr]
  split <;> rfl

/-- **C04_late_group_middleware_not_applied** — take any program `ops1`, a route
    registered next (through a group or on the Echo instance), and any continuation `ops2` without
    `Echo.Host`.  If a request is dispatched to that route (route number `k` of the final configuration
    is the record created by the `add`), then the middleware that go in are exactly
    `Pre ++ Use ++ (snapshot taken when the route was added)`; in particular a middleware id `i` that
    is neither an Echo-level Pre/Use middleware nor in that snapshot — e.g. one handed to the group by
    a later `Group.Use` — does not go in. -/
theorem C04_late_group_middleware_not_applied
    (ops1 ops2 : List Op) (g : Option Nat) (m p : Str) (hid : Nat) (fails : Bool) (ms : List Mw)
    (hno : ∀ op ∈ ops2, NotHost op)
    (k : Nat) (r : RouteRec)
    (hk : (exec (run ops1) (.add g m p hid fails ms)).routes[k]? = some r)
    (host method path : Str) (rm : RouteMethod) (vals : List Str)
    (hf : let c := ops2.foldl exec (exec (run ops1) (.add g m p hid fails ms))
          find (build (tableOf c (if c.hosts.contains host then host else [])))
            method (rewriteAll c.pre path)
            (List.replicate (maxParam (tableOf c (if c.hosts.contains host then host else []))) [])
          = .dispatch rm vals)
    (hrm : rm.hid = k) :
    let c := ops2.foldl exec (exec (run ops1) (.add g m p hid fails ms))
    enterIds (serve c host method path) = c.pre.map (·.id) ++ c.use ++ r.mws
    ∧ ∀ i : Mw, i ∉ c.pre.map (·.id) → i ∉ c.use → i ∉ r.mws →
        i ∉ enterIds (serve c host method path) := by
  intro c
  have hfrozen : c.routes[k]? = some r :=
    C04_registered_route_is_frozen _ ops2 hno k r hk
  have hsel : (selected c host method (rewriteAll c.pre path)).2.2 = r.mws :=
    selected_mws_of_dispatch c host method _ rm vals r hf (by rw [hrm]; exact hfrozen)
  have hE : enterIds (serve c host method path) = c.pre.map (·.id) ++ c.use ++ r.mws := by
    rw [C04_enter_order, layers, hsel]
  refine ⟨hE, ?_⟩
  intro i h1 h2 h3 hin
  rw [hE] at hin
  simp only [List.mem_append] at hin
  rcases hin with (h | h) | h
  · exact h1 h
  · exact h2 h
  · exact h3 h

/-- `C04_snapshot_add` in the form `hk` above asks for: the record is the LAST route -/
theorem add_creates_last (c : Cfg) (gid : Nat) (gr : Group) (hg : c.groups[gid]? = some gr)
    (m p : Str) (hid : Nat) (fails : Bool) (ms : List Mw) :
    ∃ r, (exec c (.add (some gid) m p hid fails ms)).routes[c.routes.length]? = some r
      ∧ r.mws = gr.mws ++ ms ∧ r.hid = hid := by
  obtain ⟨r, h1, h2, h3⟩ := C04_snapshot_add c gid gr hg m p hid fails ms
  exact ⟨r, by rw [h1]; simp, h2, h3⟩

/-! ### group `/g` with middleware 1, route `/g/x`, then `Group.Use(2)` -/

def demoLate1 : List Op := [.group none "/g".toList [1]]
def demoLate2 : List Op := [.groupUse 0 [2], .use 9]

example : (∀ op ∈ demoLate2, NotHost op) := by
  intro op h
  simp only [demoLate2, List.mem_cons, List.mem_nil_iff, or_false] at h
  rcases h with h | h <;> subst h <;> trivial

example :
    enterIds (serve (demoLate2.foldl exec (exec (run demoLate1) (.add (some 0) "GET".toList "/x".toList 5 false [])))
      [] "GET".toList "/g/x".toList) = [9, 1] := by
  unfold demoLate1 demoLate2; lit_chars; decide +kernel

/-- … while the refreshed catch-all of the group does carry the later middleware (a request the route
    does not claim) -/
example :
    enterIds (serve (demoLate2.foldl exec (exec (run demoLate1) (.add (some 0) "GET".toList "/x".toList 5 false [])))
      [] "GET".toList "/g/other".toList) = [9, 1, 2] := by
  unfold demoLate1 demoLate2; lit_chars; decide +kernel

end C04
