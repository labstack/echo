import EchoModel.C01
import EchoProofs.Spec.Sound
import EchoProofs.Lit
/-!
# C01 — a dispatched route really matches the path; parameters reconstruct it

Theorems on the reference search (layer L1; `EchoProofs/Tree/*` proves that the radix-tree model of
router.go gives the same outcomes for every table of representable patterns, `find_eq_route_ok`, and
transports the statements: `tree_sound_ok`).  The full-strength statement `Sound` is false of the code (and
of the model that mirrors it) because of the fallback to the custom not-found route of the best position
(finding F3; `C01_full_statement_fails_F3` is a concrete witness, replayed on the implementation by the
corpus); `C01_sound_partial` is the statement with that case set apart.
-/
namespace C01
open Router.Spec
open Router (Str routeNotFound Route)

/-- the full-strength statement of C01 for a table -/
def Sound (es : List Entry) : Prop :=
  ∀ m path e vals, route es m path = .dispatch e vals →
    e ∈ es ∧ inst e.toks vals = some path ∧ SlashFree e.toks vals ∧ vals.length = arity e.toks

/-- **C01_sound_partial** — whatever is dispatched is a registered route that is either hit directly, and then
    its pattern instantiated with the values the handler sees is the request path, with one value per marker and
    no `/` in a parameter followed by more text; or it is the custom not-found route of the best position
    (finding F3): its pattern matches the path for some values, but the handler sees blank ones. -/
theorem C01_sound_partial (es : List Entry) (m path : Str) (e : Entry) (vals : List Str)
    (h : route es m path = .dispatch e vals) :
    (e ∈ es ∧ inst e.toks vals = some path ∧ SlashFree e.toks vals ∧ vals.length = arity e.toks)
    ∨ (e.method = routeNotFound ∧ e ∈ es ∧ (∃ w, inst e.toks w = some path)
        ∧ vals = e.pnames.map (fun _ => [])) := by
  rcases finish_dispatch h with hit | ⟨bl, hs, hnf, rfl⟩
  · left
    obtain ⟨w, hv, ts, hmem, hi, hsf⟩ := search_sound m _ _ _ _ _ e vals hit
    cases hv
    obtain ⟨he, rfl⟩ := mem_initial hmem
    exact ⟨he, hi, hsf, inst_length hi⟩
  · right
    obtain ⟨hmem, hm⟩ := findNF_some hnf
    rcases search_best_covers m _ _ _ _ _ bl (congrArg Prod.snd hs) with hc | hc
    · cases hc
    · obtain ⟨w, ts, hmem', hi, _⟩ := hc e hmem
      obtain ⟨he, rfl⟩ := mem_initial hmem'
      exact ⟨hm, he, ⟨w, hi⟩, rfl⟩

def Factor (v p : Str) : Prop := ∃ a b, p = a ++ v ++ b

theorem inst_values_factors {ts : List Tok} {vs : List Str} {p : Str} (h : inst ts vs = some p) :
    ∀ v ∈ vs, Factor v p := by
  induction ts generalizing vs p with
  | nil => rw [(inst_nil_iff.mp h).1]; intro v hv; cases hv
  | cons t ts ih =>
    -- a marker contributes its value in front of what the rest of the pattern gives
    have marker : t = .param ∨ t = .any → ∀ v ∈ vs, Factor v p := by
      intro ht v hv
      obtain ⟨v0, vs, q, rfl, hq, rfl⟩ := (inst_marker_iff ht).mp h
      rcases List.mem_cons.mp hv with rfl | hv
      · exact ⟨[], q, by simp⟩
      · obtain ⟨a, b, rfl⟩ := ih hq v hv
        exact ⟨v0 ++ a, b, by simp⟩
    cases t with
    | lit c =>
      obtain ⟨q, hq, rfl⟩ := inst_lit_iff.mp h
      intro v hv
      obtain ⟨a, b, rfl⟩ := ih hq v hv
      exact ⟨c :: a, b, by simp⟩
    | param => exact marker (.inl rfl)
    | any => exact marker (.inr rfl)

/-- **C01_values_are_factors** — every value the handler sees is a contiguous piece of this
    request's path — nothing from an abandoned branch or an earlier request — or blank, in the F3 fallback. -/
theorem C01_values_are_factors (es : List Entry) (m path : Str) (e : Entry) (vals : List Str)
    (h : route es m path = .dispatch e vals) : ∀ v ∈ vals, Factor v path := by
  rcases C01_sound_partial es m path e vals h with ⟨_, hi, _, _⟩ | ⟨_, _, _, rfl⟩
  · exact inst_values_factors hi
  · intro v hv
    simp only [List.mem_map] at hv
    obtain ⟨_, _, rfl⟩ := hv
    exact ⟨[], path, by simp⟩

def tbl (l : List (String × String)) : List Entry :=
  (l.zipIdx.map fun ((m, p), i) => (⟨m.toList, p.toList, i⟩ : Route)).map mkEntry

/-- **F3** — the full-strength statement fails: `GET /a/:id` + `RouteNotFound /a/:id`,
    `POST /a/7` runs the not-found handler with `id = ""`. -/
theorem C01_full_statement_fails_F3 :
    ¬ Sound (tbl [("GET", "/a/:id"), ("echo_route_not_found", "/a/:id")]) := by
  intro h
  have := h "POST".toList "/a/7".toList
    (mkEntry ⟨"echo_route_not_found".toList, "/a/:id".toList, 1⟩) [[]] (by
      simp only [tbl, List.zipIdx_cons, List.zipIdx_nil, List.map_cons, List.map_nil]
      lit_chars
      decide +kernel)
  exact absurd this.2.1 (by lit_chars; decide +kernel)

example : route (tbl [("GET", "/a/:id/b"), ("GET", "/a/*")]) "GET".toList "/a/7/c".toList
    = .dispatch (mkEntry ⟨"GET".toList, "/a/*".toList, 1⟩) ["7/c".toList] := by
  simp only [tbl, List.zipIdx_cons, List.zipIdx_nil, List.map_cons, List.map_nil]
  lit_chars
  decide +kernel
example : inst (mkEntry ⟨"GET".toList, "/a/:id/b".toList, 0⟩).toks ["7".toList] = some "/a/7/b".toList := by
  lit_chars; decide +kernel

end C01
