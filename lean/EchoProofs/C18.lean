import EchoModel.C18
/-!
# C18 — theorems about the rate-limiter model

Notation: `N = c.rateNum`, `S = c.scale = rateDen * 10^9` (one token), `full = burst * S`.
All token quantities are scaled by `S`, so `count * S ≤ burst * S + N * (d + 1)` reads
`count ≤ burst + rate * (d + 1 ns)`.

`hexp : c.full ≤ c.expiresIn * c.rateNum` is the property's side condition
`ExpiresIn * rate ≥ burst`.
-/
namespace C18

set_option linter.unusedSectionVars false

variable {α : Type} [DecidableEq α]

/-! ## the bucket -/

theorem full_nonneg (c : Cfg) : 0 ≤ c.full := Int.natCast_nonneg _

theorem neg_rate_le_full (c : Cfg) : -(c.rateNum : Int) ≤ c.full :=
  Int.le_trans (Int.neg_nonpos_of_nonneg (Int.natCast_nonneg _)) (full_nonneg c)

theorem mul_split (n : Nat) {a b d : Nat} (h1 : a ≤ b) (h2 : b ≤ d) :
    n * (d - a) = n * (b - a) + n * (d - b) := by
  rw [← Nat.mul_add, Nat.add_comm, Nat.sub_add_sub_cancel h2 h1]

theorem mul_sub_le (n a t t' : Nat) : n * (t' - a) ≤ n * (t - a) + n * (t' - t) := by
  rw [← Nat.mul_add]
  refine Nat.mul_le_mul_left _ (Nat.sub_le_iff_le_add.mpr ?_)
  rw [Nat.add_right_comm, Nat.add_comm _ (t' - t)]
  exact Nat.le_trans (Nat.sub_le_iff_le_add.mp (Nat.le_refl _))
    (Nat.add_le_add_left (Nat.sub_le_iff_le_add.mp (Nat.le_refl _)) _)

theorem advance_eq (c : Cfg) (b : Bucket) (t : Nat) :
    advance c b t = min c.full (b.tok + ((c.rateNum * (t - b.last) : Nat) : Int)) := by
  rw [Int.min_comm, Int.min_def]; unfold advance; simp only [GT.gt, ← Int.not_lt, ite_not]

theorem advance_le_full (c : Cfg) (b : Bucket) (t : Nat) : advance c b t ≤ c.full := by
  rw [advance_eq]; exact Int.min_le_left _ _

theorem advance_le (c : Cfg) (b : Bucket) (t : Nat) :
    advance c b t ≤ b.tok + ((c.rateNum * (t - b.last) : Nat) : Int) := by
  rw [advance_eq]; exact Int.min_le_right _ _

theorem le_advance {c : Cfg} {b : Bucket} {t : Nat} {x : Int} (h1 : x ≤ c.full)
    (h2 : x ≤ b.tok + ((c.rateNum * (t - b.last) : Nat) : Int)) : x ≤ advance c b t := by
  rw [advance_eq]; exact Int.le_min.mpr ⟨h1, h2⟩

theorem advance_fresh (c : Cfg) (t : Nat) : advance c (fresh c) t = c.full :=
  Int.le_antisymm (advance_le_full _ _ _)
    (le_advance (Int.le_refl _) (Int.le_add_of_nonneg_right (Int.natCast_nonneg _)))

theorem advance_self (c : Cfg) (x : Int) (t : Nat) (h : x ≤ c.full) : advance c ⟨x, t⟩ t = x := by
  rw [advance_eq, Nat.sub_self, Nat.mul_zero, Int.natCast_zero, Int.add_zero]
  exact Int.min_eq_right h

theorem advance_lower (c : Cfg) (b : Bucket) (t : Nat) (h : -(c.rateNum : Int) ≤ b.tok) :
    -(c.rateNum : Int) ≤ advance c b t :=
  le_advance (neg_rate_le_full c)
    (Int.le_trans h (Int.le_add_of_nonneg_right (Int.natCast_nonneg _)))

/-- between any two instants the level rises by at most the refill (`t' - t` is truncated: read
    backwards, the level never falls as time passes) -/
theorem advance_step (c : Cfg) (b : Bucket) (t t' : Nat) :
    advance c b t' ≤ advance c b t + ((c.rateNum * (t' - t) : Nat) : Int) := by
  -- at `t` the bucket is either full, and stays so, or below, and gains at most the refill
  rw [advance_eq c b t, Int.min_def]
  split
  · exact Int.le_trans (advance_le_full c b t')
      (Int.le_add_of_nonneg_right (Int.natCast_nonneg _))
  · rw [Int.add_assoc, ← Int.natCast_add]
    exact Int.le_trans (advance_le c b t')
      (Int.add_le_add_left (Int.ofNat_le.mpr (mul_sub_le _ _ _ _)) _)

theorem allowN_spec (c : Cfg) (b : Bucket) (t : Nat) :
    ((allowN c b t).2 = true ∧ (allowN c b t).1 = ⟨advance c b t - c.scale, t⟩ ∧
        1 ≤ c.burst ∧ -(c.rateNum : Int) ≤ advance c b t - c.scale ∧
        (0 ≤ advance c b t - (c.scale : Int) ∨ -(advance c b t - (c.scale : Int)) < c.rateNum)) ∨
    ((allowN c b t).2 = false ∧ (allowN c b t).1 = b ∧
        (c.burst = 0 ∨ (advance c b t - (c.scale : Int) < 0 ∧
          (c.rateNum : Int) ≤ -(advance c b t - (c.scale : Int))))) := by
  unfold allowN
  simp only
  generalize advance c b t - (c.scale : Int) = x
  split
  · next h =>
    left
    simp only [Bool.and_eq_true, Bool.or_eq_true, decide_eq_true_eq] at h
    refine ⟨rfl, rfl, h.1, h.2.elim (fun h2 => ?_) (fun h2 => Int.le_of_lt (Int.neg_lt_of_neg_lt h2)), h.2⟩
    exact Int.le_trans (Int.neg_nonpos_of_nonneg (Int.natCast_nonneg _)) h2
  · next h =>
    right
    simp only [Bool.and_eq_true, Bool.or_eq_true, decide_eq_true_eq, not_and, not_or] at h
    refine ⟨rfl, rfl, ?_⟩
    by_cases hb : c.burst = 0
    · exact Or.inl hb
    · have := h (Nat.pos_of_ne_zero hb)
      exact Or.inr ⟨Int.not_le.mp this.1, Int.not_lt.mp this.2⟩

theorem allowN_refused (c : Cfg) (b : Bucket) (t : Nat) (h : (allowN c b t).2 = false) :
    (allowN c b t).1 = b := by
  rcases allowN_spec c b t with ⟨hok, _⟩ | ⟨_, hb, _⟩
  · rw [hok] at h; cases h
  · exact hb

theorem allowN_congr (c : Cfg) (b b' : Bucket) (t : Nat) (h : advance c b t = advance c b' t) :
    (allowN c b t).2 = (allowN c b' t).2 := by
  unfold allowN; simp only [h]; split <;> rfl

/-! ## the store: potential function and invariant -/

/-- `level c (visitors id) t`: the level of `id`'s bucket advanced to `t`; an identifier the
    store does not know has a full bucket -/
def level (c : Cfg) (o : Option Visitor) (t : Nat) : Int :=
  match o with
  | some v => advance c v.b t
  | none => c.full

def VInv (c : Cfg) (now : Nat) (v : Visitor) : Prop :=
  v.b.last ≤ v.lastSeen ∧ v.lastSeen ≤ now ∧ -(c.rateNum : Int) ≤ v.b.tok ∧ v.b.tok ≤ c.full

/-- invariant of every reachable store at (or after) instant `now` -/
def Inv (c : Cfg) (st : Store α) (now : Nat) : Prop :=
  ∀ i v, st.visitors i = some v → VInv c now v

theorem inv_init (c : Cfg) (t0 now : Nat) : Inv c (Store.init t0 : Store α) now :=
  fun _ _ h => nomatch h

theorem Inv.mono {c : Cfg} {st : Store α} {now now' : Nat} (h : Inv c st now) (hle : now ≤ now') :
    Inv c st now' := by
  intro i v hv
  obtain ⟨a, b, d, e⟩ := h i v hv
  exact ⟨a, Nat.le_trans b hle, d, e⟩

theorem level_le_full (c : Cfg) (o : Option Visitor) (t : Nat) : level c o t ≤ c.full := by
  cases o with
  | none => exact Int.le_refl _
  | some v => exact advance_le_full c v.b t

theorem level_step (c : Cfg) (o : Option Visitor) (t t' : Nat) :
    level c o t' ≤ level c o t + ((c.rateNum * (t' - t) : Nat) : Int) := by
  cases o with
  | none => exact Int.le_add_of_nonneg_right (Int.natCast_nonneg _)
  | some v => exact advance_step c v.b t t'

theorem level_lower (c : Cfg) (o : Option Visitor) (now t : Nat)
    (h : ∀ v, o = some v → VInv c now v) : -(c.rateNum : Int) ≤ level c o t := by
  cases o with
  | none => exact neg_rate_le_full c
  | some v => exact advance_lower c v.b t (h v rfl).2.2.1

theorem level_lookupOrNew (c : Cfg) (o : Option Visitor) (t : Nat) :
    advance c (lookupOrNew c o).b t = level c o t := by
  cases o with
  | none => exact advance_fresh c t
  | some v => rfl

/-- a visitor that `cleanupStaleVisitors` drops has a full bucket (needs `ExpiresIn*rate ≥ burst`) -/
theorem stale_is_full (c : Cfg) (hexp : c.full ≤ ((c.expiresIn * c.rateNum : Nat) : Int))
    (v : Visitor) (now t τ : Nat) (hv : VInv c now v) (hτ : t ≤ τ)
    (hstale : t - v.lastSeen > c.expiresIn) : advance c v.b τ = c.full := by
  obtain ⟨h1, _, h3, _⟩ := hv
  -- more than `ExpiresIn` has passed since `last`, and the deficit is below `rate * 1ns`
  have hgap : c.expiresIn + 1 ≤ τ - v.b.last :=
    Nat.le_trans hstale (Nat.le_trans (Nat.sub_le_sub_right hτ _) (Nat.sub_le_sub_left h1 _))
  have hmul := Nat.mul_le_mul_left c.rateNum hgap
  rw [Nat.mul_add, Nat.mul_one, Nat.mul_comm] at hmul
  clear hgap hstale hτ h1
  exact Int.le_antisymm (advance_le_full _ _ _) (le_advance (Int.le_refl _) (by omega))

/-- the sweep changes nobody's level (so it is unobservable), for every reachable store -/
theorem C18_sweep_unobservable (c : Cfg) (hexp : c.full ≤ ((c.expiresIn * c.rateNum : Nat) : Int))
    (st : Store α) (now : Nat) (hinv : Inv c st now) (t τ : Nat) (hτ : t ≤ τ) (i : α) :
    level c (cleanup c st.visitors t i) τ = level c (st.visitors i) τ := by
  simp only [cleanup]
  cases hv : st.visitors i with
  | none => rfl
  | some v =>
    simp only
    split
    · next hst => exact (stale_is_full c hexp v now t τ (hinv i v hv) hτ hst).symm
    · rfl

theorem cleanup_some {c : Cfg} {vis : α → Option Visitor} {now : Nat} {i : α} {v : Visitor}
    (h : cleanup c vis now i = some v) : vis i = some v := by
  unfold cleanup at h
  split at h
  · split at h
    · cases h
    · cases h; assumption
  · cases h

/-! ### `Allow`, projected on one identifier -/

/-- at the store: the decision of a call with a separate `AllowN` reading `tb` is that of the
    identifier's limiter at `tb` -/
theorem allow2_ok (c : Cfg) (st : Store α) (id : α) (now tb : Nat) :
    (allow2 c st id now tb).2 = (allowN c (lookupOrNew c (st.visitors id)).b tb).2 := rfl

theorem allow2_self (c : Cfg) (st : Store α) (id : α) (now tb : Nat) :
    (allow2 c st id now tb).1.visitors id =
      some ⟨(allowN c (lookupOrNew c (st.visitors id)).b tb).1, now⟩ := by
  simp only [allow2, ite_true]
  split <;> simp [cleanup, setBucket]

theorem allow2_other (c : Cfg) (st : Store α) (id i : α) (now tb : Nat) (h : i ≠ id) :
    (allow2 c st id now tb).1.visitors i =
      if now - st.lastCleanup > c.expiresIn then cleanup c st.visitors now i else st.visitors i := by
  by_cases hs : now - st.lastCleanup > c.expiresIn <;> simp [allow2, h, hs, cleanup]

theorem allow2_lastCleanup (c : Cfg) (st : Store α) (id : α) (now tb : Nat) :
    (allow2 c st id now tb).1.lastCleanup =
      if now - st.lastCleanup > c.expiresIn then now else st.lastCleanup := by
  by_cases hs : now - st.lastCleanup > c.expiresIn <;> simp [allow2, hs]

theorem allow_ok (c : Cfg) (st : Store α) (id : α) (t : Nat) :
    (allow c st id t).2 = (allowN c (lookupOrNew c (st.visitors id)).b t).2 := rfl

theorem allow_self (c : Cfg) (st : Store α) (id : α) (t : Nat) :
    (allow c st id t).1.visitors id =
      some ⟨(allowN c (lookupOrNew c (st.visitors id)).b t).1, t⟩ :=
  allow2_self c st id t t

theorem allow_other (c : Cfg) (st : Store α) (id i : α) (t : Nat) (h : i ≠ id) :
    (allow c st id t).1.visitors i =
      if t - st.lastCleanup > c.expiresIn then cleanup c st.visitors t i else st.visitors i :=
  allow2_other c st id i t t h

theorem allow_other_some {c : Cfg} {st : Store α} {id i : α} {t : Nat} {v : Visitor} (h : i ≠ id)
    (hv : (allow c st id t).1.visitors i = some v) : st.visitors i = some v := by
  rw [allow_other _ _ _ _ _ h] at hv
  split at hv
  · exact cleanup_some hv
  · exact hv

/-- **the step lemma**: what one `Allow(id)` at instant `t` does to the level of any
    identifier `i` at any later instant `τ`: the caller's own bucket loses exactly one token
    iff the call is admitted; nobody else's level changes — not even by the sweep. -/
theorem allow_level (c : Cfg) (hexp : c.full ≤ ((c.expiresIn * c.rateNum : Nat) : Int))
    (st : Store α) (now : Nat) (hinv : Inv c st now) (id : α) (t : Nat) (i : α) (τ : Nat) (hτ : t ≤ τ) :
    level c ((allow c st id t).1.visitors i) τ =
      if id = i ∧ (allow c st id t).2 = true
      then advance c ⟨level c (st.visitors id) t - c.scale, t⟩ τ
      else level c (st.visitors i) τ := by
  by_cases hi : i = id
  · subst hi
    rw [allow_self, allow_ok]
    rcases allowN_spec c (lookupOrNew c (st.visitors i)).b t with ⟨hok, hb, _⟩ | ⟨hok, hb, _⟩
    · simp only [hok, and_self, ite_true, level, hb, level_lookupOrNew]
    · simp only [hok, level, hb, level_lookupOrNew]; simp
  · rw [if_neg (fun h : id = i ∧ _ => hi h.1.symm), allow_other _ _ _ _ _ hi]
    split
    · exact C18_sweep_unobservable c hexp st now hinv t τ hτ i
    · rfl

/-- at the instant of the call itself: the caller's level drops by one token iff admitted (the
    subtrahend is the summand of `admittedIn`, in tokens) -/
theorem allow_level_self (c : Cfg) (hexp : c.full ≤ ((c.expiresIn * c.rateNum : Nat) : Int))
    (st : Store α) (now : Nat) (hinv : Inv c st now) (id : α) (t : Nat) (i : α) :
    level c ((allow c st id t).1.visitors i) t =
      level c (st.visitors i) t -
        (((if id = i ∧ (allow c st id t).2 = true then 1 else 0) * c.scale : Nat) : Int) := by
  rw [allow_level c hexp st now hinv id t i t (Nat.le_refl _)]
  split
  · next h =>
    rw [← h.1, Nat.one_mul, advance_self c _ _ (Int.le_trans
      (Int.sub_le_self _ (Int.natCast_nonneg _)) (level_le_full c _ t))]
  · rw [Nat.zero_mul]; exact (Int.sub_zero _).symm

theorem allow_inv (c : Cfg) (st : Store α) (now : Nat) (hinv : Inv c st now) (id : α) (t : Nat)
    (hle : now ≤ t) : Inv c (allow c st id t).1 t := by
  intro i v hv
  by_cases hi : i = id
  · subst hi
    rw [allow_self] at hv
    cases hv
    -- the limiter the call works on: the visitor's, or a fresh one
    have hold : VInv c t ⟨(lookupOrNew c (st.visitors i)).b, t⟩ := by
      cases hs : st.visitors i with
      | none => exact ⟨Nat.zero_le _, Nat.le_refl _, neg_rate_le_full c, Int.le_refl _⟩
      | some w =>
        obtain ⟨a, b, d, e⟩ := hinv i w hs
        exact ⟨Nat.le_trans a (Nat.le_trans b hle), Nat.le_refl _, d, e⟩
    rcases allowN_spec c (lookupOrNew c (st.visitors i)).b t with ⟨_, hb, _, hlow, _⟩ | ⟨_, hb, _⟩
    · rw [hb]
      exact ⟨Nat.le_refl _, Nat.le_refl _, hlow, Int.le_trans
        (Int.sub_le_self _ (Int.natCast_nonneg _)) (advance_le_full _ _ _)⟩
    · rw [hb]; exact hold
  · exact (hinv.mono hle) i v (allow_other_some hi hv)

/-! ## histories -/

/-- the clock never goes back: every instant is ≥ the previous one (`now` = the last instant
    before the history) -/
def Mono : Nat → List (Nat × α) → Prop
  | _, [] => True
  | now, e :: es => now ≤ e.1 ∧ Mono e.1 es

def decMono : (now : Nat) → (es : List (Nat × α)) → Decidable (Mono now es)
  | _, [] => isTrue trivial
  | now, e :: es => have := decMono e.1 es; inferInstanceAs (Decidable (now ≤ e.1 ∧ Mono e.1 es))

instance (now : Nat) (es : List (Nat × α)) : Decidable (Mono now es) := decMono now es

/-- the successive results of `Allow` on a history of calls `(instant, identifier)` -/
def decisions (c : Cfg) : Store α → List (Nat × α) → List Bool
  | _, [] => []
  | st, e :: es => (allow c st e.2 e.1).2 :: decisions c (allow c st e.2 e.1).1 es

def after (c : Cfg) : Store α → List (Nat × α) → Store α
  | st, [] => st
  | st, e :: es => after c (allow c st e.2 e.1).1 es

/-- number of calls of `id` with instant in `[t1, t2]` that were admitted -/
def admittedIn (c : Cfg) (id : α) (t1 t2 : Nat) : Store α → List (Nat × α) → Nat
  | _, [] => 0
  | st, e :: es =>
    (if e.2 = id ∧ (allow c st e.2 e.1).2 = true ∧ t1 ≤ e.1 ∧ e.1 ≤ t2 then 1 else 0)
      + admittedIn c id t1 t2 (allow c st e.2 e.1).1 es

/-- `admittedIn` is the obvious count over the observable trace -/
theorem admittedIn_eq_count (c : Cfg) (id : α) (t1 t2 : Nat) (es : List (Nat × α)) :
    ∀ st : Store α, admittedIn c id t1 t2 st es =
      ((es.zip (decisions c st es)).filter
        (fun p => decide (p.1.2 = id ∧ p.2 = true ∧ t1 ≤ p.1.1 ∧ p.1.1 ≤ t2))).length := by
  induction es with
  | nil => intro st; rfl
  | cons e es ih =>
    intro st
    simp only [admittedIn, decisions, List.zip_cons_cons, List.filter_cons, ih]
    split
    · next h => rw [if_pos (decide_eq_true h), List.length_cons, Nat.add_comm]
    · next h => rw [if_neg (fun hd => h (of_decide_eq_true hd)), Nat.zero_add]

theorem reachable_inv (c : Cfg) (es : List (Nat × α)) :
    ∀ (st : Store α) (now : Nat), Inv c st now → Mono now es → ∃ now', Inv c (after c st es) now' := by
  induction es with
  | nil => intro st now h _; exact ⟨now, h⟩
  | cons e es ih => intro st now h ⟨h1, h2⟩; exact ih _ e.1 (allow_inv c st now h e.2 e.1 h1) h2

/-! ## C18_window -/

/-- bound carried through the induction (the sum of DESIGN A.6, cut at `now`): what `id` can
    still be admitted in `[t1, t2]` from instant `now` on, in scaled tokens -/
def bound (c : Cfg) (id : α) (t1 t2 : Nat) (st : Store α) (now : Nat) : Int :=
  if t2 < now then 0
  else if now < t1 then c.full + c.rateNum + ((c.rateNum * (t2 - t1) : Nat) : Int)
  else level c (st.visitors id) now + c.rateNum + ((c.rateNum * (t2 - now) : Nat) : Int)

theorem bound_before {c : Cfg} {id : α} {t1 t2 : Nat} {st : Store α} {now : Nat} (h : ¬ t2 < now)
    (h' : now < t1) :
    bound c id t1 t2 st now = c.full + c.rateNum + ((c.rateNum * (t2 - t1) : Nat) : Int) := by
  rw [bound, if_neg h, if_pos h']

theorem bound_in {c : Cfg} {id : α} {t1 t2 : Nat} {st : Store α} {now : Nat} (h : ¬ t2 < now)
    (h' : ¬ now < t1) :
    bound c id t1 t2 st now =
      level c (st.visitors id) now + c.rateNum + ((c.rateNum * (t2 - now) : Nat) : Int) := by
  rw [bound, if_neg h, if_neg h']

theorem bound_nonneg (c : Cfg) (id : α) (t1 t2 : Nat) (st : Store α) (now : Nat)
    (hinv : Inv c st now) : 0 ≤ bound c id t1 t2 st now := by
  unfold bound
  split
  · exact Int.le_refl _
  · split
    · exact Int.add_nonneg (Int.add_nonneg (full_nonneg c) (Int.natCast_nonneg _))
        (Int.natCast_nonneg _)
    · have := level_lower c (st.visitors id) now now (hinv id)
      exact Int.add_nonneg (by omega) (Int.natCast_nonneg _)

/-- one call at `t ≥ now`: what it takes from the window (one token, if it is an admitted call
    of `id` inside the window) is no more than what the bound loses -/
theorem bound_step (c : Cfg) (hexp : c.full ≤ ((c.expiresIn * c.rateNum : Nat) : Int))
    (id : α) (t1 t2 : Nat) (st : Store α) (now : Nat) (hinv : Inv c st now) (i : α) (t : Nat)
    (hle : now ≤ t) :
    (((if i = id ∧ (allow c st i t).2 = true ∧ t1 ≤ t ∧ t ≤ t2 then 1 else 0) * c.scale : Nat) : Int)
      + bound c id t1 t2 (allow c st i t).1 t ≤ bound c id t1 t2 st now := by
  by_cases h2 : t2 < t
  · -- this call and all later ones are after the window
    rw [bound, if_pos h2, if_neg (fun h => Nat.not_le.mpr h2 h.2.2.2), Nat.zero_mul]
    exact bound_nonneg c id t1 t2 st now hinv
  · have h2n : ¬ t2 < now := fun h => h2 (Nat.lt_of_lt_of_le h hle)
    by_cases h1 : t < t1
    · -- still before the window
      rw [bound_before h2 h1, bound_before h2n (Nat.lt_of_le_of_lt hle h1),
        if_neg (fun h => Nat.not_le.mpr h1 h.2.2.1), Nat.zero_mul]
      exact Int.le_of_eq (Int.zero_add _)
    · -- inside the window: the level of `id` drops by what the call takes
      simp only [Nat.not_lt.mp h1, Nat.not_lt.mp h2, and_true]
      rw [bound_in h2 h1, allow_level_self c hexp st now hinv i t id]
      -- `omega` reads every hypothesis in the context; those it has no use for go first
      clear hinv hexp
      by_cases h1n : now < t1
      · rw [bound_before h2n h1n]
        have := level_le_full c (st.visitors id) t
        have : c.rateNum * (t2 - t) ≤ c.rateNum * (t2 - t1) :=
          Nat.mul_le_mul_left _ (Nat.sub_le_sub_left (Nat.not_lt.mp h1) _)
        omega
      · rw [bound_in h2n h1n]
        have := level_step c (st.visitors id) now t
        have := mul_split c.rateNum hle (Nat.not_lt.mp h2)
        omega

/-- the window bound from ANY store that satisfies the invariant at `now`, for the history still
    to come; `C18_window` is the empty store at the zero instant -/
theorem window_aux (c : Cfg) (hexp : c.full ≤ ((c.expiresIn * c.rateNum : Nat) : Int))
    (id : α) (t1 t2 : Nat) (es : List (Nat × α)) :
    ∀ (st : Store α) (now : Nat), Inv c st now → Mono now es →
      ((admittedIn c id t1 t2 st es * c.scale : Nat) : Int) ≤ bound c id t1 t2 st now := by
  induction es with
  | nil =>
    intro st now hinv _
    rw [admittedIn, Nat.zero_mul]
    exact bound_nonneg c id t1 t2 st now hinv
  | cons e es ih =>
    intro st now hinv ⟨hle, hm⟩
    have ih' := ih _ e.1 (allow_inv c st now hinv e.2 e.1 hle) hm
    have hstep := bound_step c hexp id t1 t2 st now hinv e.2 e.1 hle
    rw [admittedIn, Nat.add_mul, Int.natCast_add]
    exact Int.le_trans (Int.add_le_add_left ih' _) hstep

/-- for every configuration with `ExpiresIn*rate ≥ burst`, every history of
    `Allow` calls over any number of identifiers on a clock that never goes back, every
    identifier and every window `[t1, t2]`:

        admitted(id, [t1,t2])  ≤  burst + rate * (t2 - t1 + 1 ns)

    (scaled by `S`).  The `+ 1 ns` is the dependency's truncation slack (finding F11); the
    bound without it is false, see `C18_window_noslack_false`. -/
theorem C18_window (c : Cfg) (hexp : c.full ≤ ((c.expiresIn * c.rateNum : Nat) : Int))
    (t0 : Nat) (es : List (Nat × α)) (hm : Mono 0 es) (id : α) (t1 t2 : Nat) :
    admittedIn c id t1 t2 (Store.init t0) es * c.scale
      ≤ c.burst * c.scale + c.rateNum * (t2 - t1 + 1) := by
  have h := window_aux c hexp id t1 t2 es (Store.init t0) 0 (inv_init c t0 0) hm
  -- at the zero instant the store knows nobody: the level is `full` whether the window has begun or not
  have hb : bound c id t1 t2 (Store.init t0) 0 =
      ((c.burst * c.scale : Nat) : Int) + c.rateNum + ((c.rateNum * (t2 - t1) : Nat) : Int) := by
    by_cases h1 : 0 < t1
    · exact bound_before (Nat.not_lt_zero _) h1
    · obtain rfl : t1 = 0 := Nat.eq_zero_of_not_pos h1
      exact bound_in (Nat.not_lt_zero _) h1
  rw [hb] at h
  rw [Nat.mul_add, Nat.mul_one]
  clear hb hm hexp
  omega

/-! ## C18_independent -/

/-- a single token bucket fed with the instants of one identifier (no store, no expiry) -/
def bucketRun (c : Cfg) : Bucket → List Nat → List Bool
  | _, [] => []
  | b, t :: ts => (allowN c b t).2 :: bucketRun c (allowN c b t).1 ts

/-- the decisions the store took for `id`, in order -/
def decisionsFor (c : Cfg) (id : α) : Store α → List (Nat × α) → List Bool
  | _, [] => []
  | st, e :: es =>
    if e.2 = id then (allow c st e.2 e.1).2 :: decisionsFor c id (allow c st e.2 e.1).1 es
    else decisionsFor c id (allow c st e.2 e.1).1 es

theorem independent_aux (c : Cfg) (hexp : c.full ≤ ((c.expiresIn * c.rateNum : Nat) : Int))
    (id : α) (es : List (Nat × α)) :
    ∀ (st : Store α) (now : Nat) (b : Bucket), Inv c st now → Mono now es →
      (∀ τ, now ≤ τ → level c (st.visitors id) τ = advance c b τ) →
      decisionsFor c id st es = bucketRun c b ((es.filter (fun e => decide (e.2 = id))).map (·.1)) := by
  induction es with
  | nil => intros; rfl
  | cons e es ih =>
    intro st now b hinv ⟨hle, hm⟩ hsim
    obtain ⟨t, i⟩ := e
    have hinv' := allow_inv c st now hinv i t hle
    have hl := fun τ hτ => allow_level c hexp st now hinv i t id τ hτ
    by_cases hid : i = id
    · subst hid
      -- the store's limiter for `i` and `b` have the same level at `t`, hence decide alike
      have hdec : (allow c st i t).2 = (allowN c b t).2 := by
        rw [allow_ok]
        exact allowN_congr c _ _ t ((level_lookupOrNew c _ t).trans (hsim t hle))
      simp only [decisionsFor, ite_true, List.filter_cons, decide_true, List.map_cons, bucketRun]
      rw [hdec]
      congr 1
      refine ih _ t _ hinv' hm (fun τ hτ => ?_)
      rw [hl τ hτ, hdec, hsim t hle]
      rcases allowN_spec c b t with ⟨hok, hb, _⟩ | ⟨hok, hb, _⟩
      · rw [hok, hb, if_pos ⟨rfl, rfl⟩]
      · rw [hok, hb, if_neg (fun h => Bool.false_ne_true h.2)]
        exact hsim τ (Nat.le_trans hle hτ)
    · simp only [decisionsFor, hid, ite_false, List.filter_cons, decide_false]
      refine ih _ t b hinv' hm (fun τ hτ => ?_)
      rw [hl τ hτ, if_neg (fun h => hid h.1)]
      exact hsim τ (Nat.le_trans hle hτ)

/-- **C18_independent (refinement)** — the decisions the store takes for `id` are exactly
    those of ONE token bucket fed with `id`'s own arrival instants: other identifiers'
    traffic, the sweeps it triggers and `id`'s own expiry never change a decision.  In
    particular a request is refused only when `id`'s own bucket is used up. -/
theorem C18_independent_bucket (c : Cfg) (hexp : c.full ≤ ((c.expiresIn * c.rateNum : Nat) : Int))
    (t0 : Nat) (es : List (Nat × α)) (hm : Mono 0 es) (id : α) :
    decisionsFor c id (Store.init t0) es =
      bucketRun c (fresh c) ((es.filter (fun e => decide (e.2 = id))).map (·.1)) := by
  apply independent_aux c hexp id es (Store.init t0) 0 (fresh c) (inv_init c t0 0) hm
  intro τ _
  simp [Store.init, level, advance_fresh]

theorem Mono.weaken {now now' : Nat} {es : List (Nat × α)} (h : now' ≤ now) (hm : Mono now es) :
    Mono now' es := by
  cases es with
  | nil => trivial
  | cons e es => exact ⟨Nat.le_trans h hm.1, hm.2⟩

theorem mono_filter (p : Nat × α → Bool) (es : List (Nat × α)) :
    ∀ now, Mono now es → Mono now (es.filter p) := by
  induction es with
  | nil => intro _ _; trivial
  | cons e es ih =>
    intro now ⟨h1, h2⟩
    rw [List.filter_cons]
    split
    · exact ⟨h1, ih _ h2⟩
    · exact (ih _ h2).weaken h1

theorem decisionsFor_all (c : Cfg) (id : α) (es : List (Nat × α)) (h : ∀ e ∈ es, e.2 = id) :
    ∀ st : Store α, decisionsFor c id st es = decisions c st es := by
  induction es with
  | nil => intro _; rfl
  | cons e es ih =>
    intro st
    have he : e.2 = id := h e (by simp)
    simp only [decisionsFor, he, ite_true, decisions]
    rw [ih (fun x hx => h x (by simp [hx]))]

/-- the decisions for `id` in a history are the same as in the history
    from which every other identifier's traffic has been removed (possibly with a store
    constructed at another instant). -/
theorem C18_independent (c : Cfg) (hexp : c.full ≤ ((c.expiresIn * c.rateNum : Nat) : Int))
    (t0 t0' : Nat) (es : List (Nat × α)) (hm : Mono 0 es) (id : α) :
    decisionsFor c id (Store.init t0) es =
      decisions c (Store.init t0') (es.filter (fun e => decide (e.2 = id))) := by
  rw [C18_independent_bucket c hexp t0 es hm id]
  have hf : ∀ e ∈ es.filter (fun e => decide (e.2 = id)), e.2 = id := by
    intro e he; simpa using (List.mem_filter.mp he).2
  rw [← decisionsFor_all c id _ hf]
  rw [C18_independent_bucket c hexp t0' _ (mono_filter _ es 0 hm) id]
  simp [List.filter_filter]

/-! ## C18_expiry_one_burst -/

/-- in every reachable store, a visitor that the sweep at instant
    `t` forgets has a bucket that is already full at `t`: the fresh limiter it gets on its
    return (a full burst) is exactly what it would have had anyway, so expiry never grants
    anything. -/
theorem C18_expiry_one_burst (c : Cfg) (hexp : c.full ≤ ((c.expiresIn * c.rateNum : Nat) : Int))
    (t0 : Nat) (es : List (Nat × α)) (hm : Mono 0 es) (t : Nat)
    (i : α) (v : Visitor) (hv : (after c (Store.init t0) es).visitors i = some v)
    (hforgot : cleanup c (after c (Store.init t0) es).visitors t i = none) :
    advance c v.b t = c.full := by
  obtain ⟨now', hinv⟩ := reachable_inv c es (Store.init t0) 0 (inv_init c t0 0) hm
  simp only [cleanup, hv] at hforgot
  split at hforgot
  · next hst => exact stale_is_full c hexp v now' t t (hinv i v hv) (Nat.le_refl _) hst
  · simp at hforgot

/-! ## C18_middleware -/

/-- one request through `RateLimiterWithConfig`: the handler runs iff
    `Store.Allow` admitted (and the store is called exactly as by a direct call); a refused
    request is answered 429; an extractor error is answered 403 and a skipped request runs
    the handler, both without touching the store. -/
theorem C18_middleware (c : Cfg) (st : Store α) (t : Nat) (id : α) :
    ((step c st ⟨t, .http, id⟩).2.ran = (allow c st id t).2 ∧
      (step c st ⟨t, .http, id⟩).1 = (allow c st id t).1 ∧
      ((allow c st id t).2 = false → (step c st ⟨t, .http, id⟩).2.status = 429) ∧
      ((allow c st id t).2 = true → (step c st ⟨t, .http, id⟩).2.status = 200)) ∧
    ((step c st ⟨t, .httpErr, id⟩).1 = st ∧ (step c st ⟨t, .httpErr, id⟩).2 = ⟨false, 403⟩) ∧
    ((step c st ⟨t, .httpSkip, id⟩).1 = st ∧ (step c st ⟨t, .httpSkip, id⟩).2 = ⟨true, 200⟩) ∧
    ((step c st ⟨t, .direct, id⟩).1 = (allow c st id t).1 ∧
      (step c st ⟨t, .direct, id⟩).2.ran = (allow c st id t).2) := by
  refine ⟨?_, ⟨rfl, rfl⟩, ⟨rfl, rfl⟩, ⟨rfl, rfl⟩⟩
  simp only [step]
  cases h : (allow c st id t).2 <;> simp

/-- the `Allow` calls a history of requests makes -/
def storeCalls : List (Ev α) → List (Nat × α)
  | [] => []
  | e :: es =>
    match e.kind with
    | .http | .direct => (e.t, e.id) :: storeCalls es
    | _ => storeCalls es

/-- number of requests of `id` in `[t1,t2]` that got through (handler ran / `Allow` = true),
    not counting skipped requests -/
def passedIn (c : Cfg) (id : α) (t1 t2 : Nat) : Store α → List (Ev α) → Nat
  | _, [] => 0
  | st, e :: es =>
    (if (e.kind = .http ∨ e.kind = .direct) ∧ e.id = id ∧ (step c st e).2.ran = true ∧ t1 ≤ e.t ∧ e.t ≤ t2
      then 1 else 0) + passedIn c id t1 t2 (step c st e).1 es

/-- no call of the history has an out-of-order `AllowN` reading (all clock readings of a call
    coincide) -/
def NoSkew : List (Ev α) → Prop
  | [] => True
  | e :: es => (∀ tb, e.kind ≠ .directAt tb) ∧ NoSkew es

theorem passedIn_eq (c : Cfg) (id : α) (t1 t2 : Nat) (es : List (Ev α)) :
    ∀ st : Store α, NoSkew es →
      passedIn c id t1 t2 st es = admittedIn c id t1 t2 st (storeCalls es) := by
  induction es with
  | nil => intro _ _; rfl
  | cons e es ih =>
    intro st hns
    obtain ⟨hk, hns'⟩ := hns
    obtain ⟨t, k, i⟩ := e
    obtain ⟨⟨hran, hst, _⟩, ⟨herr, _⟩, ⟨hskip, _⟩, hdst, hdran⟩ := C18_middleware c st t i
    cases k with
    | direct | http =>
      simp only [passedIn, storeCalls, admittedIn, ih _ hns', hdst, hdran, hst, hran, or_true, true_or,
        true_and]
    | httpErr | httpSkip =>
      simp only [passedIn, storeCalls, ih _ hns', herr, hskip, reduceCtorEq, or_self, false_and,
        ite_false, Nat.zero_add]
    | directAt tb => exact absurd rfl (hk tb)

/-- instants of the requests that reach the store never go back -/
def MonoEv (now : Nat) (es : List (Ev α)) : Prop := Mono now (storeCalls es)

/-- **C18_window, through the middleware** — any mix of direct calls, requests through the
    middleware, extractor errors and skipped requests. -/
theorem C18_window_http (c : Cfg) (hexp : c.full ≤ ((c.expiresIn * c.rateNum : Nat) : Int))
    (t0 : Nat) (es : List (Ev α)) (hm : MonoEv 0 es) (hns : NoSkew es) (id : α) (t1 t2 : Nat) :
    passedIn c id t1 t2 (Store.init t0) es * c.scale
      ≤ c.burst * c.scale + c.rateNum * (t2 - t1 + 1) := by
  rw [passedIn_eq _ _ _ _ _ _ hns]
  exact C18_window c hexp t0 _ hm id t1 t2

/-! ## defaults -/

/-- `Burst = 0` means `⌊rate⌋`, `ExpiresIn = 0` means 3 minutes; other
    values are taken as they are. -/
theorem C18_defaults (r : RawCfg) :
    (mkCfg r).burst = (if r.burst = 0 then r.rateNum / r.rateDen else r.burst) ∧
    (mkCfg r).expiresIn = (if r.expiresIn = 0 then 180 * 1000000000 else r.expiresIn) ∧
    (mkCfg r).rateNum = r.rateNum ∧ (mkCfg r).rateDen = r.rateDen := by
  simp [mkCfg, defaultExpires, nsPerSec]

/-! ## witnesses -/

/-- rate 3/s, burst 1, ExpiresIn 1 s -/
def cfgF11 : Cfg := mkCfg ⟨3, 1, 1, 1000000000⟩

def histF11 : List (Nat × Nat) := [(0, 7), (333333333, 7), (666666666, 7)]

/-- **negation witness (F11)** — the bound as stated in the property (no slack) is false for
    the model, as it is for the real code: 3 requests admitted in 0.666666666 s at rate 3/s,
    burst 1 (3 > 1 + 3 * 0.666666666). -/
theorem C18_window_noslack_false :
    ¬ (∀ (c : Cfg) (_ : c.full ≤ ((c.expiresIn * c.rateNum : Nat) : Int)) (t0 : Nat)
        (es : List (Nat × Nat)) (_ : Mono 0 es) (id t1 t2 : Nat),
        admittedIn c id t1 t2 (Store.init t0) es * c.scale
          ≤ c.burst * c.scale + c.rateNum * (t2 - t1)) := by
  intro h
  have := h cfgF11 (by decide +kernel) 0 histF11 (by decide +kernel) 7 0 666666666
  revert this
  decide +kernel

/-- non-vacuity of `C18_window` and tightness of the slack: on the same history the bound with
    1 ns holds with 1 to spare: 3 * S ≤ 1 * S + 3 * 666666667. -/
example : admittedIn cfgF11 7 0 666666666 (Store.init 0) histF11 = 3 := by decide +kernel
example : cfgF11.full ≤ ((cfgF11.expiresIn * cfgF11.rateNum : Nat) : Int) ∧ Mono 0 histF11 := by decide +kernel

/-- two identifiers, a sweep, and a return after being forgotten: decisions -/
def histTwo : List (Nat × Nat) :=
  [(0, 1), (0, 1), (0, 2), (500000000, 1), (2000000001, 2), (2000000001, 1), (2000000001, 1)]
example : decisions cfgF11 (Store.init 0) histTwo = [true, false, true, true, true, true, false] := by decide +kernel
example : decisionsFor cfgF11 1 (Store.init 0) histTwo = [true, false, true, true, false] := by decide +kernel
/-- identifier 1 has been forgotten by the sweep that identifier 2 triggered at 2000000001 -/
example : (after cfgF11 (Store.init 0) (histTwo.take 5)).visitors 1 = none := by decide +kernel

/-- **without `ExpiresIn*rate ≥ burst` expiry does refill faster than the rate** (so the side
    condition of the property is needed): rate 1/s, burst 3, ExpiresIn 1 s; identifier 1 uses
    its burst at 0, identifier 2 triggers a sweep at 1.000000001 s that forgets 1, and 1 gets
    three more at that instant: 6 admitted in 1.000000001 s > 3 + 1 * 1.000000002. -/
def cfgNoHexp : Cfg := mkCfg ⟨1, 1, 3, 1000000000⟩
def histNoHexp : List (Nat × Nat) :=
  [(0, 1), (0, 1), (0, 1), (1000000001, 2), (1000000001, 1), (1000000001, 1), (1000000001, 1)]
example : ¬ (cfgNoHexp.full ≤ ((cfgNoHexp.expiresIn * cfgNoHexp.rateNum : Nat) : Int)) := by decide +kernel
example : admittedIn cfgNoHexp 1 0 1000000001 (Store.init 0) histNoHexp = 6 := by decide +kernel
example : ¬ (admittedIn cfgNoHexp 1 0 1000000001 (Store.init 0) histNoHexp * cfgNoHexp.scale
    ≤ cfgNoHexp.burst * cfgNoHexp.scale + cfgNoHexp.rateNum * (1000000001 - 0 + 1)) := by decide +kernel

/-- middleware, concrete: second request at the same instant is refused with 429 -/
example : run cfgF11 (Store.init 0) [⟨0, .http, 5⟩, ⟨0, .http, 5⟩, ⟨0, .httpErr, 5⟩, ⟨0, .httpSkip, 5⟩]
    = [⟨true, 200⟩, ⟨false, 429⟩, ⟨false, 403⟩, ⟨true, 200⟩] := by decide +kernel

/-! ## "a request is refused only when that identifier's own allowance is used up"

By `C18_independent_bucket` the store's decisions for `id` are those of one token bucket fed
with `id`'s instants.  For that bucket: whenever a call is refused, some window of the
identifier's own admitted calls ending now is used up — one more admission would exceed
`burst + rate * d` — stated on the observable trace only (`roomR`). -/

/-- `roomR c acc hist τ`: `hist` is the trace so far, newest first, as (instant, admitted);
    the result is `min(full, min over admitted calls i of (full − cntᵢ·S + N·(τ − tᵢ)))`
    where `cntᵢ` = `acc` + number of admitted calls from `i` to the newest.  It is what is
    left, at `τ`, of the tightest window of admitted calls (in scaled tokens). -/
def roomR (c : Cfg) : Nat → List (Nat × Bool) → Nat → Int
  | _, [], _ => c.full
  | acc, (ti, ok) :: older, τ =>
    if ok then
      min (c.full - (((acc + 1) * c.scale : Nat) : Int) + ((c.rateNum * (τ - ti) : Nat) : Int))
          (roomR c (acc + 1) older τ)
    else roomR c acc older τ

theorem roomR_cons_true (c : Cfg) (acc ti : Nat) (older : List (Nat × Bool)) (τ : Nat) :
    roomR c acc ((ti, true) :: older) τ =
      min (c.full - (((acc + 1) * c.scale : Nat) : Int) + ((c.rateNum * (τ - ti) : Nat) : Int))
        (roomR c (acc + 1) older τ) := rfl

theorem roomR_cons_false (c : Cfg) (acc ti : Nat) (older : List (Nat × Bool)) (τ : Nat) :
    roomR c acc ((ti, false) :: older) τ = roomR c acc older τ := rfl

theorem roomR_le_full (c : Cfg) (hist : List (Nat × Bool)) : ∀ acc τ, roomR c acc hist τ ≤ c.full := by
  induction hist with
  | nil => intro _ _; exact Int.le_refl _
  | cons e older ih =>
    intro acc τ
    obtain ⟨ti, ok⟩ := e
    cases ok with
    | false => exact ih acc τ
    | true => exact Int.le_trans (Int.min_le_right _ _) (ih (acc + 1) τ)

theorem min_lt_iff (a b y : Int) : min a b < y ↔ a < y ∨ b < y := by
  rw [← Int.not_le, Int.le_min, Decidable.not_and_iff_not_or_not, Int.not_le, Int.not_le]

/-- explicit form: `roomR < x` iff the bucket size itself is below `x` or some admitted call
    `i` has `full − cntᵢ·S + N·(τ − tᵢ) < x` -/
theorem roomR_lt_iff (c : Cfg) (hist : List (Nat × Bool)) : ∀ (acc τ : Nat) (x : Int),
    roomR c acc hist τ < x ↔
      (c.full < x ∨ ∃ k, k < hist.length ∧ (hist[k]?.map (·.2)) = some true ∧
        c.full - (((acc + ((hist.take (k + 1)).filter (·.2)).length) * c.scale : Nat) : Int)
          + ((c.rateNum * (τ - (hist[k]?.map (·.1)).getD 0) : Nat) : Int) < x) := by
  induction hist with
  | nil =>
    intro acc τ x
    exact ⟨Or.inl, fun h => h.elim id (fun ⟨k, hk, _⟩ => absurd hk (Nat.not_lt_zero k))⟩
  | cons e older ih =>
    intro acc τ x
    obtain ⟨ti, ok⟩ := e
    -- index 0 is the newest call; index `k + 1` is index `k` of `older`, counted with one more
    -- admission in front of it iff the newest call was admitted
    rw [List.length_cons, Nat.exists_lt_succ_left]
    simp only [List.getElem?_cons_zero, List.getElem?_cons_succ, List.take_succ_cons, List.take_zero,
      List.filter_cons, List.filter_nil, Option.map_some, Option.getD_some]
    cases ok with
    | false =>
      rw [roomR_cons_false, ih]
      simp only [Bool.false_eq_true, ite_false, Option.some.injEq, false_and, false_or]
    | true =>
      rw [roomR_cons_true, min_lt_iff, ih, or_left_comm]
      simp only [ite_true, true_and, List.length_cons, List.length_nil, Nat.zero_add,
        Nat.add_right_comm acc _ 1, ← Nat.add_assoc]

/-- one more token taken at `t`, seen at `τ ≥ t`: every window of the longer trace is a window
    of the shorter one with one more admission and `τ - t` more refill, so whatever lies below
    the room then (and below the new call's own window) lies, shifted back, below the room at `t` -/
theorem roomR_shift (c : Cfg) (hist : List (Nat × Bool)) (t τ : Nat) (hle : t ≤ τ)
    (hh : ∀ e ∈ hist, e.1 ≤ t) : ∀ (acc : Nat) (x : Int),
    x ≤ c.full - c.scale + ((c.rateNum * (τ - t) : Nat) : Int) → x ≤ roomR c (acc + 1) hist τ →
      x + c.scale - ((c.rateNum * (τ - t) : Nat) : Int) ≤ roomR c acc hist t := by
  induction hist with
  | nil => intro acc x h _; rw [roomR]; omega
  | cons e older ih =>
    intro acc x h1 h2
    obtain ⟨ti, ok⟩ := e
    have ih' := ih (fun e he => hh e (List.mem_cons_of_mem _ he))
    cases ok with
    | false => exact ih' acc x h1 h2
    | true =>
      rw [roomR_cons_true] at h2 ⊢
      obtain ⟨h2a, h2b⟩ := Int.le_min.mp h2
      refine Int.le_min.mpr ⟨?_, ih' (acc + 1) x h1 h2b⟩
      have hti : ti ≤ t := hh (ti, true) List.mem_cons_self
      have hs := mul_split c.rateNum hti hle
      rw [Nat.add_mul (acc + 1), Nat.one_mul] at h2a
      clear h2 h2b ih ih' hh h1
      omega

theorem roomR_admit (c : Cfg) (hist : List (Nat × Bool)) {t τ : Nat} (hle : t ≤ τ)
    (hh : ∀ e ∈ hist, e.1 ≤ t) :
    roomR c 0 ((t, true) :: hist) τ + c.scale - ((c.rateNum * (τ - t) : Nat) : Int) ≤
      roomR c 0 hist t := by
  refine roomR_shift c hist t τ hle hh 0 _ ?_ (Int.min_le_right _ _)
  rw [roomR_cons_true, Nat.zero_add, Nat.one_mul]
  exact Int.min_le_left _ _

/-- every refusal in the run is justified by the trace so far -/
def JustifiedAll (c : Cfg) : Bucket → List (Nat × Bool) → List Nat → Prop
  | _, _, [] => True
  | b, hist, t :: ts =>
    ((allowN c b t).2 = false → c.burst = 0 ∨ roomR c 0 hist t < c.scale) ∧
    JustifiedAll c (allowN c b t).1 ((t, (allowN c b t).2) :: hist) ts

def MonoT : Nat → List Nat → Prop
  | _, [] => True
  | now, t :: ts => now ≤ t ∧ MonoT t ts

/-- invariant of the run: the room computed from the trace never exceeds the bucket's level -/
theorem justified_aux (c : Cfg) (ts : List Nat) : ∀ (b : Bucket) (hist : List (Nat × Bool)) (now : Nat),
    (∀ τ, now ≤ τ → roomR c 0 hist τ ≤ advance c b τ) → (∀ e ∈ hist, e.1 ≤ now) → MonoT now ts →
    JustifiedAll c b hist ts := by
  induction ts with
  | nil => intros; trivial
  | cons t ts ih =>
    intro b hist now hroom hh ⟨hle, hm⟩
    have hht : ∀ e ∈ hist, e.1 ≤ t := fun e he => Nat.le_trans (hh e he) hle
    have hht' : ∀ ok, ∀ e ∈ (t, ok) :: hist, e.1 ≤ t :=
      fun _ => List.forall_mem_cons.mpr ⟨Nat.le_refl _, hht⟩
    have hnow := hroom t hle
    rcases allowN_spec c b t with ⟨hok, hb, _⟩ | ⟨hok, hb, hwhy⟩
    · refine ⟨fun h => Bool.noConfusion (hok.symm.trans h), ?_⟩
      rw [hok, hb]
      refine ih _ _ t (fun τ hτ => ?_) (hht' true) hm
      have h1 := roomR_admit c hist hτ hht
      have h2 : roomR c 0 ((t, true) :: hist) τ ≤
          advance c b t - c.scale + ((c.rateNum * (τ - t) : Nat) : Int) := by omega
      exact le_advance (roomR_le_full c _ 0 τ) h2
    · refine ⟨fun _ => hwhy.imp id (fun h => ?_), ?_⟩
      · omega
      · rw [hok, hb]
        exact ih _ _ t (fun τ hτ => hroom τ (Nat.le_trans hle hτ)) (hht' false) hm

/-- on a clock that never goes back, every refusal of the
    bucket (hence, by `C18_independent_bucket`, every refusal the store gives `id`) happens
    when `roomR` of `id`'s own trace is below one token: the burst is 0, or there is an
    admitted call `i` of the same identifier with
    `(admitted since i) + 1 > burst + rate * (now − tᵢ)` (`roomR_lt_iff`). -/
theorem C18_refused_only_when_used_up (c : Cfg) (ts : List Nat) (hm : MonoT 0 ts) :
    JustifiedAll c (fresh c) [] ts := by
  apply justified_aux c ts (fresh c) [] 0 _ (by simp) hm
  intro τ _
  simp [roomR, advance_fresh]

theorem mono_monoT (es : List (Nat × α)) : ∀ now, Mono now es → MonoT now (es.map (·.1)) := by
  induction es with
  | nil => intro _ _; trivial
  | cons e es ih => intro now ⟨h1, h2⟩; exact ⟨h1, ih _ h2⟩

/-- the two halves together, for the store: the decisions for `id` in
    any history are those of its own bucket, and each refusal among them is justified by
    `id`'s own admitted calls. -/
theorem C18_refusal_store (c : Cfg) (hexp : c.full ≤ ((c.expiresIn * c.rateNum : Nat) : Int))
    (t0 : Nat) (es : List (Nat × α)) (hm : Mono 0 es) (id : α) :
    decisionsFor c id (Store.init t0) es =
      bucketRun c (fresh c) ((es.filter (fun e => decide (e.2 = id))).map (·.1)) ∧
    JustifiedAll c (fresh c) [] ((es.filter (fun e => decide (e.2 = id))).map (·.1)) :=
  ⟨C18_independent_bucket c hexp t0 es hm id,
   C18_refused_only_when_used_up c _ (mono_monoT _ 0 (mono_filter _ es 0 hm))⟩

/-- concrete: rate 3/s, burst 1: the call at 0.1 s is refused and the trace justifies it
    (1 admitted since 0 s, and 1 + 1 > 1 + 3 * 0.1) -/
example : bucketRun cfgF11 (fresh cfgF11) [0, 100000000] = [true, false] ∧
    roomR cfgF11 0 [(0, true)] 100000000 < cfgF11.scale := by decide +kernel

/-! ## clock skew between goroutines (the "however calls interleave" clause)

`Allow` reads the clock for `AllowN` *outside* every lock (`limiter.AllowN(store.timeNow(), 1)`),
and so does `rate.Limiter.Allow` itself.  Calls on one limiter therefore take the limiter's
mutex in an order that need not be the order of their clock readings.  `reserveN` copes with
an older reading by `if t.Before(last) { last = t }` — and, when it admits, stores that older
`t` as the new `last`.  The time between `t` and the newest reading seen is then credited a
second time by the next call.  `bucketRun`/`allowN` model exactly this (truncated `t - last`,
`last := t` on admit), so the effect can be stated and bounded for the model:

* every admitted call whose reading lies `δ` behind the newest reading seen so far can
  re-credit up to `rate * δ` tokens (`C18_skew_bucket`, finding F19);
* with readings at most `σ` behind: `admitted * (1 - rate*σ) ≤ burst + rate * (d + 1ns)`
  (`C18_skew_sigma`) — a *multiplicative* excess, so the additive bound
  `burst + rate * (d + 1ns + σ)` planned in DESIGN (`C18_interleaved`) is false
  (`C18_interleaved_additive_false`).

This section is about ONE limiter.  The store-level split of `Allow` into its locked part and the
`AllowN` that follows the `Unlock` (a sweep between the two, orphaned limiters when a goroutine
sleeps longer than `ExpiresIn`) is modelled by `lockStep` / `tailStep` / `runS`; what holds of it
under every interleaving is in `C18Split.lean`. -/

/-- number of admitted calls among `AllowN` calls on one limiter, in mutex order, with
    arbitrary (not necessarily ordered) clock readings -/
def admittedCount (c : Cfg) : Bucket → List Nat → Nat
  | _, [] => 0
  | b, t :: ts => (if (allowN c b t).2 = true then 1 else 0) + admittedCount c (allowN c b t).1 ts

/-- sum over the admitted calls of how far their reading lies behind the newest reading seen
    before them (`hw`) -/
def backSum (c : Cfg) : Bucket → Nat → List Nat → Nat
  | _, _, [] => 0
  | b, hw, t :: ts =>
    (if (allowN c b t).2 = true then hw - t else 0) + backSum c (allowN c b t).1 (max hw t) ts

/-- the newest reading after the calls -/
def hwEnd : Nat → List Nat → Nat
  | hw, [] => hw
  | hw, t :: ts => hwEnd (max hw t) ts

theorem hwEnd_ge (ts : List Nat) : ∀ hw, hw ≤ hwEnd hw ts := by
  induction ts with
  | nil => intro hw; exact Nat.le_refl _
  | cons t ts ih => intro hw; exact Nat.le_trans (Nat.le_max_left hw t) (ih (max hw t))

/-- **C18_skew_bucket (F19)** — calls on one limiter with arbitrary clock readings, starting
    from any bucket whose deficit is within the truncation slack, `hw` being the newest
    reading seen before:

        admitted ≤ level(hw) + rate*1ns + rate*(newest reading afterwards − hw)
                   + rate * Σ_{admitted} (how far the call's reading was behind the newest)   -/
theorem C18_skew_bucket (c : Cfg) (ts : List Nat) :
    ∀ (b : Bucket) (hw : Nat), -(c.rateNum : Int) ≤ b.tok →
      ((admittedCount c b ts * c.scale : Nat) : Int) ≤
        advance c b hw + c.rateNum + ((c.rateNum * (hwEnd hw ts - hw) : Nat) : Int)
          + ((c.rateNum * backSum c b hw ts : Nat) : Int) := by
  induction ts with
  | nil =>
    intro b hw hb
    have := advance_lower c b hw hb
    rw [admittedCount, hwEnd, backSum, Nat.zero_mul, Nat.sub_self, Nat.mul_zero]
    omega
  | cons t ts ih =>
    intro b hw hb
    have hmax : max hw t - hw = t - hw := by rw [Nat.max_comm, ← Nat.sub_eq_max_sub]
    have hsplit := mul_split c.rateNum (Nat.le_max_left hw t) (hwEnd_ge ts (max hw t))
    rw [hmax] at hsplit
    rw [admittedCount, backSum, hwEnd]
    rcases allowN_spec c b t with ⟨hok, hb', _, hlow, _⟩ | ⟨hok, hb', _⟩
    · -- admitted: the level at the newest reading afterwards is at most the level at `t`, less
      -- the token, plus the refill since `t`; an older reading (`t < hw`) moves `last` back, and
      -- `rate * (hw - t)` is credited again
      rw [hok, hb', if_pos rfl, if_pos rfl, Nat.add_mul, Nat.one_mul, Nat.mul_add]
      have ih' := ih ⟨advance c b t - c.scale, t⟩ (max hw t) hlow
      have hspend : advance c ⟨advance c b t - c.scale, t⟩ (max hw t) ≤
          advance c b t - c.scale + ((c.rateNum * (max hw t - t) : Nat) : Int) := advance_le c _ _
      rw [← Nat.sub_eq_max_sub] at hspend
      have := advance_step c b hw t
      clear ih hb hok hb' hlow
      omega
    · rw [hok, hb', if_neg Bool.false_ne_true, if_neg Bool.false_ne_true, Nat.zero_add, Nat.zero_add]
      have ih' := ih b (max hw t) hb
      have := advance_step c b hw (max hw t)
      rw [hmax] at this
      clear ih hb hok hb'
      omega

/-- every reading is at most `σ` behind the newest reading seen before it -/
def SkewLe (σ : Nat) : Nat → List Nat → Prop
  | _, [] => True
  | hw, t :: ts => hw ≤ t + σ ∧ SkewLe σ (max hw t) ts

theorem backSum_le (c : Cfg) (σ : Nat) (ts : List Nat) : ∀ (b : Bucket) (hw : Nat),
    SkewLe σ hw ts → backSum c b hw ts ≤ σ * admittedCount c b ts := by
  induction ts with
  | nil => intro b hw _; exact Nat.zero_le _
  | cons t ts ih =>
    intro b hw ⟨h1, h2⟩
    rw [backSum, admittedCount, Nat.mul_add]
    refine Nat.add_le_add ?_ (ih _ _ h2)
    split
    · rw [Nat.mul_one]; exact Nat.sub_le_iff_le_add'.mpr h1
    · exact Nat.zero_le _

/-- if no reading is more than `σ` behind the newest one seen before it,
    then from a fresh (or any full-or-less) limiter

        admitted * (1 token − rate*σ)  ≤  burst + rate * (d + 1ns),   d = newest − first `hw`.

    With `σ = 0` (readings in mutex order) this is the window bound again. -/
theorem C18_skew_sigma (c : Cfg) (σ : Nat) (ts : List Nat) (b : Bucket) (hw : Nat)
    (hb : -(c.rateNum : Int) ≤ b.tok) (hs : SkewLe σ hw ts) :
    admittedCount c b ts * c.scale ≤
      c.burst * c.scale + c.rateNum * (hwEnd hw ts - hw + 1) + c.rateNum * (σ * admittedCount c b ts) := by
  have h := C18_skew_bucket c ts b hw hb
  have hf := advance_le_full c b hw
  have hbs := Nat.mul_le_mul_left c.rateNum (backSum_le c σ ts b hw hs)
  have hfull : c.full = ((c.burst * c.scale : Nat) : Int) := rfl
  rw [Nat.mul_add, Nat.mul_one]
  omega

def decSkewLe (σ : Nat) : ∀ (hw : Nat) (ts : List Nat), Decidable (SkewLe σ hw ts)
  | _, [] => isTrue trivial
  | hw, t :: ts =>
    have := decSkewLe σ (max hw t) ts
    inferInstanceAs (Decidable (hw ≤ t + σ ∧ SkewLe σ (max hw t) ts))

instance (σ hw : Nat) (ts : List Nat) : Decidable (SkewLe σ hw ts) := decSkewLe σ hw ts

/-- rate 1/s, burst 8; readings alternate between 10.0 s and 9.6 s (skew σ = 0.4 s) -/
def cfgSkew : Cfg := mkCfg ⟨1, 1, 8, 100000000000⟩
def skewTimes : List Nat :=
  [10000000000, 9600000000, 10000000000, 9600000000, 10000000000, 9600000000,
   10000000000, 9600000000, 10000000000, 9600000000, 10000000000, 9600000000]

/-- **negation witness for the additive bound planned as `C18_interleaved`**: with skew
    σ = 0.4 s, 9 calls are admitted although all readings lie within 0.4 s:
    9 > burst 8 + rate * (d 0.4 s + 1 ns + σ 0.4 s) = 8.8.  (The multiplicative bound of
    `C18_skew_sigma` gives 9 * 0.6 = 5.4 ≤ 8.4.) -/
theorem C18_interleaved_additive_false :
    ¬ (∀ (c : Cfg) (σ : Nat) (ts : List Nat) (hw : Nat), SkewLe σ hw ts →
        admittedCount c (fresh c) ts * c.scale ≤
          c.burst * c.scale + c.rateNum * (hwEnd hw ts - hw + 1 + σ)) := by
  intro h
  have := h cfgSkew 400000000 skewTimes 9600000000 (by decide +kernel)
  revert this
  decide +kernel

example : admittedCount cfgSkew (fresh cfgSkew) skewTimes = 9 := by decide +kernel
example : bucketRun cfgSkew (fresh cfgSkew) skewTimes =
    [true, true, true, true, true, true, true, true, true, false, false, false] := by decide +kernel

/-- at the store, with a realistic (monotone) clock: rate 2/s, burst 2; calls come in pairs,
    the first of a pair reads the clock at `t` and is overtaken by the second, which reads
    `t + 0.5 s`; in `AllowN` order the readings are 1.0, 0.5, 1.5, 1.0, 2.0, 1.5, … s.
    All 12 calls (4 per second) are admitted: twice the configured rate (corpus/C18/F19.json
    is the same schedule on the real store). -/
def cfgDouble : Cfg := mkCfg ⟨2, 1, 2, 1000000000000⟩
def histDouble : List (Ev Nat) :=
  [⟨1000000000, .directAt 1000000000, 1⟩, ⟨500000000, .directAt 500000000, 1⟩,
   ⟨1500000000, .directAt 1500000000, 1⟩, ⟨1000000000, .directAt 1000000000, 1⟩,
   ⟨2000000000, .directAt 2000000000, 1⟩, ⟨1500000000, .directAt 1500000000, 1⟩,
   ⟨2500000000, .directAt 2500000000, 1⟩, ⟨2000000000, .directAt 2000000000, 1⟩,
   ⟨3000000000, .directAt 3000000000, 1⟩, ⟨2500000000, .directAt 2500000000, 1⟩,
   ⟨3500000000, .directAt 3500000000, 1⟩, ⟨3000000000, .directAt 3000000000, 1⟩]
example : (run cfgDouble (Store.init 0) histDouble).map (·.ran) =
    [true, true, true, true, true, true, true, true, true, true, true, true] := by decide +kernel

end C18
