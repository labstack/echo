import EchoProofs.C16Ext
/-!
# C16 — a root that is not there (yet)

`Echo.Static`, `Group.Static` and `MustSubFS` on echo's default file system make an `os.DirFS(root)`
— a string — whether or not `root` exists at that moment (Go's `subFS`).  In the model (`staticDirD`,
the open mode `.dirfs`): while the root is not a directory nothing is served, whatever the rest of
the tree holds; as soon as it is one, the route behaves as over any validating `fs.FS` rooted there.

WHEN the tree is read is a choice written into the model (`servedTree := atRequest`), validated by
the correspondence run (the harness creates / removes the directory between the four moments and
sends the whole history); the theorems draw the consequences.
-/
namespace C16

/-- `Static` / `StaticFS(MustSubFS(default, root))` with a root
    that is not a directory (missing, or a regular file): every request, whatever its path, is refused
    (404, or 500 for an undecodable path); no content is returned. -/
theorem C16_missing_root_serves_nothing (f : Faults) (t : Tree) (rs : List Str) (star urlPath : Str)
    (h : ∀ d, look t rs ≠ .dir d) :
    (staticDirD f t rs star urlPath).2 = .error500 ∨ (staticDirD f t rs star urlPath).2 = .notFound404 := by
  unfold staticDirD
  split
  · rename_i d hd; exact absurd hd (h d)
  · split
    · exact .inl rfl
    · exact .inr rfl

/-- once the root is a directory the handler is `staticDirF` over it -/
theorem C16_present_root (f : Faults) (t : Tree) (rs : List Str) (star urlPath : Str) (d : List Str)
    (h : look t rs = .dir d) : staticDirD f t rs star urlPath = staticDirF f t rs star urlPath := by
  unfold staticDirD
  simp [h]

/-- whatever the state of the root: a file that is served is a node
    below the root, reached through real elements only -/
theorem C16_staticDirD_serves_inside (f : Faults) (t : Tree) (rs : List Str) (star urlPath : Str) (id : Nat)
    (h : (staticDirD f t rs star urlPath).2 = .file id) :
    ∃ L, (∀ s ∈ L, Normal s) ∧ look t (rs ++ L) = .file id := by
  by_cases hd : ∃ d, look t rs = .dir d
  · obtain ⟨d, hd⟩ := hd
    rw [C16_present_root f t rs star urlPath d hd] at h
    exact C16_fs_serves_inside t rs star urlPath id (.inl (C16_fsF_serves_inside f t rs star urlPath id h))
  · rcases C16_missing_root_serves_nothing f t rs star urlPath (fun d e => hd ⟨d, e⟩) with h' | h' <;>
      rw [h'] at h <;> cases h

/-- the File helpers on a narrowed default file system (`e.Filesystem = MustSubFS(e.Filesystem, root)`;
    `e.File`, `c.File`, `c.Attachment` …): nothing is found while the root is not a directory -/
theorem C16_dirfs_missing_root (f : Faults) (t : Tree) (rs : List Str) (file : Str)
    (h : ∀ d, look t rs ≠ .dir d) : (fsFileF f .dirfs t rs file).2 = .notFound404 := by
  -- `h` is what the fall-through branch of `openBy` asks for
  have ho : openBy .dirfs t rs file = .notExist := by simp only [openBy]
  unfold fsFileF
  rw [ho]

/-- with the root in place the File helpers are the helpers over an `fs.FS` rooted there -/
theorem C16_dirfs_present_root (f : Faults) (t : Tree) (rs : List Str) (file : Str) (d : List Str)
    (h : look t rs = .dir d) : fsFileF f .dirfs t rs file = fsFileF f .io t rs file := by
  have ho : ∀ n, openBy .dirfs t rs n = openBy .io t rs n := by
    intro n; simp [openBy, h]
  unfold fsFileF
  simp only [ho]

/-- two histories of the directory that agree on the moment the request
    is served give the same tree to every handler: whether the root existed at `echo.New()`, when the
    route was registered / the middleware constructed, or at an earlier request is irrelevant -/
theorem C16_tree_read_at_request (base : Tree) (l l' : Late) (he : l.entries = l'.entries)
    (hp : l.present.atRequest = l'.present.atRequest) :
    servedTree (treeAt base l) = servedTree (treeAt base l') := by
  simp [servedTree, treeAt, he, hp]

/-- a directory that is there when the request is served is seen with all
    its content, whenever it was created -/
theorem C16_root_created_later (base : Tree) (l : Late) (h : l.present.atRequest = true) :
    servedTree (treeAt base l) = base ++ l.entries := by
  simp [servedTree, treeAt, h]

/-- a directory that is gone when the request is served is not seen, even if it
    was there at every earlier moment -/
theorem C16_root_removed (base : Tree) (l : Late) (h : l.present.atRequest = false) :
    servedTree (treeAt base l) = base := by
  simp [servedTree, treeAt, h]

/-- the positive clause for a root created after the route was
    registered (or after an earlier request was refused): a request naming an existing regular file
    under the root by its clean path is served exactly that file, for EVERY history of the directory
    before the request. -/
theorem C16_late_root_serves_clean_path (base : Tree) (l : Late) (rs F d : List Str) (id : Nat)
    (urlPath : Str) (lead : Bool)
    (hnow : l.present.atRequest = true)
    (hroot : look (base ++ l.entries) rs = .dir d)
    (hF : ∀ s ∈ F, Normal s) (hne : F ≠ []) (hpct : '%' ∉ joinSep '/' F)
    (hutf : utf8Valid ((joinSep '/' F).map Char.toNat) = true)
    (hfile : look (base ++ l.entries) (rs ++ F) = .file id) :
    staticDirD noFaults (servedTree (treeAt base l)) rs ((if lead then ['/'] else []) ++ joinSep '/' F) urlPath =
      ([joinSep '/' F, joinSep '/' F], .file id) := by
  rw [C16_root_created_later base l hnow, C16_present_root _ _ _ _ _ d hroot, C16_staticDirF_noFaults]
  exact C16_serves_clean_path_fs _ rs F id urlPath lead hF hne hpct hutf hfile

/-- while the directory is not there (never created, not yet
    created, removed again) nothing is served from anywhere else, whatever the history: the files of
    the working directory with the same names stay unreachable -/
theorem C16_absent_root_serves_nothing (f : Faults) (base : Tree) (l : Late) (rs : List Str) (star urlPath : Str)
    (hnow : l.present.atRequest = false) (hroot : ∀ d, look base rs ≠ .dir d) :
    (staticDirD f (servedTree (treeAt base l)) rs star urlPath).2 = .error500 ∨
    (staticDirD f (servedTree (treeAt base l)) rs star urlPath).2 = .notFound404 := by
  rw [C16_root_removed base l hnow]
  exact C16_missing_root_serves_nothing f base rs star urlPath hroot

section Examples

private def S8 (s : String) : Str := s.toList

/-- the working directory holds `secret.txt`; `late/` comes later and has a file of the same name -/
private def base8 : Tree := [(S8 "public", .dir), (S8 "public/a.txt", .file 1), (S8 "secret.txt", .file 2)]
private def late8 (a b c d : Bool) : Late :=
  ⟨⟨a, b, c, d⟩, [(S8 "late", .dir), (S8 "late/secret.txt", .file 7), (S8 "late/l.txt", .file 8)]⟩

-- `e.Static("/assets", "late")` registered while `late` is missing; the directory is created afterwards
example : staticDirD noFaults (servedTree (treeAt base8 (late8 false false true true))) [S8 "late"] (S8 "/secret.txt") (S8 "/assets/secret.txt")
      = ([S8 "secret.txt", S8 "secret.txt"], .file 7) ∧
    -- not yet there: refused — NOT the working directory's secret.txt (file 2)
    staticDirD noFaults (servedTree (treeAt base8 (late8 false false false false))) [S8 "late"] (S8 "/secret.txt") (S8 "/assets/secret.txt")
      = ([S8 "secret.txt"], .notFound404) ∧
    -- there at registration, removed before the request
    staticDirD noFaults (servedTree (treeAt base8 (late8 true true true false))) [S8 "late"] (S8 "/l.txt") (S8 "/assets/l.txt")
      = ([S8 "l.txt"], .notFound404) ∧
    -- a root that is a regular file: not even `.` is found
    staticDirD noFaults base8 [S8 "public", S8 "a.txt"] (S8 "") (S8 "/assets/") = ([S8 "."], .notFound404) ∧
    staticDirD noFaults base8 [S8 "nope"] (S8 "/%zz") (S8 "/assets/%zz") = ([], .error500) ∧
    fsFileF noFaults .dirfs base8 [S8 "nope"] (S8 "secret.txt") = ([S8 "secret.txt"], .notFound404) ∧
    fsFileF noFaults .dirfs (servedTree (treeAt base8 (late8 false false false true))) [S8 "late"] (S8 "l.txt") = ([S8 "l.txt"], .file 8) := by
  simp only [base8, late8, S8]; lit_chars; decide +kernel

example : ∀ d, look base8 [S8 "late"] ≠ .dir d := by
  have : look base8 [S8 "late"] = .notExist := by simp only [base8, S8]; lit_chars; decide +kernel
  intro d; rw [this]; exact fun e => nomatch e
example : look (base8 ++ (late8 false false true true).entries) [S8 "late"] = .dir [S8 "late"] ∧
    look (base8 ++ (late8 false false true true).entries) ([S8 "late"] ++ [S8 "l.txt"]) = .file 8 := by
  simp only [base8, late8, S8]; lit_chars; decide +kernel

end Examples

end C16
