import EchoModel.C06Hooks
/-!
# C06 — hooks that register hooks: theorems

The hook clause of the property ("before-hooks run once, before the headers go out, and
after-hooks run after each body write") as an acceptor `Scan` over event traces in which
registrations may happen at ANY moment — also while hooks are running.  A registration never
changes what the round in progress still has to run; a body write owes the after-hooks
registered up to that write.

* `C06H_inv` — for every program (any hooks registering any hooks) the trace is accepted, ends
  quiet, and the bookkeeping matches the writer.
* `scan_after_each_write` — what acceptance means for after-hooks: every after-hook registered
  before a body write — by the handler, or by a before-hook during the very commit that the
  write triggered — runs after that write, in registration order.
* `scan_before` — after the `WriteHeader` call that reached the writer no before-hook runs and no
  second call reaches it.
-/
namespace C06H

inductive Phase where
  | idle
  | running (rest : List Nat)
  | out (pend : List Nat)
deriving DecidableEq, Repr

structure Scan where
  bef : List Nat := []
  aft : List Nat := []
  ph : Phase := .idle
deriving DecidableEq, Repr

def Scan.quiet (σ : Scan) : Bool :=
  match σ.ph with
  | .idle => true
  | .out [] => true
  | _ => false

def isRegB? : Ev → Option Nat | .regB h => some h | _ => none
def isRegA? : Ev → Option Nat | .regA h => some h | _ => none

/-- how the phase moves; registrations are accepted in every phase and leave it alone -/
def phaseNext (σ : Scan) : Ev → Option Phase
  | .regB _ => some σ.ph
  | .regA _ => some σ.ph
  | .runB h =>
    match σ.ph with
    | .idle =>
      (match σ.bef with
       | h' :: rest => if h' = h then some (.running rest) else none
       | [] => none)
    | .running (h' :: rest) => if h' = h then some (.running rest) else none
    | _ => none
  | .hdr _ =>
    match σ.ph with
    | .idle => if σ.bef = [] then some (.out []) else none
    | .running [] => some (.out [])
    | _ => none
  | .body _ =>
    match σ.ph with
    | .out [] => some (.out σ.aft)       -- the write owes the after-hooks registered so far
    | _ => none
  | .runA h =>
    match σ.ph with
    | .out (h' :: p) => if h' = h then some (.out p) else none
    | _ => none
  | .rflush =>
    match σ.ph with
    | .out [] => some (.out [])
    | _ => none
  | .warn =>
    match σ.ph with
    | .out [] => some (.out [])
    | _ => none

def Scan.next (σ : Scan) (e : Ev) : Option Scan :=
  (phaseNext σ e).map fun ph => ⟨σ.bef ++ (isRegB? e).toList, σ.aft ++ (isRegA? e).toList, ph⟩

def scanFrom : Scan → List Ev → Option Scan
  | σ, [] => some σ
  | σ, e :: es =>
    match σ.next e with
    | none => none
    | some σ' => scanFrom σ' es

def traceOK (tr : List Ev) : Bool :=
  match scanFrom {} tr with
  | some σ => σ.quiet
  | none => false

theorem scanFrom_cons (σ : Scan) (e : Ev) (es : List Ev) :
    scanFrom σ (e :: es) = (σ.next e).bind fun σ' => scanFrom σ' es := by
  rw [scanFrom]; cases σ.next e <;> rfl

theorem scanFrom_append (σ : Scan) (l₁ l₂ : List Ev) :
    scanFrom σ (l₁ ++ l₂) = (scanFrom σ l₁).bind (fun σ' => scanFrom σ' l₂) := by
  induction l₁ generalizing σ with
  | nil => rfl
  | cons e es ih =>
    rw [List.cons_append, scanFrom_cons, scanFrom_cons]
    cases σ.next e with
    | none => rfl
    | some σ' => exact ih σ'

/-! ## the invariant -/

def ids (l : List Hook) : List Nat := l.map (·.id)

@[simp] theorem ids_append (a b : List Hook) : ids (a ++ b) = ids a ++ ids b := List.map_append
@[simp] theorem ids_cons (h : Hook) (l : List Hook) : ids (h :: l) = h.id :: ids l := rfl
@[simp] theorem ids_nil : ids [] = [] := rfl

/-- the scanner state that matches a model state whose hooks are in phase `ph` -/
def at_ (s : St) (ph : Phase) : Scan := ⟨ids s.before, ids s.after, ph⟩

def restPhase (s : St) : Phase := if s.committed then .out [] else .idle

/-- trace accepted up to phase `ph` -/
def Acc (s : St) (ph : Phase) : Prop := scanFrom {} s.trace = some (at_ s ph)

theorem Acc.snoc {s t : St} {ph ph' : Phase} {e : Ev} (h : Acc s ph)
    (hp : phaseNext (at_ s ph) e = some ph') (ht : t.trace = s.trace ++ [e])
    (hb : ids t.before = ids s.before ++ (isRegB? e).toList)
    (ha : ids t.after = ids s.after ++ (isRegA? e).toList) : Acc t ph' := by
  rw [Acc, ht, scanFrom_append, h, Option.bind_some, scanFrom_cons, Scan.next, hp]
  unfold at_
  rw [hb, ha]
  rfl

theorem Acc.emit {s : St} {ph ph' : Phase} (h : Acc s ph) (e : Ev)
    (hp : phaseNext (at_ s ph) e = some ph') (hb : isRegB? e = none := by rfl)
    (ha : isRegA? e = none := by rfl) : Acc (emit s e) ph' :=
  h.snoc hp rfl (by rw [hb]; exact (List.append_nil _).symm) (by rw [ha]; exact (List.append_nil _).symm)

/-- a state without what hooks can touch: hooks register hooks and show up in the trace -/
def core (s : St) : St := { s with before := [], after := [], trace := [] }

theorem Acc.register {s : St} {ph : Phase} (h : Acc s ph) (b : Bool) (k : Hook) :
    Acc (register s b k) ph := by
  cases b
  · exact h.snoc (e := .regA k.id) rfl rfl (List.append_nil _).symm (ids_append _ _)
  · exact h.snoc (e := .regB k.id) rfl rfl (ids_append _ _) (List.append_nil _).symm

theorem core_register (s : St) (b : Bool) (k : Hook) : core (register s b k) = core s := by
  cases b <;> rfl

theorem Acc.kidOf {s : St} {ph : Phase} (h : Acc s ph) (k : Hook) : Acc (kidOf s k) ph := by
  unfold C06H.kidOf
  split
  · exact h
  · exact h.register _ _

theorem core_kidOf (s : St) (k : Hook) : core (kidOf s k) = core s := by
  unfold kidOf
  split
  · rfl
  · exact core_register _ _ _

/-- a round of hooks (`fire` is `fireB` with `ph = .running`, or `fireA` with `ph = .out`) works
    off the list its phase holds, whatever the hooks register meanwhile -/
theorem Acc.foldl {fire : St → Hook → St} {ph : List Nat → Phase}
    (hf : ∀ {s k r}, Acc s (ph (k.id :: r)) → Acc (fire s k) (ph r)) (l : List Hook) :
    ∀ {s}, Acc s (ph (ids l)) → Acc (l.foldl fire s) (ph []) := by
  induction l with
  | nil => exact id
  | cons k l ih => exact fun h => ih (hf h)

theorem core_foldl {fire : St → Hook → St} (hf : ∀ s k, core (fire s k) = core s) (l : List Hook)
    (s : St) : core (l.foldl fire s) = core s :=
  l.foldlRecOn (motive := fun t => core t = core s) fire rfl fun t ht k _ => (hf t k).trans ht

theorem core_runBefore (s : St) : core (runBefore s) = core s :=
  core_foldl (fun s k => core_kidOf (emit s _) k) _ s

theorem core_runAfter (s : St) : core (runAfter s) = core s :=
  core_foldl (fun s k => core_kidOf (emit s _) k) _ s

theorem Acc.forward {t : St} {ph : Phase} (h : Acc t ph)
    (hp : phaseNext (at_ t ph) (.hdr t.status) = some (.out [])) : Acc (forward t) (.out []) :=
  Acc.emit (s := { t with hdrs := t.hdrs ++ [t.status], committed := true }) h _ hp

/-- the before-hooks of an uncommitted response run, then the headers go out: the first hook
    fixes the round's list as the registration list of that moment, and whatever the hooks
    register, the round ends with nothing left to run -/
theorem acc_commit {s : St} (h : Acc s .idle) : Acc (forward (runBefore s)) (.out []) := by
  unfold runBefore
  cases hb : s.before with
  | nil => exact h.forward (by rw [at_, phaseNext, hb]; rfl)
  | cons k l =>
    have h1 : Acc (fireB s k) (.running (ids l)) :=
      (h.emit (.runB k.id) (by rw [at_, hb]; exact if_pos rfl)).kidOf k
    have h2 := Acc.foldl (fire := fireB) (ph := .running)
      (fun h => (h.emit (.runB _) (if_pos rfl)).kidOf _) l h1
    exact h2.forward rfl

/-- **the invariant**: the trace is accepted and ends in the phase the response is in; the
    bookkeeping matches the writer -/
structure Inv (s : St) : Prop where
  acc : Acc s (restPhase s)
  sent : s.committed = true → s.hdrs = [s.status]
  unsent : s.committed = false → s.hdrs = [] ∧ s.body = 0
  size : s.size = s.body

theorem Inv.acc_out {s : St} (h : Inv s) (hc : s.committed = true) : Acc s (.out []) := by
  have := h.acc
  rwa [restPhase, if_pos hc] at this

theorem Inv.acc_idle {s : St} (h : Inv s) (hc : s.committed = false) : Acc s .idle := by
  have := h.acc
  rwa [restPhase, hc] at this

/-- the bookkeeping clauses of `Inv` -/
def Book (s : St) : Prop :=
  (s.committed = true → s.hdrs = [s.status]) ∧ (s.committed = false → s.hdrs = [] ∧ s.body = 0) ∧
    s.size = s.body

theorem Inv.book {s : St} (h : Inv s) : Book s := ⟨h.sent, h.unsent, h.size⟩

theorem Inv.of_book {s : St} (ha : Acc s (restPhase s)) (hb : Book s) : Inv s :=
  ⟨ha, hb.1, hb.2.1, hb.2.2⟩

/-- the bookkeeping and the resting phase speak of `core s` only -/
theorem Book.of_core {s t : St} (hb : Book s) (h : core t = core s) : Book t := by
  have : Book (core s) := hb
  rw [← h] at this
  exact this

theorem restPhase_of_core {s t : St} (h : core t = core s) : restPhase t = restPhase s :=
  (congrArg restPhase h :)

theorem inv_init (p : Nat) : Inv (init p) := ⟨rfl, nofun, fun _ => ⟨rfl, rfl⟩, rfl⟩

theorem inv_register {s : St} (h : Inv s) (b : Bool) (k : Hook) : Inv (register s b k) :=
  have e := core_register s b k
  .of_book (restPhase_of_core e ▸ h.acc.register b k) (h.book.of_core e)

theorem inv_emit_out {s : St} (h : Inv s) (hc : s.committed = true) {e : Ev}
    (he : e = .warn ∨ e = .rflush) : Inv (emit s e) := by
  refine .of_book ?_ h.book
  show Acc _ (restPhase s)
  rw [restPhase, if_pos hc]
  rcases he with rfl | rfl <;> exact (h.acc_out hc).emit _ rfl

theorem inv_commit {s : St} (ha : Acc s .idle) (hh : s.hdrs = []) (hs : s.size = s.body) :
    Inv (forward (runBefore s)) := by
  have e := core_runBefore s
  refine .of_book (acc_commit ha) ⟨fun _ => ?_, nofun, ?_⟩
  · show (runBefore s).hdrs ++ _ = _
    rw [show (runBefore s).hdrs = s.hdrs from (congrArg St.hdrs e :), hh]
    rfl
  · exact (congrArg St.size e :).trans (hs.trans (congrArg St.body e :).symm)

theorem inv_writeHeader {s : St} (h : Inv s) (c : Nat) : Inv (writeHeader s c) := by
  unfold writeHeader
  split
  · rename_i hc
    exact inv_emit_out h hc (.inl rfl)
  · rename_i hc
    have hc : s.committed = false := by simpa using hc
    exact inv_commit (s := { s with status := c }) (h.acc_idle hc) (h.unsent hc).1 h.size

theorem writeHeader_committed (s : St) (c : Nat) : (writeHeader s c).committed = true := by
  unfold writeHeader
  split
  · assumption
  · rfl

theorem inv_ensureCommitted {s : St} (h : Inv s) :
    Inv (ensureCommitted s) ∧ (ensureCommitted s).committed = true := by
  unfold ensureCommitted
  split
  · exact ⟨h, by assumption⟩
  · exact ⟨inv_writeHeader h _, writeHeader_committed _ _⟩

theorem inv_write {s : St} (h : Inv s) (n : Nat) : Inv (write s n) := by
  obtain ⟨h1, hc⟩ := inv_ensureCommitted h
  unfold write
  generalize ensureCommitted s = t at h1 hc
  have hb : Acc (putBody t n) (.out (ids t.after)) :=
    Acc.emit (s := { t with body := t.body + n, size := t.size + n }) (h1.acc_out hc) (.body n) rfl
  have ha : Acc (runAfter (putBody t n)) (.out []) :=
    Acc.foldl (fire := fireA) (ph := .out) (fun h => (h.emit (.runA _) (if_pos rfl)).kidOf _) _ hb
  have e := core_runAfter (putBody t n)
  have hp : Book (putBody t n) :=
    ⟨fun _ => h1.sent hc, fun hx => absurd (hc.symm.trans hx) nofun, congrArg (· + n) h1.size⟩
  exact .of_book ((restPhase_of_core e).trans (if_pos hc) ▸ ha) (hp.of_core e)

theorem inv_flush {s : St} (h : Inv s) : Inv (flush s) :=
  have ⟨h1, hc⟩ := inv_ensureCommitted h
  inv_emit_out h1 hc (.inr rfl)

theorem inv_setStatus {s : St} (h : Inv s) (hc : s.committed = false) (c : Nat) :
    Inv { s with status := c } :=
  ⟨h.acc, fun hx => absurd (hc.symm.trans hx) nofun, h.unsent, h.size⟩

theorem inv_step {s : St} (h : Inv s) (op : Op) : Inv (step s op) := by
  cases op with
  | before k => exact inv_register h true k
  | after k => exact inv_register h false k
  | writeHeader c => exact inv_writeHeader h c
  | write n => exact inv_write h n
  | flush => exact inv_flush h
  | blob c n => exact inv_write (inv_writeHeader h c) n
  | json c k ok =>
    have h2 : Inv (if s.committed then emit s .warn else { s with status := c }) := by
      split
      · rename_i hc
        exact inv_emit_out h hc (.inl rfl)
      · rename_i hc
        exact inv_setStatus h (by simpa using hc) c
    cases ok with
    | false => exact h2
    | true => exact inv_write h2 _

/-- **C06H_inv** — for EVERY program, whatever hooks it registers and whatever hooks those
    register in turn: the trace is accepted by the hook specification, `Committed` tells whether
    the headers are out, at most one `WriteHeader` reached the writer (with `Status`), `Size` is
    what the writer got. -/
theorem C06H_inv (p : Nat) (prog : List Op) : Inv (run (init p) prog) :=
  prog.foldlRecOn step (inv_init p) fun _ h op _ => inv_step h op

theorem quiet_at_rest (s : St) : (at_ s (restPhase s)).quiet = true := by
  unfold restPhase
  split <;> rfl

theorem C06H_trace_ok (p : Nat) (prog : List Op) : traceOK (run (init p) prog).trace = true := by
  have h : scanFrom {} _ = _ := (C06H_inv p prog).acc
  rw [traceOK, h]
  exact quiet_at_rest _

/-! ## what acceptance means -/

def isRunA? : Ev → Option Nat | .runA h => some h | _ => none
def isRunB? : Ev → Option Nat | .runB h => some h | _ => none
def isHdr? : Ev → Option Nat | .hdr c => some c | _ => none
def regAs (l : List Ev) : List Nat := l.filterMap isRegA?
def runAs (l : List Ev) : List Nat := l.filterMap isRunA?
def runBs (l : List Ev) : List Nat := l.filterMap isRunB?
def hdrsOf (l : List Ev) : List Nat := l.filterMap isHdr?

theorem filterMap_cons_toList {α β : Type} (f : α → Option β) (a : α) (l : List α) :
    (a :: l).filterMap f = (f a).toList ++ l.filterMap f := by
  rw [List.filterMap_cons]
  cases f a <;> rfl

theorem next_some {σ σ1 : Scan} {e : Ev} (hn : σ.next e = some σ1) :
    phaseNext σ e = some σ1.ph ∧ σ1.aft = σ.aft ++ (isRegA? e).toList := by
  obtain ⟨ph, hp, rfl⟩ := Option.map_eq_some_iff.mp hn
  exact ⟨hp, rfl⟩

theorem scanFrom_cons_some {σ σ' : Scan} {e : Ev} {es : List Ev} (h : scanFrom σ (e :: es) = some σ') :
    ∃ σ1, σ.next e = some σ1 ∧ scanFrom σ1 es = some σ' :=
  Option.bind_eq_some_iff.mp (scanFrom_cons σ e es ▸ h)

theorem scanFrom_mid {σ0 σ : Scan} {pre post : List Ev} {e : Ev}
    (h : scanFrom σ0 (pre ++ e :: post) = some σ) :
    ∃ σ1 σ2, scanFrom σ0 pre = some σ1 ∧ σ1.next e = some σ2 ∧ scanFrom σ2 post = some σ := by
  rw [scanFrom_append] at h
  obtain ⟨σ1, h1, h2⟩ := Option.bind_eq_some_iff.mp h
  obtain ⟨σ2, hn, h3⟩ := scanFrom_cons_some h2
  exact ⟨σ1, σ2, h1, hn, h3⟩

theorem scan_aft {l : List Ev} {σ σ' : Scan} (h : scanFrom σ l = some σ') : σ'.aft = σ.aft ++ regAs l := by
  induction l generalizing σ with
  | nil => cases h; exact (List.append_nil _).symm
  | cons e es ih =>
    obtain ⟨σ1, hn, h1⟩ := scanFrom_cons_some h
    rw [ih h1, (next_some hn).2, List.append_assoc]
    exact congrArg _ (filterMap_cons_toList isRegA? e es).symm

/-- what the scanner accepts once the headers are out: no before-hook, no `WriteHeader`, and the
    after-hooks it is owed in their order (`p = []`: nothing is owed, a body write may follow) -/
theorem phaseNext_out {σ : Scan} {p : List Nat} {e : Ev} {ph : Phase} (hσ : σ.ph = .out p)
    (h : phaseNext σ e = some ph) :
    isRunB? e = none ∧ isHdr? e = none ∧
      ∃ p', ph = .out p' ∧ (p = [] ∨ p = (isRunA? e).toList ++ p') := by
  cases e with
  | regB _ | regA _ => exact ⟨rfl, rfl, p, (Option.some.inj h).symm.trans hσ, .inr rfl⟩
  | runB _ | hdr _ => simp [phaseNext, hσ] at h
  | runA k =>
    cases p with
    | nil => simp [phaseNext, hσ] at h
    | cons x xs =>
      simp only [phaseNext, hσ] at h
      split at h
      · rename_i hx
        exact ⟨rfl, rfl, xs, (Option.some.inj h).symm, .inr (hx ▸ rfl)⟩
      · cases h
  | body _ | rflush | warn =>
    cases p with
    | nil =>
      simp only [phaseNext, hσ] at h
      exact ⟨rfl, rfl, _, (Option.some.inj h).symm, .inl rfl⟩
    | cons x xs => simp [phaseNext, hσ] at h

/-- once the headers are out no before-hook runs and no further `WriteHeader` is accepted; owed
    after-hooks are run, in order, before the scanner is quiet again, and other events
    (registrations by those hooks) may come in between -/
theorem scan_out {post : List Ev} {pend : List Nat} {σ σ' : Scan} (hph : σ.ph = .out pend)
    (h : scanFrom σ post = some σ') :
    runBs post = [] ∧ hdrsOf post = [] ∧ (σ'.quiet = true → pend <+: runAs post) := by
  induction post generalizing pend σ with
  | nil =>
    cases h
    refine ⟨rfl, rfl, fun hq => ?_⟩
    cases pend with
    | nil => exact List.prefix_rfl
    | cons x xs => simp [Scan.quiet, hph] at hq
  | cons e es ih =>
    obtain ⟨σ1, hn, h1⟩ := scanFrom_cons_some h
    obtain ⟨kB, kH, p', hp', hor⟩ := phaseNext_out hph (next_some hn).1
    obtain ⟨iB, iH, iA⟩ := ih hp' h1
    refine ⟨?_, ?_, fun hq => ?_⟩
    · rw [runBs, filterMap_cons_toList, kB]; exact iB
    · rw [hdrsOf, filterMap_cons_toList, kH]; exact iH
    · rw [runAs, filterMap_cons_toList]
      rcases hor with rfl | rfl
      · exact List.nil_prefix
      · exact (List.prefix_append_right_inj _).mpr (iA hq)

theorem phaseNext_body {σ : Scan} {k : Nat} {ph : Phase} (h : phaseNext σ (.body k) = some ph) :
    ph = .out σ.aft := by
  simp only [phaseNext] at h
  split at h
  · exact (Option.some.inj h).symm
  · cases h

theorem phaseNext_hdr {σ : Scan} {c : Nat} {ph : Phase} (h : phaseNext σ (.hdr c) = some ph) :
    ph = .out [] := by
  simp only [phaseNext] at h
  split at h
  · split at h
    · exact (Option.some.inj h).symm
    · cases h
  · exact (Option.some.inj h).symm
  · cases h

/-- **scan_after_each_write** — in an accepted trace that ends quiet, every after-hook
    registered before a body write (by the handler or by a hook, e.g. a before-hook running in
    the very commit this write triggered) runs after that write, in registration order. -/
theorem scan_after_each_write {pre post : List Ev} {k : Nat} {σ : Scan}
    (h : scanFrom {} (pre ++ .body k :: post) = some σ) (hq : σ.quiet = true) :
    regAs pre <+: runAs post := by
  obtain ⟨σ1, σ2, h1, hn, h2⟩ := scanFrom_mid h
  have hph : σ2.ph = .out (regAs pre) := by
    rw [phaseNext_body (next_some hn).1, scan_aft h1]
    rfl
  exact (scan_out hph h2).2.2 hq

/-- **scan_before** — after the `WriteHeader` that reached the writer no before-hook runs and
    no second `WriteHeader` reaches it -/
theorem scan_before {pre post : List Ev} {c : Nat} {σ : Scan}
    (h : scanFrom {} (pre ++ .hdr c :: post) = some σ) : runBs post = [] ∧ hdrsOf post = [] := by
  obtain ⟨σ1, σ2, _, hn, h2⟩ := scanFrom_mid h
  have ⟨hB, hH, _⟩ := scan_out (phaseNext_hdr (next_some hn).1) h2
  exact ⟨hB, hH⟩

/-- **C06H_after_hooks_each_write** — for every program: every after-hook registered before a
    body write reaches the writer — also one registered by a before-hook during the commit that
    this very write triggered — runs after that write, in registration order. -/
theorem C06H_after_hooks_each_write (p : Nat) (prog : List Op) (pre post : List Ev) (k : Nat)
    (htr : (run (init p) prog).trace = pre ++ .body k :: post) : regAs pre <+: runAs post := by
  have h : scanFrom {} _ = _ := (C06H_inv p prog).acc
  rw [htr] at h
  exact scan_after_each_write h (quiet_at_rest _)

theorem C06H_before_hooks_not_after_headers (p : Nat) (prog : List Op) (pre post : List Ev) (c : Nat)
    (htr : (run (init p) prog).trace = pre ++ .hdr c :: post) : runBs post = [] ∧ hdrsOf post = [] := by
  have h : scanFrom {} _ = _ := (C06H_inv p prog).acc
  rw [htr] at h
  exact scan_before h

/-! ## non-vacuity: the shapes the harness generates -/

/-- a before-hook registers an after-hook; the write that commits the response owes it -/
example : (run (init 200) [.before ⟨1, some (false, 7)⟩, .write 3]).trace
    = [.regB 1, .runB 1, .regA 7, .hdr 200, .body 3, .runA 7] := by decide +kernel
/-- … and the hypotheses of `C06H_after_hooks_each_write` are met with `regAs pre = [7]` -/
example : regAs [Ev.regB 1, .runB 1, .regA 7, .hdr 200] = [7] ∧ runAs [Ev.runA 7] = [7] := by decide +kernel
/-- a before-hook registered by a before-hook is not run by the loop in progress (Go reads the
    slice once) and never afterwards -/
example : (run (init 200) [.before ⟨1, some (true, 2)⟩, .writeHeader 404, .write 1]).trace
    = [.regB 1, .runB 1, .regB 2, .hdr 404, .body 1] := by decide +kernel
/-- an after-hook that registers an after-hook: the child runs from the next write on, and is
    registered again each time its parent runs -/
example : (run (init 0) [.after ⟨1, some (false, 2)⟩, .write 1, .write 1]).trace
    = [.regA 1, .hdr 200, .body 1, .runA 1, .regA 2, .body 1, .runA 1, .regA 2, .runA 2] := by decide +kernel
/-- the specification rejects the behaviour of the seeded change (the after-hook registered
    during the commit is skipped for the committing write) -/
example : traceOK [.regB 1, .runB 1, .regA 7, .hdr 200, .body 3] = false := by decide +kernel

end C06H
