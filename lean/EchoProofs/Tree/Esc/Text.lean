import EchoProofs.Tree.Esc.Defs
/-!
# Patterns with escaped colons: `okPatternE` with canonical fuel, the world of an `okTableE`

`world_of_escFree`: the token lists of a table without escape conflict form a `World`; `okTableE_of_ok`: a table of
`okPattern`s is an `okTableE` (no literal colon, so no conflict); `conflictAt_iff`: `conflict` says that the two
lists differ first at a position where one has a literal colon and the other a parameter.
-/
namespace Router.Tree.Esc
open Router Router.Spec Router.Tree

theorem okPatternEAux_cons (f : Nat) (c : Char) (rest : Str) :
    okPatternEAux (f + 1) (c :: rest) =
      if c = '\\' ∧ rest.head? = some ':' then okPatternEAux f rest.tail
      else if c = ':' then okPatternEAux f (rest.dropWhile (· ≠ '/'))
      else if c = '*' then rest.isEmpty
      else okPatternEAux f rest := by
  simp only [okPatternEAux]

theorem okPatternEAux_fuel : ∀ (f f' : Nat) (s : Str), s.length < f → s.length < f' →
    okPatternEAux f s = okPatternEAux f' s := by
  refine fuel_irrelevant okPatternEAux (fun f f' => by simp [okPatternEAux]) fun f f' c rest h => ?_
  rw [okPatternEAux_cons, okPatternEAux_cons, h rest.tail (by simp), h _ (dropWhile_length_le _ rest),
    h rest (Nat.le_refl _)]

/-- `okPatternEAux` with just enough fuel -/
def OKE (s : Str) : Bool := okPatternEAux (s.length + 1) s

theorem okPatternEAux_OKE {f : Nat} {s : Str} (h : s.length < f) : okPatternEAux f s = OKE s :=
  okPatternEAux_fuel f _ s h (Nat.lt_succ_self _)

theorem OKE_cons (c : Char) (rest : Str) :
    OKE (c :: rest) =
      if c = '\\' ∧ rest.head? = some ':' then OKE rest.tail
      else if c = ':' then OKE (rest.dropWhile (· ≠ '/'))
      else if c = '*' then rest.isEmpty
      else OKE rest := by
  show okPatternEAux (rest.length + 1 + 1) (c :: rest) = _
  rw [okPatternEAux_cons, okPatternEAux_OKE (Nat.lt_succ_of_le (dropWhile_length_le _ rest)),
    okPatternEAux_OKE (Nat.lt_succ_self _), okPatternEAux_OKE (s := rest.tail) (by rw [List.length_tail]; omega)]

theorem okPatternE_eq_OKE (p : Str) : okPatternE p = OKE (normalizeSlash p) := rfl

/-! ### `okPattern` implies `okPatternE`, and its tokens have no literal colon -/

theorem okE_of_ok : ∀ (f : Nat) (s : Str), okPatternAux f s = true → okPatternEAux f s = true := by
  intro f
  induction f with
  | zero => intro s _; rfl
  | succ f ih =>
    intro s h
    cases s with
    | nil => rfl
    | cons c rest =>
      rw [okPatternAux_cons] at h
      rw [okPatternEAux_cons]
      by_cases h1 : c = '\\' ∧ rest.head? = some ':'
      · rw [if_pos h1] at h; cases h
      · rw [if_neg h1] at h ⊢
        by_cases h2 : c = ':'
        · rw [if_pos h2] at h ⊢; exact ih _ h
        · rw [if_neg h2] at h ⊢
          by_cases h3 : c = '*'
          · rw [if_pos h3] at h ⊢; exact h
          · rw [if_neg h3] at h ⊢; exact ih _ h

theorem okPatternE_of_ok {p : Str} (h : okPattern p = true) : okPatternE p = true := okE_of_ok _ _ h

theorem no_lit_colon_of_ok : ∀ (f : Nat) (s : Str), okPatternAux f s = true → Tok.lit ':' ∉ (normAux f s).1 :=
  normAux_induction (P := fun f s ts _ => okPatternAux f s = true → Tok.lit ':' ∉ ts) (fun _ _ _ _ => List.not_mem_nil)
    (fun _ _ _ _ _ h => by simp [okPatternAux] at h)
    (fun _ _ ih h => by simpa using ih (by simpa [okPatternAux_cons] using h))
    (fun _ _ _ => by simp)
    (fun _ _ _ _ _ hesc hcolon hstar ih h => by
      simpa [Ne.symm hcolon] using ih (by simpa [okPatternAux_cons, hesc, hcolon, hstar] using h))

/-- the tokens of a pattern never contain a literal `*` -/
theorem no_lit_star : ∀ (f : Nat) (s : Str), Tok.lit '*' ∉ (normAux f s).1 :=
  normAux_induction (P := fun _ _ ts _ => Tok.lit '*' ∉ ts) (fun _ _ _ => List.not_mem_nil)
    (fun _ _ _ _ ih => by simpa using ih) (fun _ _ ih => by simpa using ih) (fun _ _ => by simp)
    (fun _ _ _ _ _ _ _ hstar ih => by simpa [Ne.symm hstar] using ih)

/-! ### `conflict` -/

theorem conflict_cons (x y : Tok) (a b : List Tok) :
    conflict (x :: a) (y :: b) =
      if x = y then conflict a b else (x == .lit ':' && y == .param) || (x == .param && y == .lit ':') := by
  rw [conflict]

theorem conflict_split (q r1 r2 : List Tok) : conflict (q ++ Tok.lit ':' :: r1) (q ++ Tok.param :: r2) = true := by
  induction q with
  | nil => simp [conflict_cons]
  | cons x q ih => simp [conflict_cons, ih]

theorem conflict_comm : ∀ (a b : List Tok), conflict a b = conflict b a := by
  intro a
  induction a with
  | nil => intro b; cases b <;> simp [conflict]
  | cons x a ih =>
    intro b
    cases b with
    | nil => simp [conflict]
    | cons y b =>
      rw [conflict_cons, conflict_cons]
      by_cases h : x = y
      · subst h; simp [ih]
      · have h' : ¬ y = x := fun e => h e.symm
        rw [if_neg h, if_neg h', Bool.or_comm]
        congr 1 <;> rw [Bool.and_comm]

/-- a conflict needs a literal colon -/
theorem lit_colon_of_conflict : ∀ (a b : List Tok), conflict a b = true → Tok.lit ':' ∈ a ∨ Tok.lit ':' ∈ b := by
  intro a
  induction a with
  | nil => intro b h; cases b <;> simp [conflict] at h
  | cons x a ih =>
    intro b h
    cases b with
    | nil => simp [conflict] at h
    | cons y b =>
      rw [conflict_cons] at h
      by_cases hxy : x = y
      · rw [if_pos hxy] at h
        rcases ih b h with h' | h'
        · exact Or.inl (List.mem_cons_of_mem _ h')
        · exact Or.inr (List.mem_cons_of_mem _ h')
      · rw [if_neg hxy] at h
        simp only [Bool.or_eq_true, Bool.and_eq_true, beq_iff_eq] at h
        rcases h with h | h
        · left; rw [h.1]; exact List.mem_cons_self
        · right; rw [h.2]; exact List.mem_cons_self

/-- **the token lists of a table without escape conflict form a world** -/
theorem world_of_escFree {rs : List Route} (h : escFree rs = true) :
    World (rs.map fun r => (norm r.path).1) := by
  simp only [escFree, List.all_eq_true, Bool.not_eq_true'] at h
  constructor
  · intro w hw
    obtain ⟨r, _, rfl⟩ := List.mem_map.mp hw
    exact no_lit_star _ _
  · intro w1 hw1 w2 hw2 q r1 r2 e1 e2
    obtain ⟨a, ha, rfl⟩ := List.mem_map.mp hw1
    obtain ⟨b, hb, rfl⟩ := List.mem_map.mp hw2
    have := h a ha b hb
    rw [e1, e2, conflict_split] at this
    cases this

theorem okTableE_of_ok {rs : List Route} (h : okTable rs = true) : okTableE rs = true := by
  simp only [okTable, List.all_eq_true] at h
  simp only [okTableE, escFree, Bool.and_eq_true, List.all_eq_true, Bool.not_eq_true']
  refine ⟨fun r hr => okPatternE_of_ok (h r hr), ?_⟩
  intro a ha b hb
  cases hc : conflict (norm a.path).1 (norm b.path).1 with
  | false => rfl
  | true =>
    rcases lit_colon_of_conflict _ _ hc with h' | h'
    · exact absurd h' (no_lit_colon_of_ok _ _ (h a ha))
    · exact absurd h' (no_lit_colon_of_ok _ _ (h b hb))

/-! ### `conflictAt` -/

theorem conflictAt_nil_left (b : List Tok) (k : Nat) : conflictAt [] b k = false := by simp [conflictAt]
theorem conflictAt_nil_right (a : List Tok) (k : Nat) : conflictAt a [] k = false := by simp [conflictAt]
theorem conflictAt_cons_zero (x y : Tok) (a b : List Tok) :
    conflictAt (x :: a) (y :: b) 0 = (x == .lit ':' && y == .param) := by simp [conflictAt]
theorem conflictAt_cons_succ (x y : Tok) (a b : List Tok) (k : Nat) :
    conflictAt (x :: a) (y :: b) (k + 1) = (x == y && conflictAt a b k) := by
  simp [conflictAt, Bool.and_assoc]

/-- the formulation with positions agrees with `conflict` -/
theorem conflictAt_iff (a b : List Tok) :
    conflict a b = true ↔ ∃ k, conflictAt a b k = true ∨ conflictAt b a k = true := by
  induction a generalizing b with
  | nil => simp [conflict, conflictAt_nil_left, conflictAt_nil_right]
  | cons x a ih =>
    cases b with
    | nil => simp [conflict, conflictAt_nil_left, conflictAt_nil_right]
    | cons y b =>
      rw [conflict_cons]
      constructor
      · intro h
        by_cases hxy : x = y
        · rw [if_pos hxy, ih b] at h
          obtain ⟨k, hk⟩ := h
          exact ⟨k + 1, by simpa [conflictAt_cons_succ, hxy] using hk⟩
        · rw [if_neg hxy] at h
          exact ⟨0, by simpa [conflictAt_cons_zero, and_comm] using h⟩
      · rintro ⟨k, hk⟩
        cases k with
        | zero =>
          have hxy : x ≠ y := by
            rintro rfl
            simp only [conflictAt_cons_zero, Bool.and_eq_true, beq_iff_eq, or_self] at hk
            obtain ⟨h1, h2⟩ := hk
            rw [h1] at h2; cases h2
          rw [if_neg hxy]
          simpa [conflictAt_cons_zero, and_comm] using hk
        | succ k =>
          simp only [conflictAt_cons_succ, Bool.and_eq_true, beq_iff_eq] at hk
          have hxy : x = y := hk.elim (·.1) (·.1.symm)
          rw [if_pos hxy, ih b]
          exact ⟨k, hk.imp (·.2) (·.2)⟩
end Router.Tree.Esc
