import EchoProofs.Tree.Esc.Corollaries
import EchoProofs.Tree.Dirty
/-!
# Further router corollaries for tables WITH escaped colons (`okTableE`)

The remaining `okTable` corollaries of `Tree/Complete.lean`, `C03Method.lean`, `C20Tree.lean` and `Tree/Dirty.lean`,
with the weaker hypothesis `okTableE rs = true` (same statements, from `represents_okE`).
-/
namespace Router.Tree
open Router Router.Spec

theorem tree_complete_okE (rs : List Route) (hok : okTableE rs = true) (r : Route) (hr : r ∈ rs)
    (hne : r.method ≠ routeNotFound) (path : Str) (hmatch : C02.Matches (norm r.path).1 path)
    (n : Nat) (hn : maxParam rs ≤ n) :
    ∃ rm vals, find (build rs) r.method path (List.replicate n []) = .dispatch rm vals
      ∧ ∃ r' ∈ dedupLast rs, r'.hid = rm.hid :=
  complete_in_force (represents_okE hok) (fun _ _ => normAux_anyLast _ _) hr hne hmatch hn

/-- **C03 on the tree model**: the record a request is dispatched to belongs to a registration in force that
    was made for the request's method or as a RouteNotFound route.  (The tree's record does not carry the
    method; the registration in force with the record's handler id does.) -/
theorem tree_dispatch_method_okE (rs : List Route) (m path : Str) (n : Nat) (hn : maxParam rs ≤ n)
    (hok : okTableE rs = true) (rm : RouteMethod) (vals : List Str)
    (h : find (build rs) m path (List.replicate n []) = .dispatch rm vals) :
    ∃ r ∈ dedupLast rs, r.hid = rm.hid ∧ normalizeSlash r.path = rm.ppath
      ∧ (r.method = m ∨ r.method = routeNotFound) :=
  (represents_okE hok).dispatch_method hn h

/-- **(B) the outcome of `Router.Find` does not depend on the content of the value slice**: for every
    `okTableE` (re-registrations allowed) and two slices of the same length (if the
    slices are shorter than `maxParam`, both runs may fail — together).  No exception: also the
    `RouteNotFound` record reached through the best-node fallback (F3) gets the same values. -/
theorem find_content_eq_okE (rs : List Route) (hok : okTableE rs = true) (m path : Str) (pv pv' : List Str)
    (hsame : pv.length = pv'.length) :
    find (build rs) m path pv = find (build rs) m path pv' :=
  (represents_okE hok).find_content m path hsame

/-- **(B)** against a blank slice: a used context routes like a fresh one -/
theorem find_content_irrelevant_okE (rs : List Route) (hok : okTableE rs = true) (m path : Str) (pv : List Str)
    (_hlen : maxParam rs ≤ pv.length) :
    find (build rs) m path pv = find (build rs) m path (List.replicate pv.length []) :=
  find_content_eq_okE rs hok m path pv _ (by simp)

/-- (B) with room for an exception (the `RouteNotFound` record reached through the
    best-node fallback getting whatever the slice holds): it holds because the first disjunct always does;
    the second disjunct never occurs with values different from the blank ones. -/
theorem find_content_irrelevant_or_okE (rs : List Route) (hok : okTableE rs = true) (m path : Str) (pv : List Str)
    (hlen : maxParam rs ≤ pv.length) :
    find (build rs) m path pv = find (build rs) m path (List.replicate pv.length [])
    ∨ (∃ rm vals vals', find (build rs) m path pv = .dispatch rm vals
          ∧ find (build rs) m path (List.replicate pv.length []) = .dispatch rm vals'
          ∧ (findNode path m (build rs) ⟨0, 0, List.replicate pv.length [], none, false⟩).2 = .leave
          ∧ ∃ b, (findNode path m (build rs) ⟨0, 0, List.replicate pv.length [], none, false⟩).1.best = some b
              ∧ b.nf = some rm) :=
  Or.inl (find_content_irrelevant_okE rs hok m path pv hlen)

/-- routing never fails on a used context with at least `maxParam` value slots -/
theorem tree_no_panic_forward_okE (rs : List Route) (hok : okTableE rs = true) (m path : Str) (pv : List Str)
    (hlen : maxParam rs ≤ pv.length) : find (build rs) m path pv ≠ .panic := by
  rw [find_content_irrelevant_okE rs hok m path pv hlen]
  exact find_table_no_panic_okE rs m path pv.length hlen hok

/-- **internal forward = fresh request**, for requests that hit a route registered for their method: if a
    registered route for method `m` matches the path, `Router.Find` on a context holding ANY old values
    dispatches to the same record with the same values as on a freshly reset context — and that record
    belongs to a registration in force. -/
theorem tree_forward_sound_okE (rs : List Route) (hok : okTableE rs = true) (m path : Str) (pv : List Str)
    (hlen : maxParam rs ≤ pv.length) (hm : m ≠ routeNotFound)
    (r : Route) (hr : r ∈ rs) (hmeth : r.method = m) (hmatch : C02.Matches (norm r.path).1 path) :
    ∃ rm vals, find (build rs) m path pv = .dispatch rm vals ∧
      find (build rs) m path (List.replicate pv.length []) = .dispatch rm vals ∧
      ∃ r' ∈ dedupLast rs, r'.hid = rm.hid := by
  subst hmeth
  obtain ⟨rm, vals, hf, hreg⟩ := tree_complete_okE rs hok r hr hm path hmatch pv.length hlen
  exact ⟨rm, vals, by rw [find_content_irrelevant_okE rs hok _ path pv hlen]; exact hf, hf, hreg⟩

/-- the same with the match given by an instantiation of the pattern with valid values (a named
    parameter's value non-empty and without `/`), as in C20 -/
theorem tree_forward_sound_inst_okE (rs : List Route) (hok : okTableE rs = true) (m path : Str) (pv : List Str)
    (hlen : maxParam rs ≤ pv.length) (hm : m ≠ routeNotFound)
    (r : Route) (hr : r ∈ dedupLast rs) (hmeth : r.method = m) (w : List Str)
    (hvalid : C20.ValidVals (norm r.path).1 w) (hinst : inst (norm r.path).1 w = some path) :
    ∃ rm vals, find (build rs) m path pv = .dispatch rm vals ∧
      find (build rs) m path (List.replicate pv.length []) = .dispatch rm vals ∧
      ∃ r' ∈ dedupLast rs, r'.hid = rm.hid :=
  tree_forward_sound_okE rs hok m path pv hlen hm r (dedupLast_subset rs r hr) hmeth
    (C20.matches_of_inst _ w _ (C20.normAux_paramThenSlash _ _) hvalid hinst)

/-- **C01 on the tree model, for a used context**: whatever `Router.Find` dispatches to on a context holding
    arbitrary old values, the observed values are those of the request path (the pattern instantiated with
    them rebuilds the path, one value per name, no `/` in a parameter followed by text) — or it is the F3
    fallback, and then the values are blank.  No text of an earlier request shows up in any value. -/
theorem tree_sound_forward_okE (rs : List Route) (hok : okTableE rs = true) (m path : Str) (pv : List Str)
    (hlen : maxParam rs ≤ pv.length) (rm : RouteMethod) (vals : List Str)
    (h : find (build rs) m path pv = .dispatch rm vals) :
    (inst (norm rm.ppath).1 vals = some path ∧ SlashFree (norm rm.ppath).1 vals
        ∧ vals.length = arity (norm rm.ppath).1)
    ∨ ((∃ w, inst (norm rm.ppath).1 w = some path) ∧ vals = rm.pnames.map (fun _ => [])) := by
  rw [find_content_irrelevant_okE rs hok m path pv hlen] at h
  exact tree_sound_okE rs m path pv.length hlen hok rm vals h

/-- **C03 on the tree model, for a used context**: the record dispatched to belongs to a registration in
    force made for the request's method or as a RouteNotFound route -/
theorem tree_dispatch_method_forward_okE (rs : List Route) (hok : okTableE rs = true) (m path : Str) (pv : List Str)
    (hlen : maxParam rs ≤ pv.length) (rm : RouteMethod) (vals : List Str)
    (h : find (build rs) m path pv = .dispatch rm vals) :
    ∃ r ∈ dedupLast rs, r.hid = rm.hid ∧ normalizeSlash r.path = rm.ppath
      ∧ (r.method = m ∨ r.method = routeNotFound) := by
  rw [find_content_irrelevant_okE rs hok m path pv hlen] at h
  exact tree_dispatch_method_okE rs m path pv.length hlen hok rm vals h

end Router.Tree

namespace C20
open Router Router.Spec Router.Tree

/-- **C20 on the tree model, every `okTableE`**: the URL reversed from a registered route with valid values,
    requested with the route's method, is always dispatched to a registered handler (the route itself
    unless another registered route takes priority for that URL) — never answered 404/405. -/
theorem C20_reversed_dispatched_tree_okE (rs : List Route) (hok : okTableE rs = true) (r : Route) (hr : r ∈ rs)
    (hne : r.method ≠ routeNotFound) (vs : List Str)
    (hstar : starLast (normalizeSlash r.path) = true) (hvalid : ValidVals (norm r.path).1 vs)
    (n : Nat) (hn : maxParam rs ≤ n) :
    ∃ rm vals, find (build rs) r.method (reverse r.path vs) (List.replicate n []) = .dispatch rm vals
      ∧ ∃ r' ∈ dedupLast rs, r'.hid = rm.hid := by
  have hinst := C20_reverse_eq_inst r.path vs hstar (validVals_length hvalid)
  exact tree_complete_okE rs hok r hr hne _
    (matches_of_inst _ vs _ (normAux_paramThenSlash _ _) hvalid hinst) n hn


/-- **C20_roundtrip_values on the tree model** — in every `okTableE` (escaped colons and re-registrations
    allowed): whenever the tree model dispatches the URL reversed from route `r` with valid values `vs`
    to a record carrying `r`'s pattern — and the handler that runs is not that of a RouteNotFound route,
    which sees cleared values by design — the handler sees exactly `vs`. -/
theorem C20_roundtrip_values_tree_okE (rs : List Route) (hok : okTableE rs = true) (r : Route)
    (vs vals : List Str)
    (hstar : starLast (normalizeSlash r.path) = true) (hvalid : ValidVals (norm r.path).1 vs)
    (n : Nat) (hn : maxParam rs ≤ n) (rm : RouteMethod)
    (h : find (build rs) r.method (reverse r.path vs) (List.replicate n []) = .dispatch rm vals)
    (hsame : rm.ppath = normalizeSlash r.path)
    (hrec : ∀ r' ∈ rs, r'.hid = rm.hid → r'.method ≠ routeNotFound) : vals = vs :=
  roundtrip_values_of_represents (represents_okE hok) r vs vals hstar hvalid hn rm h hsame hrec

end C20
