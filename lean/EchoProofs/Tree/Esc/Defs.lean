import EchoModel.RouterEsc
import EchoProofs.Tree.Insert.Resid
import EchoProofs.Tree.Insert.Text
/-!
# Insertion with escaped colons: tree text as token lists, the world of a table, the relaxed invariant

With escaped colons a `':'` inside a static prefix is a literal, so the text of the tree does not determine
its tokens (`textToks` of `Insert/Defs.lean` reads every `':'` as a parameter).  Here the inserted
text is carried as a TOKEN LIST `ts` (the text is `chars ts`), the tokens of a node are `headToks k pre`
(exactly what `resid`/`tiNode` use), and the relaxed invariant `tiR` records for every node that its position
is a prefix of the tokens of some route of the table (`InW W`).  `World W` says that the token lists of the
table have no escape conflict; from it the byte comparisons of `insertAt` agree with token comparisons
(`WorldFrom.tok_eq`).  The theorems about `insertAt` (`Paths`, `Inv`, `Resid`) are proved under `WorldFrom W above`;
the case of tree text without escaped colon (`tiR D above`) is derived from them in `Insert/Final.lean`.
-/
namespace Router.Tree.Esc
open Router Router.Spec Router.Tree

/-! ### the byte of a token, the text of a token list -/

def charOf : Tok → Char
  | .lit c => c
  | .param => ':'
  | .any => '*'

def chars (ts : List Tok) : Str := ts.map charOf

@[simp] theorem chars_nil : chars [] = [] := rfl
@[simp] theorem chars_cons (t : Tok) (ts : List Tok) : chars (t :: ts) = charOf t :: chars ts := rfl
@[simp] theorem chars_append (a b : List Tok) : chars (a ++ b) = chars a ++ chars b := by simp [chars]
@[simp] theorem chars_length (a : List Tok) : (chars a).length = a.length := by simp [chars]

@[simp] theorem chars_lits (s : Str) : chars (lits s) = s := by
  induction s with
  | nil => rfl
  | cons c s ih =>
    have : lits (c :: s) = Tok.lit c :: lits s := rfl
    rw [this, chars_cons, ih]; rfl

theorem charOf_tokOf (c : Char) : charOf (tokOf c) = c := by
  unfold tokOf
  by_cases h1 : c = ':'
  · rw [if_pos h1, h1]; rfl
  · rw [if_neg h1]
    by_cases h2 : c = '*'
    · rw [if_pos h2, h2]; rfl
    · rw [if_neg h2]; rfl

@[simp] theorem chars_textToks (s : Str) : chars (textToks s) = s := by
  induction s with
  | nil => rfl
  | cons c s ih => rw [textToks_cons, chars_cons, charOf_tokOf, ih]

@[simp] theorem lits_nil : lits [] = [] := rfl
@[simp] theorem lits_cons (c : Char) (s : Str) : lits (c :: s) = Tok.lit c :: lits s := rfl

theorem chars_eq_nil {ts : List Tok} (h : chars ts = []) : ts = [] := by
  cases ts with
  | nil => rfl
  | cons _ _ => simp at h

theorem chars_eq_cons {ts : List Tok} {c : Char} {s : Str} (h : chars ts = c :: s) :
    ∃ tc ts', ts = tc :: ts' ∧ charOf tc = c ∧ chars ts' = s := by
  cases ts with
  | nil => simp at h
  | cons t ts' =>
    simp only [chars_cons, List.cons.injEq] at h
    exact ⟨t, ts', rfl, h.1, h.2⟩

theorem chars_eq_append {ts : List Tok} {a b : Str} (h : chars ts = a ++ b) :
    ∃ ta tb, ts = ta ++ tb ∧ chars ta = a ∧ chars tb = b := by
  induction a generalizing ts with
  | nil => exact ⟨[], ts, rfl, rfl, by simpa using h⟩
  | cons c a ih =>
    obtain ⟨tc, ts', rfl, hc, hs⟩ := chars_eq_cons (s := a ++ b) (by simpa using h)
    obtain ⟨ta, tb, rfl, h1, h2⟩ := ih hs
    exact ⟨tc :: ta, tb, rfl, by simp [hc, h1], h2⟩

theorem append_eq_of_chars {ta tu x y : List Tok} (h : ta ++ x = tu ++ y) (hc : chars ta = chars tu) :
    ta = tu ∧ x = y := by
  have hl : ta.length = tu.length := by
    have := congrArg List.length hc
    simpa using this
  exact List.append_inj h hl

theorem lits_inj {a b : Str} (h : lits a = lits b) : a = b := by
  have := congrArg chars h
  simpa using this

theorem eq_lits_of_append {v : Str} {ta tb : List Tok} (h : lits v = ta ++ tb) :
    ta = lits (chars ta) ∧ tb = lits (chars tb) := by
  induction ta generalizing v with
  | nil =>
    simp only [List.nil_append] at h
    refine ⟨rfl, ?_⟩
    rw [← h]; simp
  | cons t ta ih =>
    cases v with
    | nil => simp at h
    | cons c v =>
      simp only [lits_cons, List.cons_append, List.cons.injEq] at h
      obtain ⟨h1, h2⟩ := ih h.2
      refine ⟨?_, h2⟩
      rw [← h.1]
      simp only [chars_cons, lits_cons, charOf]
      rw [← h1]

/-- the token lists of the routes of a table: no literal `*`, no escape conflict -/
structure World (W : List (List Tok)) : Prop where
  noStar : ∀ w ∈ W, Tok.lit '*' ∉ w
  ef : ∀ w1 ∈ W, ∀ w2 ∈ W, ∀ (q r1 r2 : List Tok), w1 = q ++ Tok.lit ':' :: r1 → w2 = q ++ Tok.param :: r2 → False

/-- `ts` is a position of the table: a prefix of the tokens of some route -/
def InW (W : List (List Tok)) (ts : List Tok) : Prop := ∃ w ∈ W, ts <+: w

theorem InW.left {W : List (List Tok)} {a b : List Tok} (h : InW W (a ++ b)) : InW W a := by
  obtain ⟨w, hw, hp⟩ := h
  exact ⟨w, hw, List.IsPrefix.trans (List.prefix_append a b) hp⟩

theorem InW.of_prefix {W : List (List Tok)} {a b : List Tok} (h : InW W b) (hp : a <+: b) : InW W a := by
  obtain ⟨w, hw, hp'⟩ := h
  exact ⟨w, hw, List.IsPrefix.trans hp hp'⟩

theorem World.no_lit_star {W : List (List Tok)} (hW : World W) {q r : List Tok}
    (h : InW W (q ++ Tok.lit '*' :: r)) : False := by
  obtain ⟨w, hw, z, hz⟩ := h
  apply hW.noStar w hw
  rw [← hz]; simp

theorem World.no_conflict {W : List (List Tok)} (hW : World W) {q r1 r2 : List Tok}
    (h1 : InW W (q ++ Tok.lit ':' :: r1)) (h2 : InW W (q ++ Tok.param :: r2)) : False := by
  obtain ⟨w1, hw1, z1, hz1⟩ := h1
  obtain ⟨w2, hw2, z2, hz2⟩ := h2
  exact hW.ef w1 hw1 w2 hw2 q (r1 ++ z1) (r2 ++ z2) (by rw [← hz1]; simp) (by rw [← hz2]; simp)

/-- the two clauses of `World`, asked only of the positions that extend `above`.  The insertion below a node at
    `above` never looks at other positions, and a table that has no literal `':'`, `'*'` beyond `above` satisfies
    this whatever `above` itself contains -/
structure WorldFrom (W : List (List Tok)) (above : List Tok) : Prop where
  no_lit_star : ∀ {q r : List Tok}, InW W (above ++ q ++ Tok.lit '*' :: r) → False
  no_conflict : ∀ {q r1 r2 : List Tok},
    InW W (above ++ q ++ Tok.lit ':' :: r1) → InW W (above ++ q ++ Tok.param :: r2) → False

theorem World.worldFrom {W : List (List Tok)} (hW : World W) (above : List Tok) : WorldFrom W above :=
  ⟨fun h => hW.no_lit_star h, fun h1 h2 => hW.no_conflict h1 h2⟩

theorem WorldFrom.append {W : List (List Tok)} {above : List Tok} (hW : WorldFrom W above) (h : List Tok) :
    WorldFrom W (above ++ h) := by
  constructor
  · intro q r hin
    rw [List.append_assoc above h q] at hin
    exact hW.no_lit_star hin
  · intro q r1 r2 h1 h2
    rw [List.append_assoc above h q] at h1 h2
    exact hW.no_conflict h1 h2

/-- **two positions of the table that continue with the same byte continue with the same token** -/
theorem WorldFrom.tok_eq {W : List (List Tok)} {above : List Tok} (hW : WorldFrom W above) {q r1 r2 : List Tok}
    {x y : Tok} (h1 : InW W (above ++ q ++ x :: r1)) (h2 : InW W (above ++ q ++ y :: r2))
    (hc : charOf x = charOf y) : x = y := by
  cases x with
  | lit c =>
    cases y with
    | lit d => simp only [charOf] at hc; rw [hc]
    | param =>
      simp only [charOf] at hc; subst hc
      exact (hW.no_conflict h1 h2).elim
    | any =>
      simp only [charOf] at hc; subst hc
      exact (hW.no_lit_star h1).elim
  | param =>
    cases y with
    | lit d =>
      simp only [charOf] at hc; subst hc
      exact (hW.no_conflict h2 h1).elim
    | param => rfl
    | any => simp [charOf] at hc
  | any =>
    cases y with
    | lit d =>
      simp only [charOf] at hc; subst hc
      exact (hW.no_lit_star h2).elim
    | param => simp [charOf] at hc
    | any => rfl

/-- the tokens a new node of kind `k` may carry -/
def Piece : Kind → List Tok → Prop
  | .static, tv => ∃ v, tv = lits v
  | .param, tv => tv = [.param]
  | .any, tv => tv = [.any]

theorem piece_headToks {t : Kind} {tv : List Tok} (h : Piece t tv) : headToks t (chars tv) = tv := by
  cases t with
  | static => obtain ⟨v, rfl⟩ := h; simp [headToks]
  | param => rw [show tv = [.param] from h]; rfl
  | any => rw [show tv = [.any] from h]; rfl

theorem piece_kP {t : Kind} {tv : List Tok} (h : Piece t tv) (ht : t = .param) : chars tv = [':'] := by
  subst ht; rw [show tv = [.param] from h]; rfl

theorem piece_kA {t : Kind} {tv : List Tok} (h : Piece t tv) (ht : t = .any) : chars tv = ['*'] := by
  subst ht; rw [show tv = [.any] from h]; rfl

/-! ### the relaxed invariant -/

/-- the facts about one node (`here` = tokens up to and including its prefix) -/
structure Local (W : List (List Tok)) (D : Nat) (here : List Tok) (k : Kind) (pre : Str)
    (ms : List (Str × RouteMethod)) (nf : Option RouteMethod) (pc : Nat) (st : List Node) (pa an : Option Node) :
    Prop where
  depth : arity here ≤ D
  inW : InW W here
  kP : k = .param → pre = [':']
  kA : k = .any → pre = ['*'] ∧ st = [] ∧ pa = none ∧ an = none ∧ pc = arity here
  noNf : NoNfKey ms
  recs : ∀ x ∈ ms, (norm x.2.ppath).1 = here ∧ x.2.pnames.length = arity here
  nfRec : ∀ rm, nf = some rm → (norm rm.ppath).1 = here ∧ rm.pnames.length = arity here
  distinct : labelsDistinct st = true
  stK : ∀ c ∈ st, c.kind = .static ∧ c.pre ≠ []
  paK : ∀ c, pa = some c → c.kind = .param
  anK : ∀ c, an = some c → c.kind = .any

mutual
/-- `tiNode` without "no dead leaves", with "every node position is a position of the table" -/
def tiR (W : List (List Tok)) (D : Nat) (above : List Tok) : Node → Prop
  | .mk k pre ms nf _ pc st pa an =>
    Local W D (above ++ headToks k pre) k pre ms nf pc st pa an
    ∧ tiRL W D (above ++ headToks k pre) st ∧ tiRO W D (above ++ headToks k pre) pa
    ∧ tiRO W D (above ++ headToks k pre) an
def tiRL (W : List (List Tok)) (D : Nat) (here : List Tok) : List Node → Prop
  | [] => True
  | c :: cs => tiR W D here c ∧ tiRL W D here cs
def tiRO (W : List (List Tok)) (D : Nat) (here : List Tok) : Option Node → Prop
  | none => True
  | some c => tiR W D here c
end

theorem tiR_mk (W : List (List Tok)) (D : Nat) (above : List Tok) (k pre ms nf op pc st pa an) :
    tiR W D above (.mk k pre ms nf op pc st pa an) ↔
      (Local W D (above ++ headToks k pre) k pre ms nf pc st pa an
      ∧ tiRL W D (above ++ headToks k pre) st ∧ tiRO W D (above ++ headToks k pre) pa
      ∧ tiRO W D (above ++ headToks k pre) an) := by
  rw [tiR]

theorem tiRL_iff (W : List (List Tok)) (D : Nat) (here : List Tok) (st : List Node) :
    tiRL W D here st ↔ ∀ c ∈ st, tiR W D here c := by
  induction st with
  | nil => rw [tiRL]; exact ⟨fun _ _ h => (nomatch h), fun _ => trivial⟩
  | cons c cs ih => rw [tiRL, ih, List.forall_mem_cons]

theorem tiRO_iff (W : List (List Tok)) (D : Nat) (here : List Tok) (o : Option Node) :
    tiRO W D here o ↔ ∀ c, o = some c → tiR W D here c := by
  cases o with
  | none => rw [tiRO]; exact ⟨fun _ _ h => (nomatch h), fun _ => trivial⟩
  | some c => rw [tiRO]; exact ⟨fun h _ e => Option.some.inj e ▸ h, fun h => h c rfl⟩

/-! ### the children of a node that satisfies the relaxed invariant -/

variable {W : List (List Tok)}

theorem tiR_local {D : Nat} {above : List Tok} (n : Node) (h : tiR W D above n) :
    Local W D (above ++ headToks n.kind n.pre) n.kind n.pre n.methods n.nf n.paramsCount n.statics n.param n.any := by
  cases n; exact ((tiR_mk ..).mp h).1

theorem tiR_child {D : Nat} {above : List Tok} {k p ms nf op pc st pa an} {c : Node}
    (h : tiR W D above (.mk k p ms nf op pc st pa an)) (hc : IsChild c st pa an) :
    tiR W D (above ++ headToks k p) c := by
  obtain ⟨_, hS, hP, hA⟩ := (tiR_mk ..).mp h
  rcases hc with hc | hc | hc
  · exact (tiRL_iff ..).mp hS c hc
  · exact (tiRO_iff ..).mp hP c hc
  · exact (tiRO_iff ..).mp hA c hc

theorem child_static {D : Nat} {above : List Tok} {k p ms nf op pc st pa an} {c : Node}
    (h : tiR W D above (.mk k p ms nf op pc st pa an)) (hc : c ∈ st) : c.kind = .static ∧ c.pre ≠ [] :=
  ((tiR_mk ..).mp h).1.stK c hc

theorem child_param {D : Nat} {above : List Tok} {k p ms nf op pc st pa an} {c : Node}
    (h : tiR W D above (.mk k p ms nf op pc st pa an)) (hc : pa = some c) :
    c.kind = .param ∧ c.pre = [':'] := by
  have hl := ((tiR_mk ..).mp h).1
  have hk := hl.paK c hc
  exact ⟨hk, (tiR_local c (tiR_child h (Or.inr (Or.inl hc)))).kP hk⟩

theorem child_any {D : Nat} {above : List Tok} {k p ms nf op pc st pa an} {c : Node}
    (h : tiR W D above (.mk k p ms nf op pc st pa an)) (hc : an = some c) :
    c.kind = .any ∧ c.pre = ['*'] := by
  have hl := ((tiR_mk ..).mp h).1
  have hk := hl.anK c hc
  exact ⟨hk, ((tiR_local c (tiR_child h (Or.inr (Or.inr hc)))).kA hk).1⟩

theorem child_pre_ne {D : Nat} {above : List Tok} {k p ms nf op pc st pa an} {c : Node}
    (h : tiR W D above (.mk k p ms nf op pc st pa an)) (hc : IsChild c st pa an) : c.pre ≠ [] := by
  rcases hc with hc | hc | hc
  · exact (child_static h hc).2
  · rw [(child_param h hc).2]; simp
  · rw [(child_any h hc).2]; simp

theorem headToks_first {k : Kind} {pre : Str} {e : Char} {r : Str} (hP : k = .param → pre = [':'])
    (hA : k = .any → pre = ['*']) (hp : pre = e :: r) :
    ∃ tok rest, headToks k pre = tok :: rest ∧ charOf tok = e := by
  cases k with
  | static => rw [hp]; exact ⟨.lit e, lits r, rfl, rfl⟩
  | param =>
    have := hP rfl
    rw [hp] at this
    simp only [List.cons.injEq] at this
    exact ⟨.param, [], rfl, by rw [this.1]; rfl⟩
  | any =>
    have := hA rfl
    rw [hp] at this
    simp only [List.cons.injEq] at this
    exact ⟨.any, [], rfl, by rw [this.1]; rfl⟩

theorem child_first {D : Nat} {above : List Tok} {k p ms nf op pc st pa an} {d : Node}
    (h : tiR W D above (.mk k p ms nf op pc st pa an)) (hd : IsChild d st pa an) :
    ∃ e r tok rest, d.pre = e :: r ∧ d.label = some e ∧ headToks d.kind d.pre = tok :: rest ∧ charOf tok = e
      ∧ InW W (above ++ headToks k p ++ tok :: rest) := by
  have hne := child_pre_ne h hd
  have hl := tiR_local d (tiR_child h hd)
  cases hp : d.pre with
  | nil => exact absurd hp hne
  | cons e r =>
    obtain ⟨tok, rest, h1, h2⟩ := headToks_first hl.kP (fun hk => (hl.kA hk).1) hp
    refine ⟨e, r, tok, rest, rfl, label_of_pre hp, by rw [← hp]; exact h1, h2, ?_⟩
    rw [← h1]; exact hl.inW

theorem child_param_label {D : Nat} {above : List Tok} {k p ms nf op pc st pa an} {c : Node}
    (h : tiR W D above (.mk k p ms nf op pc st pa an)) (hc : pa = some c) : c.label = some ':' :=
  label_of_pre (child_param h hc).2

theorem child_any_label {D : Nat} {above : List Tok} {k p ms nf op pc st pa an} {c : Node}
    (h : tiR W D above (.mk k p ms nf op pc st pa an)) (hc : an = some c) : c.label = some '*' :=
  label_of_pre (child_any h hc).2

theorem child_static_first {D : Nat} {above : List Tok} {k p ms nf op pc st pa an} {d : Node}
    (h : tiR W D above (.mk k p ms nf op pc st pa an)) (hd : d ∈ st) :
    ∃ e r, d.pre = e :: r ∧ d.label = some e ∧ InW W (above ++ headToks k p ++ Tok.lit e :: lits r) := by
  obtain ⟨hk, hne⟩ := child_static h hd
  have hl := tiR_local d (tiR_child h (Or.inl hd))
  cases hp : d.pre with
  | nil => exact absurd hp hne
  | cons e r =>
    refine ⟨e, r, rfl, label_of_pre hp, ?_⟩
    have := hl.inW
    rw [hk, hp] at this
    exact this

theorem child_param_first {D : Nat} {above : List Tok} {k p ms nf op pc st pa an} {d : Node}
    (h : tiR W D above (.mk k p ms nf op pc st pa an)) (hd : pa = some d) :
    InW W (above ++ headToks k p ++ [Tok.param]) := by
  obtain ⟨hk, hp⟩ := child_param h hd
  have hl := tiR_local d (tiR_child h (Or.inr (Or.inl hd)))
  have := hl.inW
  rw [hk, hp] at this
  exact this

theorem static_label_ne_colon {D : Nat} {above : List Tok} (hW : WorldFrom W above) {k p ms nf op pc st pa an}
    {d c : Node}
    (h : tiR W D above (.mk k p ms nf op pc st pa an)) (hd : d ∈ st) (hc : pa = some c) : d.label ≠ some ':' := by
  obtain ⟨e, r, _, hl, hin⟩ := child_static_first h hd
  intro heq
  rw [hl] at heq
  have he : e = ':' := Option.some.inj heq
  subst he
  exact hW.no_conflict hin (child_param_first h hc)

theorem static_label_ne_star {D : Nat} {above : List Tok} (hW : WorldFrom W above) {k p ms nf op pc st pa an}
    {d : Node}
    (h : tiR W D above (.mk k p ms nf op pc st pa an)) (hd : d ∈ st) : d.label ≠ some '*' := by
  obtain ⟨e, r, _, hl, hin⟩ := child_static_first h hd
  intro heq
  rw [hl] at heq
  have he : e = '*' := Option.some.inj heq
  subst he
  exact hW.no_lit_star hin

/-! ### the children `insertAt` does not descend into have another label -/

theorem other_label_S {D : Nat} {above : List Tok} (hW : WorldFrom W above) {k p ms nf op pc st1 ch st2 pa an}
    {c : Char}
    (h : tiR W D above (.mk k p ms nf op pc (st1 ++ ch :: st2) pa an)) (hch : ch.label = some c)
    (h1 : ∀ x ∈ st1, x.label ≠ some c) :
    ∀ d, (d ∈ st1 ∨ d ∈ st2 ∨ pa = some d ∨ an = some d) → d.label ≠ some c := by
  have hl := ((tiR_mk ..).mp h).1
  intro d hd
  rcases hd with hd | hd | hd | hd
  · exact h1 d hd
  · rw [← hch]; exact (labelsDistinct_mid hl.distinct).2 d hd
  · rw [child_param_label h hd, ← hch]
    exact fun heq => static_label_ne_colon hW h (List.mem_append_right _ List.mem_cons_self) hd heq.symm
  · rw [child_any_label h hd, ← hch]
    exact fun heq => static_label_ne_star hW h (List.mem_append_right _ List.mem_cons_self) heq.symm

theorem other_label_P {D : Nat} {above : List Tok} {k p ms nf op pc st pa an} {c : Char} (hc : c = ':')
    (h : tiR W D above (.mk k p ms nf op pc st pa an)) (h1 : ∀ x ∈ st, x.label ≠ some c) :
    ∀ d, (d ∈ st ∨ an = some d) → d.label ≠ some c := by
  intro d hd
  rcases hd with hd | hd
  · exact h1 d hd
  · rw [child_any_label h hd, hc]; simp

theorem other_label_A {D : Nat} {above : List Tok} {k p ms nf op pc st pa an} {c : Char} (hc : c = '*')
    (h : tiR W D above (.mk k p ms nf op pc st pa an)) (h1 : ∀ x ∈ st, x.label ≠ some c) :
    ∀ d, (d ∈ st ∨ pa = some d) → d.label ≠ some c := by
  intro d hd
  rcases hd with hd | hd
  · exact h1 d hd
  · rw [child_param_label h hd, hc]; simp

/-- where `insertAt` goes down: the child it takes carries the label `c`, every other child another one, and the
    other children are the same before and after -/
theorem desc_others {D : Nat} {above : List Tok} (hW : WorldFrom W above) {k p ms nf op pc st pa an} {c : Char}
    {ch ch' : Node} {st' : List Node} {pa' an' : Option Node} (h : tiR W D above (.mk k p ms nf op pc st pa an))
    (hd : Desc c ch ch' st pa an st' pa' an') :
    ch.label = some c ∧ (∀ d, IsChild d st pa an → d = ch ∨ d.label ≠ some c)
      ∧ ∀ d, IsChild d st' pa' an' → d = ch' ∨ (IsChild d st pa an ∧ d.label ≠ some c) := by
  cases hd with
  | static hch h1 =>
    have ho := other_label_S hW h hch h1
    exact ⟨hch, fun d hd => (isChild_mid.mp hd).imp id (ho d),
      fun d hd => (isChild_mid.mp hd).imp id fun hd => ⟨isChild_mid.mpr (Or.inr hd), ho d hd⟩⟩
  | param hc h1 =>
    subst hc
    have ho := other_label_P rfl h h1
    exact ⟨child_param_label h rfl, fun d hd => (isChild_pa.mp hd).imp id (ho d),
      fun d hd => (isChild_pa.mp hd).imp id fun hd => ⟨isChild_pa.mpr (Or.inr hd), ho d hd⟩⟩
  | any hc h1 =>
    subst hc
    have ho := other_label_A rfl h h1
    exact ⟨child_any_label h rfl, fun d hd => (isChild_an.mp hd).imp id (ho d),
      fun d hd => (isChild_an.mp hd).imp id fun hd => ⟨isChild_an.mpr (Or.inr hd), ho d hd⟩⟩

theorem other_label_new {D : Nat} {above : List Tok} {k p ms nf op pc st pa an} {c : Char}
    (h : tiR W D above (.mk k p ms nf op pc st pa an)) (h1 : ∀ x ∈ st, x.label ≠ some c)
    (hp : c = ':' → pa = none) (ha : c = '*' → an = none) :
    ∀ d, IsChild d st pa an → d.label ≠ some c := by
  intro d hd
  rcases hd with hd | hd | hd
  · exact h1 d hd
  · rw [child_param_label h hd]
    intro heq
    have := hp (Option.some.inj heq).symm
    rw [this] at hd; simp at hd
  · rw [child_any_label h hd]
    intro heq
    have := ha (Option.some.inj heq).symm
    rw [this] at hd; simp at hd

end Router.Tree.Esc
