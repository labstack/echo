import EchoProofs.Tree.Esc.Defs
/-!
# Insertion with escaped colons: dead leaves after an insertion
-/
namespace Router.Tree.Esc
open Router Router.Spec Router.Tree

variable {W : List (List Tok)}

theorem deads_other {D : Nat} {above : List Tok} {k a ms nf op pc st pa an} {d : Node} {y : Str} {c : Char}
    {s' : Str} (h : tiR W D above (.mk k a ms nf op pc st pa an)) (hd : IsChild d st pa an) (hy : y ∈ deads d)
    (hl : d.label ≠ some c) :
    a ++ y ∈ deads (.mk k a ms nf op pc st pa an) ∧ ¬ (a ++ y) <+: (a ++ c :: s') := by
  refine ⟨mem_deads_mk.mpr (Or.inr ⟨d, hd, y, hy, rfl⟩), not_prefix_app ?_⟩
  obtain ⟨z, hz⟩ := deads_prefix hy
  rw [hz]
  exact not_prefix_of_label hl (child_pre_ne h hd)

/-- the dead leaves of a node one of whose child slots now holds `ch'` (an old child after the insertion, or a
    new leaf), the other children, none of them with label `c`, being those of before -/
theorem deads_step {D : Nat} {above : List Tok} {k a ms nf op pc st pa an} {st' : List Node} {pa' an' : Option Node}
    {ch' : Node} {c : Char} {s' : Str} {rm : Option RouteMethod} (hti : tiR W D above (.mk k a ms nf op pc st pa an))
    (hkids : ∀ d, IsChild d st' pa' an' → d = ch' ∨ (IsChild d st pa an ∧ d.label ≠ some c))
    (halive : isDead ms nf st' pa' an' = false)
    (hch : ∀ z ∈ deads ch', (z = c :: s' ∧ rm = none)
      ∨ ∃ ch, IsChild ch st pa an ∧ z ∈ deads ch ∧ ¬ z <+: c :: s') :
    ∀ x ∈ deads (.mk k a ms nf op pc st' pa' an'),
      (x = a ++ c :: s' ∧ rm = none) ∨ (x ∈ deads (.mk k a ms nf op pc st pa an) ∧ ¬ x <+: a ++ c :: s') := by
  intro x hx
  rcases mem_deads_mk.mp hx with ⟨_, hd⟩ | ⟨d, hd, z, hz, rfl⟩
  · rw [halive] at hd; cases hd
  · rcases hkids d hd with rfl | ⟨hd', hl⟩
    · rcases hch z hz with ⟨hz, hrm⟩ | ⟨ch, hchild, hz, hnp⟩
      · exact Or.inl ⟨by rw [hz], hrm⟩
      · exact Or.inr ⟨mem_deads_mk.mpr (Or.inr ⟨ch, hchild, z, hz, rfl⟩), not_prefix_app hnp⟩
    · exact Or.inr (deads_other hti hd' hz hl)

/-- the dead leaves after an insertion: possibly the new node (when no record is written); the
    old ones stay unless they are on the way to the new text -/
theorem insertAt_deads (m : Str) (t : Kind) (rm : Option RouteMethod) (s : Str) (n : Node) :
    ∀ (D : Nat) (above : List Tok), WorldFrom W above → tiR W D above n →
      (lcp s n.pre = 0 → n.statics = [] ∧ n.param = none ∧ n.any = none) →
      ∀ x ∈ deads (insertAt m s t rm n), (x = s ∧ rm = none) ∨ (x ∈ deads n ∧ ¬ x <+: s) := by
  refine insertAt_cases m t rm (fun s n r => ∀ (D : Nat) (above : List Tok), WorldFrom W above → tiR W D above n →
      (lcp s n.pre = 0 → n.statics = [] ∧ n.param = none ∧ n.any = none) →
      ∀ x ∈ deads r, (x = s ∧ rm = none) ∨ (x ∈ deads n ∧ ¬ x <+: s)) ?_ ?_ ?_ ?_ ?_ ?_ s n
  · -- take-over of the empty root
    intro s k p ms nf op pc st pa an h0 D above _ _ hroot x hx
    obtain ⟨h1, h2, h3⟩ := hroot h0
    simp only [Node.statics, Node.param, Node.any] at h1 h2 h3
    subst h1 h2 h3
    rcases mem_deads_withRec.mp hx with ⟨hx, hrm, _⟩ | ⟨c, hc, _⟩
    · exact Or.inl ⟨hx, hrm⟩
    · simp [IsChild] at hc
  · -- split, the new text ends at the split point
    intro a y p' k ms nf op pc st pa an ha D above _ _ _ x hx
    rcases mem_deads_withRec.mp hx with ⟨_, _, hd⟩ | ⟨c, hc, z, hz, hx⟩
    · rw [isDead_cons_false] at hd; cases hd
    · have hc' : c = .mk k (y :: p') ms nf op pc st pa an := by simpa [IsChild] using hc
      subst hc'
      obtain ⟨w, hw⟩ := deads_prefix hz
      refine Or.inr ⟨by rw [hx]; exact deads_shift hz, ?_⟩
      rw [hx, hw]
      exact not_prefix_self_app (by simp [Node.pre])
  · -- split with a new branch
    intro a x0 s' y p' k ms nf op pc st pa an ha hne D above _ _ _ x hx
    rcases mem_deads_mk.mp hx with ⟨_, hd⟩ | ⟨c, hc, z, hz, hx⟩
    · rw [isDead_cons_false] at hd; cases hd
    · have hc' : c = .mk k (y :: p') ms nf op pc st pa an
          ∨ c = withRec m rm t (x0 :: s') [] none [] 0 [] none none := by simpa [IsChild] using hc
      rcases hc' with hc' | hc'
      · subst hc'
        obtain ⟨w, hw⟩ := deads_prefix hz
        refine Or.inr ⟨by rw [hx]; exact deads_shift hz, ?_⟩
        rw [hx, hw]
        apply not_prefix_app
        simp only [Node.pre, List.cons_append, List.cons_prefix_cons]
        exact fun h => hne h.1.symm
      · subst hc'
        rcases mem_deads_withRec.mp hz with ⟨hz, hrm, _⟩ | ⟨c, hc, _⟩
        · exact Or.inl ⟨by rw [hx, hz], hrm⟩
        · simp [IsChild] at hc
  · -- descend into a child
    intro a c s' k ms nf op pc st pa an st' pa' an' ch ha hd ih D above hW hti _
    obtain ⟨hch, -, hkids⟩ := desc_others hW hti hd
    refine deads_step hti hkids hd.alive fun z hz => ?_
    exact (ih D _ (hW.append _) (tiR_child hti hd.child) (fun h0 => absurd h0 (lcp_ne_zero_of_label hch)) z hz).imp id
      fun h => ⟨ch, hd.child, h⟩
  · -- a new child
    intro a c s' k ms nf op pc st pa an ha h1 hp hA D above _ hti _
    have hother := other_label_new hti h1 hp hA
    have hleaf : ∀ z ∈ deads (withRec m rm t (c :: s') [] none [] 0 [] none none), (z = c :: s' ∧ rm = none)
        ∨ ∃ ch, IsChild ch st pa an ∧ z ∈ deads ch ∧ ¬ z <+: c :: s' := by
      intro z hz
      rcases mem_deads_withRec.mp hz with ⟨hz, hrm, _⟩ | ⟨c, hc, _⟩
      · exact Or.inl ⟨hz, hrm⟩
      · simp [IsChild] at hc
    cases t with
    | static =>
      refine deads_step hti (fun d hd => ?_) isDead_snoc_false hleaf
      refine (isChild_mid.mp hd).imp id fun h => ?_
      have hd' : IsChild d st pa an := h.imp id fun h => h.resolve_left (by simp)
      exact ⟨hd', hother d hd'⟩
    | param =>
      refine deads_step hti (fun d hd => ?_) isDead_pa_false hleaf
      refine (isChild_pa.mp hd).imp id fun h => ?_
      have hd' : IsChild d st pa an := h.imp id Or.inr
      exact ⟨hd', hother d hd'⟩
    | any =>
      refine deads_step hti (fun d hd => ?_) isDead_an_false hleaf
      refine (isChild_an.mp hd).imp id fun h => ?_
      have hd' : IsChild d st pa an := h.imp id Or.inl
      exact ⟨hd', hother d hd'⟩
  · -- the node exists
    intro k p ms nf op pc st pa an hp D above _ hti _ x hx
    rcases mem_deads_withRec.mp hx with ⟨hx, hrm, _⟩ | ⟨d, hd, z, hz, hx⟩
    · exact Or.inl ⟨hx, hrm⟩
    · refine Or.inr ⟨by rw [hx]; exact mem_deads_mk.mpr (Or.inr ⟨d, hd, z, hz, rfl⟩), ?_⟩
      obtain ⟨w, hw⟩ := deads_prefix hz
      rw [hx, hw]
      apply not_prefix_self_app
      have := child_pre_ne hti hd
      simp [this]

end Router.Tree.Esc
