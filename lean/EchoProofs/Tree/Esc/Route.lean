import EchoProofs.Tree.Esc.Loop
import EchoProofs.Tree.Insert.Route
/-!
# One registration (`insertRoute`) of a pattern that may contain escaped colons
-/
namespace Router.Tree.Esc
open Router Router.Spec Router.Tree

variable {W : List (List Tok)}

/-- **one registration**: the tree invariant is kept, no dead leaf remains, and the residual set gains the
    entry of the route (replacing the records of the same method at the same place) -/
theorem insertRoute_ok (hW : World W) (D : Nat) (t : Node) (m path0 : Str) (hid : Nat) (ht : Top W D t)
    (hdead : ∀ x ∈ deads t, x = []) (hok : okPatternE path0 = true) (hD : arity (norm path0).1 ≤ D)
    (hmem : (norm path0).1 ∈ W) :
    Top W D (insertRoute t m path0 hid) ∧ deads (insertRoute t m path0 hid) = []
      ∧ (resid (insertRoute t m path0 hid)).Perm
          (((norm path0).1, mkEntry ⟨m, path0, hid⟩) :: (resid t).filter (keep (norm path0).1 m))
      ∧ (insertLoop m (normalizeSlash path0) hid ((normalizeSlash path0).length + 2) t []
            (normalizeSlash path0) []).2.2 = (norm path0).2 := by
  obtain ⟨r0, hr0⟩ := normalizeSlash_head path0
  have hnorm : (norm (normalizeSlash path0)).1 = (norm path0).1 := by rw [norm_normalizeSlash]
  have hnames : (norm path0).2.length = arity (norm path0).1 := normAux_names _ _
  have hloop := insertLoop_ok hW D m (normalizeSlash path0) hid (norm path0).1 (norm path0).2 (resid t) hD hmem
    hnorm hnames ((normalizeSlash path0).length + 2) t [] (normalizeSlash path0) [] (by omega)
    ⟨ht, ⟨[], [], rfl, Or.inl rfl⟩, by intro x hx; rw [hdead x hx]; exact List.prefix_refl _, List.Perm.refl _⟩
    (by rw [norm_eq_NA]; rfl) (by rw [norm_eq_NA]; rfl) (by rw [← okPatternE_eq_OKE]; exact hok) (by simp)
    (fun _ => by rw [hr0]; rfl) (fun h => absurd rfl h)
  rw [insertRoute_eq]
  rw [chars_nil] at hloop
  generalize insertLoop m (normalizeSlash path0) hid ((normalizeSlash path0).length + 2) t []
    (normalizeSlash path0) [] = L at hloop ⊢
  obtain ⟨t', path, pn⟩ := L
  obtain ⟨hst, hpath, hpn, hstar, hhead⟩ := hloop
  simp only at hst hpath hpn hstar hhead ⊢
  subst hpath
  obtain ⟨f1, f2, f3⟩ := step_final hW (r := ⟨normalizeSlash path0, pn, hid⟩) hst hhead hstar hnorm
    (by rw [hpn]; exact hnames) hD ⟨_, hmem, List.prefix_refl _⟩
  refine ⟨f1, f2, ?_, hpn⟩
  have he : entryOf m ⟨normalizeSlash path0, pn, hid⟩ = mkEntry ⟨m, path0, hid⟩ := by
    simp only [entryOf, mkEntry, hnorm, hpn]
  rw [← he]
  exact f3

end Router.Tree.Esc
