import EchoProofs.Tree.Esc.Final
import EchoProofs.Tree.OrderFree
/-!
# Router corollaries for tables WITH escaped colons (`okTableE`)

The statements of `Tree/Dedup.lean`, `Tree/OK.lean` and `Tree/OrderFree.lean` (`…_ok`) with the weaker hypothesis
`okTableE rs = true` (no text after `*`, no escape conflict; escaped colons and re-registrations allowed).  By
`build_tableInvariantE` the tree of such a table represents the table in force (`represents_okE`), and the
statements are those about trees that represent an entry list.  By `okTableE_of_ok` they subsume the `…_ok`
versions.
-/
namespace Router.Tree
open Router Router.Spec

theorem represents_okE {rs : List Route} (h : okTableE rs = true) :
    Represents (build rs) (maxParam rs) ((dedupLast rs).map mkEntry) :=
  represents_dedup fun hne => build_tableInvariantE rs hne h

/-- **L3 on the built tree = L1 on the table in force**, for every `okTableE` -/
theorem find_eq_route_okE (rs : List Route) (m path : Str) (n : Nat) (hn : maxParam rs ≤ n)
    (h : okTableE rs = true) :
    ∃ o, OutRel (find (build rs) m path (List.replicate n [])) o ∧
      C02.OutEquiv o (route ((dedupLast rs).map mkEntry) m path) :=
  (represents_okE h).find_eq_route m path hn

/-- the tree model never fails on a value slice of at least `maxParam` slots -/
theorem find_table_no_panic_okE (rs : List Route) (m path : Str) (n : Nat) (hn : maxParam rs ≤ n)
    (h : okTableE rs = true) : find (build rs) m path (List.replicate n []) ≠ .panic :=
  (represents_okE h).no_panic m path hn

/-- **C01 on the tree model**, for every `okTableE` -/
theorem tree_sound_okE (rs : List Route) (m path : Str) (n : Nat) (hn : maxParam rs ≤ n)
    (hok : okTableE rs = true) (rm : RouteMethod) (vals : List Str)
    (h : find (build rs) m path (List.replicate n []) = .dispatch rm vals) :
    (inst (norm rm.ppath).1 vals = some path ∧ SlashFree (norm rm.ppath).1 vals
        ∧ vals.length = arity (norm rm.ppath).1)
    ∨ ((∃ w, inst (norm rm.ppath).1 w = some path) ∧ vals = rm.pnames.map (fun _ => [])) :=
  (represents_okE hok).sound hn h

/-- **C05**: routing never fails, for every `okTableE` -/
theorem tree_no_panic_okE (rs : List Route) (hok : okTableE rs = true) :
    C05.NoPanic (C05.routerOf rs) (maxParam rs) :=
  (represents_okE hok).noPanic

/-- **C05**: routing does not depend on the number of spare value slots -/
theorem tree_length_irrelevant_okE (rs : List Route) (hok : okTableE rs = true) :
    C05.LengthIrrelevant (C05.routerOf rs) (maxParam rs) :=
  (represents_okE hok).lengthIrrelevant

/-- **C03 on the tree model**: every advertised method is really served — by the registration in force -/
theorem tree_allow_truthful_okE (rs : List Route) (m path : Str) (n : Nat) (hn : maxParam rs ≤ n)
    (hok : okTableE rs = true) (p : Str) (allow : List Str)
    (h : find (build rs) m path (List.replicate n []) = .methodNotAllowed p allow)
    (m' : Str) (hm' : m' ∈ allow) (hopt : m' ≠ methodOptions) :
    ∃ rm vals, find (build rs) m' path (List.replicate n []) = .dispatch rm vals ∧
      ∃ e, e ∈ (dedupLast rs).map mkEntry ∧ e.method = m' ∧ e.hid = rm.hid :=
  (represents_okE hok).allow_truthful hn h hm' hopt

/-- **C03 on the tree model**: a path no registered pattern can be instantiated to gets 404 -/
theorem tree_404_okE (rs : List Route) (m path : Str) (n : Nat) (hn : maxParam rs ≤ n)
    (hok : okTableE rs = true)
    (hno : ∀ e ∈ rs.map mkEntry, ∀ w, inst e.toks w ≠ some path) :
    ∃ p, find (build rs) m path (List.replicate n []) = .notFound p :=
  (represents_okE hok).notFound hn fun e he => hno e (mem_dedup_entries he)

/-- a dispatched record is a registration in force whose pattern matches the path -/
theorem tree_dispatch_registered_okE (rs : List Route) (m path : Str) (n : Nat) (hn : maxParam rs ≤ n)
    (hok : okTableE rs = true) (rm : RouteMethod) (vals : List Str)
    (h : find (build rs) m path (List.replicate n []) = .dispatch rm vals) :
    ∃ r ∈ dedupLast rs, r.hid = rm.hid ∧ normalizeSlash r.path = rm.ppath
      ∧ ∃ w, inst (norm r.path).1 w = some path :=
  (represents_okE hok).dispatch_registered hn h

/-- **C02 on the tree model, re-registrations allowed**: two registration sequences that are `okTableE` and
    whose tables in force (last registration of every route) are permutations of one another route every
    request alike — same handler, same values, same Allow set, or 404 in both. -/
theorem tree_order_free_okE (rs rs' : List Route) (hp : (dedupLast rs).Perm (dedupLast rs')) (m path : Str) (n : Nat)
    (hn : maxParam rs ≤ n) (hn' : maxParam rs' ≤ n)
    (hok : okTableE rs = true) (hok' : okTableE rs' = true) :
    Observably (find (build rs) m path (List.replicate n [])) (find (build rs') m path (List.replicate n [])) :=
  (represents_okE hok).order_free (represents_okE hok') (hp.map _) hn hn'

end Router.Tree
