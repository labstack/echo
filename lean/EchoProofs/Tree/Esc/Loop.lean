import EchoProofs.Tree.Esc.Resid
import EchoProofs.Tree.Esc.Text
import EchoProofs.Tree.Insert.Loop
/-!
# One registration with escaped colons: the scan loop of `Router.insert` in lock step with `normAux`

`done` (the text scanned so far, backslashes of `\:` removed) is `chars dt` for the tokens `dt` read so far;
the escape branch consumes two bytes and appends `.lit ':'`.
-/
namespace Router.Tree.Esc
open Router Router.Spec Router.Tree

variable {W : List (List Tok)}

theorem insertLoop_esc (m p : Str) (h f : Nat) (t : Node) (done : Str) (rest : Str) (pn : List Str)
    (hr : rest.head? = some ':') :
    insertLoop m p h (f + 1) t done ('\\' :: rest) pn = insertLoop m p h f t (done ++ [':']) rest.tail pn := by
  rw [insertLoop, if_pos ⟨rfl, hr⟩]

/-- the tree between two registrations -/
structure Top (W : List (List Tok)) (D : Nat) (t : Node) : Prop where
  inv : tiR W D [] t
  kind : t.kind = .static
  root : t = emptyTree ∨ t.label = some '/'

/-- the tree inside the scan loop: `dt` are the tokens scanned so far -/
structure TreeSt (W : List (List Tok)) (D : Nat) (m : Str) (toks : List Tok) (R0 : R) (t : Node) (dt : List Tok) :
    Prop where
  top : Top W D t
  fit : ∃ tu v, dt = tu ++ lits v ∧ (tu = [] ∨ chars tu ∈ bounds t)
  dead : ∀ x ∈ deads t, x <+: chars dt
  res : ((resid t).filter (keep toks m)).Perm (R0.filter (keep toks m))

theorem top_lcp {D : Nat} {t : Node} {s : Str} (h : Top W D t) (hs : s.head? = some '/') :
    lcp s t.pre = 0 → t = emptyTree := by
  intro h0
  rcases h.root with hr | hr
  · exact hr
  · exact absurd h0 (lcp_ne_zero_of_heads hs hr)

theorem TreeSt.fit_static {D : Nat} {m : Str} {toks : List Tok} {R0 : R} {t : Node} {dt : List Tok}
    (h : TreeSt W D m toks R0 t dt) : Fit .static dt t := by
  obtain ⟨tu, v, e1, e2⟩ := h.fit
  exact ⟨tu, lits v, e1, ⟨v, rfl⟩, e2⟩

/-- a byte of static text is scanned: nothing is inserted yet -/
theorem TreeSt.snoc_lit {D : Nat} {m : Str} {toks : List Tok} {R0 : R} {t : Node} {dt : List Tok}
    (h : TreeSt W D m toks R0 t dt) (c : Char) : TreeSt W D m toks R0 t (dt ++ [Tok.lit c]) := by
  obtain ⟨u, v, e1, e3⟩ := h.fit
  refine ⟨h.top, ⟨u, v ++ [c], by rw [e1, lits_append]; simp, e3⟩, fun x hx => ?_, h.res⟩
  rw [chars_append]
  exact List.IsPrefix.trans (h.dead x hx) (List.prefix_append _ _)

/-- the static insertion in front of a marker -/
theorem step_static (hW : World W) {D : Nat} {m : Str} {toks : List Tok} {R0 : R} {t : Node} {dt : List Tok}
    (h : TreeSt W D m toks R0 t dt) (hs : (chars dt).head? = some '/') (hstar : StarLast (chars dt))
    (hD : arity dt ≤ D) (hin : InW W dt) :
    tiR W D [] (insertAt m (chars dt) .static none t) ∧ (insertAt m (chars dt) .static none t).kind = .static
      ∧ (insertAt m (chars dt) .static none t).label = some '/'
      ∧ chars dt ∈ bounds (insertAt m (chars dt) .static none t)
      ∧ (∀ x ∈ deads (insertAt m (chars dt) .static none t), x = chars dt)
      ∧ ((resid (insertAt m (chars dt) .static none t)).filter (keep toks m)).Perm (R0.filter (keep toks m)) := by
  have hroot : lcp (chars dt) t.pre = 0 → t = emptyTree ∧ Kind.static = Kind.static :=
    fun h0 => ⟨top_lcp h.top hs h0, rfl⟩
  have hfit := h.fit_static
  obtain ⟨h1, h2⟩ := insertAt_tiR hW m .static none (chars dt) t D [] dt rfl h.top.inv hfit (by simpa using hin) hstar
    (by intro r hr; cases hr) (by simpa using hD) (by intro h; cases h) hroot
  refine ⟨h1, h2.trans h.top.kind, by rw [insertAt_label]; exact hs, insertAt_bounds .., ?_, ?_⟩
  · intro x hx
    rcases insertAt_deads m .static none (chars dt) t D [] (hW.worldFrom []) h.top.inv
      (fun h0 => by rw [(hroot h0).1]; exact emptyTree_fields) x hx with ⟨hx, _⟩ | ⟨hx, hnp⟩
    · exact hx
    · exact absurd (h.dead x hx) hnp
  · have := insertAt_resid hW m .static none (chars dt) t D [] dt rfl h.top.inv hfit (by simpa using hin) hroot
    exact (this.filter _).trans h.res

/-- a marker `tk`: the static text in front of it is inserted without a record, then the marker node itself -/
theorem step_marker (hW : World W) {D : Nat} {m : Str} {toks : List Tok} {R0 : R} {t : Node} {dt : List Tok}
    {k : Kind} {tk : Tok} {rm : Option RouteMethod} (h : TreeSt W D m toks R0 t dt)
    (hs : (chars dt).head? = some '/') (hnostar : '*' ∉ chars dt) (hpiece : Piece k [tk])
    (hstar : StarLast (chars (dt ++ [tk])))
    (hrec : ∀ r, rm = some r → toks = dt ++ [tk] ∧ (norm r.ppath).1 = toks ∧ r.pnames.length = arity toks)
    (hany : k = .any → rm ≠ none) (hD : arity (dt ++ [tk]) ≤ D) (hin : InW W (dt ++ [tk])) :
    TreeSt W D m toks R0 (insertAt m (chars (dt ++ [tk])) k rm (insertAt m (chars dt) .static none t)) (dt ++ [tk]) := by
  obtain ⟨hinv, hkind, hlab, hb, hdead, hres⟩ := step_static hW h hs (starLast_of_not_mem hnostar)
    (Nat.le_trans (arity_le_append _ _) hD) hin.left
  have hne : chars dt ≠ [] := by intro h; rw [h] at hs; simp at hs
  have hs' : (chars (dt ++ [tk])).head? = some '/' := by
    rw [chars_append, head?_append_of_ne_nil hne]; exact hs
  have hl0 := lcp_ne_zero_of_heads hs' hlab
  have hroot : lcp (chars (dt ++ [tk])) (insertAt m (chars dt) .static none t).pre = 0 →
      insertAt m (chars dt) .static none t = emptyTree ∧ k = Kind.static := fun h0 => absurd h0 hl0
  have hfit : Fit k (dt ++ [tk]) (insertAt m (chars dt) .static none t) := ⟨dt, [tk], rfl, hpiece, Or.inr hb⟩
  obtain ⟨h1, h2⟩ := insertAt_tiR hW m k rm (chars (dt ++ [tk])) _ D [] (dt ++ [tk]) rfl hinv hfit
    (by simpa using hin) hstar
    (by
      intro r hr
      obtain ⟨e1, e2, e3⟩ := hrec r hr
      rw [List.nil_append, ← e1]; exact ⟨e2, e3⟩)
    (by simpa using hD) hany hroot
  refine ⟨⟨h1, h2.trans hkind, Or.inr (by rw [insertAt_label]; exact hs')⟩,
    ⟨dt ++ [tk], [], by simp, Or.inr (insertAt_bounds ..)⟩, ?_, ?_⟩
  · intro x hx
    rcases insertAt_deads m k rm (chars (dt ++ [tk])) _ D [] (hW.worldFrom []) hinv (fun h0 => absurd h0 hl0) x hx with
      ⟨hx, _⟩ | ⟨hx, hnp⟩
    · rw [hx]; exact List.prefix_refl _
    · rw [hdead x hx, chars_append] at hnp
      exact absurd (List.prefix_append _ _) hnp
  · have := insertAt_resid hW m k rm (chars (dt ++ [tk])) _ D [] (dt ++ [tk]) rfl hinv hfit (by simpa using hin) hroot
    cases rm with
    | none => exact (this.filter _).trans hres
    | some r =>
      obtain ⟨e1, _, _⟩ := hrec r rfl
      rw [← e1] at this ⊢
      exact (filter_expected this).trans hres

/-- the final insertion of the record at the full text -/
theorem step_final (hW : World W) {D : Nat} {m : Str} {toks : List Tok} {R0 : R} {t : Node} {r : RouteMethod}
    (h : TreeSt W D m toks R0 t toks) (hs : (chars toks).head? = some '/') (hstar : StarLast (chars toks))
    (hr1 : (norm r.ppath).1 = toks) (hr2 : r.pnames.length = arity toks)
    (hD : arity toks ≤ D) (hin : InW W toks) :
    Top W D (insertAt m (chars toks) .static (some r) t) ∧ deads (insertAt m (chars toks) .static (some r) t) = []
      ∧ (resid (insertAt m (chars toks) .static (some r) t)).Perm
          ((toks, entryOf m r) :: R0.filter (keep toks m)) := by
  have hroot : lcp (chars toks) t.pre = 0 → t = emptyTree ∧ Kind.static = Kind.static :=
    fun h0 => ⟨top_lcp h.top hs h0, rfl⟩
  have hfit := h.fit_static
  obtain ⟨h1, h2⟩ := insertAt_tiR hW m .static (some r) (chars toks) t D [] toks rfl h.top.inv hfit
    (by simpa using hin) hstar
    (by
      intro r' hr'
      simp only [Option.some.injEq] at hr'
      subst hr'
      rw [List.nil_append]; exact ⟨hr1, hr2⟩)
    (by rw [List.nil_append]; exact hD) (by intro h; cases h) hroot
  refine ⟨⟨h1, h2.trans h.top.kind, Or.inr (by rw [insertAt_label]; exact hs)⟩, ?_, ?_⟩
  · rw [List.eq_nil_iff_forall_not_mem]
    intro x hx
    rcases insertAt_deads m .static (some r) (chars toks) t D [] (hW.worldFrom []) h.top.inv
      (fun h0 => by rw [(hroot h0).1]; exact emptyTree_fields) x hx with ⟨_, hrm⟩ | ⟨hx, hnp⟩
    · cases hrm
    · exact absurd (h.dead x hx) hnp
  · have := insertAt_resid hW m .static (some r) (chars toks) t D [] toks rfl h.top.inv hfit (by simpa using hin) hroot
    exact this.trans (List.Perm.cons _ h.res)

theorem chars_snoc_param (dt : List Tok) : chars (dt ++ [Tok.param]) = chars dt ++ [':'] := chars_append dt _
theorem chars_snoc_any (dt : List Tok) : chars (dt ++ [Tok.any]) = chars dt ++ ['*'] := chars_append dt _
theorem chars_snoc_lit (dt : List Tok) (c : Char) : chars (dt ++ [Tok.lit c]) = chars dt ++ [c] := chars_append dt _

theorem inW_of_mem {toks dt rest : List Tok} (h : toks ∈ W) (e : toks = dt ++ rest) : InW W dt :=
  ⟨toks, h, by rw [e]; exact List.prefix_append _ _⟩

theorem head_chars_append {dt : List Tok} (hdne : dt ≠ []) (hs : (chars dt).head? = some '/') (ts : List Tok) :
    (chars (dt ++ ts)).head? = some '/' := by
  rw [chars_append, head?_append_of_ne_nil fun h => hdne (chars_eq_nil h)]
  exact hs

/-- **the scan loop**: it keeps the tree invariant, leaves the registered records alone (up to the record
    of the route being registered), and ends with `done` = the text of the tokens of the whole pattern -/
theorem insertLoop_ok (hW : World W) (D : Nat) (m ppath : Str) (hid : Nat) (toks : List Tok) (names : List Str)
    (R0 : R) (hD : arity toks ≤ D) (hmem : toks ∈ W) (hnorm : (norm ppath).1 = toks)
    (hnames : names.length = arity toks) :
    ∀ (fuel : Nat) (t : Node) (dt : List Tok) (todo : Str) (pn : List Str), todo.length < fuel →
      TreeSt W D m toks R0 t dt → toks = dt ++ (NA todo).1 → names = pn ++ (NA todo).2 →
      OKE todo = true → '*' ∉ chars dt → (dt = [] → todo.head? = some '/') →
      (dt ≠ [] → (chars dt).head? = some '/') →
      TreeSt W D m toks R0 (insertLoop m ppath hid fuel t (chars dt) todo pn).1 toks
        ∧ (insertLoop m ppath hid fuel t (chars dt) todo pn).2.1 = chars toks
        ∧ (insertLoop m ppath hid fuel t (chars dt) todo pn).2.2 = names
        ∧ StarLast (chars toks)
        ∧ (chars toks).head? = some '/' := by
  intro fuel
  induction fuel with
  | zero => intro t dt todo pn h; omega
  | succ f ih =>
    intro t dt todo pn hfuel hst htoks hnm hok hnostar hsl0 hsl1
    cases todo with
    | nil =>
      rw [insertLoop_nil]
      rw [NA_nil] at htoks hnm
      simp only [List.append_nil] at htoks hnm
      have hne : dt ≠ [] := by intro h; have := hsl0 h; simp at this
      subst htoks
      exact ⟨hst, rfl, hnm.symm, starLast_of_not_mem hnostar, hsl1 hne⟩
    | cons c rest =>
      simp only [List.length_cons] at hfuel
      rw [OKE_cons] at hok
      rw [NA_cons] at htoks hnm
      by_cases hesc : c = '\\' ∧ rest.head? = some ':'
      · -- an escaped colon: literal text
        rw [if_pos hesc] at hok htoks hnm
        obtain ⟨hc, hr⟩ := hesc
        subst hc
        have hdne : dt ≠ [] := by intro h; have := hsl0 h; simp at this
        rw [insertLoop_esc _ _ _ _ _ _ _ _ hr, ← chars_snoc_lit]
        have hlen : rest.tail.length ≤ rest.length := by simp
        refine ih t (dt ++ [Tok.lit ':']) rest.tail pn (by omega) (hst.snoc_lit ':') ?_ hnm hok ?_ ?_ ?_
        · rw [htoks]; simp
        · rw [chars_snoc_lit]; exact mem_append_singleton_ne hnostar (by decide)
        · intro h; simp at h
        · exact fun _ => head_chars_append hdne (hsl1 hdne) _
      rw [if_neg hesc] at hok htoks hnm
      by_cases hcolon : c = ':'
      · -- a parameter
        subst hcolon
        simp only [if_true] at hok htoks hnm
        have hdne : dt ≠ [] := by intro h; have := hsl0 h; simp at this
        have hs := hsl1 hdne
        have htoks' : toks = (dt ++ [Tok.param]) ++ (NA (rest.dropWhile (· ≠ '/'))).1 := by
          rw [htoks]; simp
        have hD2 : arity (dt ++ [Tok.param]) ≤ D := by
          rw [htoks'] at hD; exact Nat.le_trans (arity_le_append _ _) hD
        have hin2 : InW W (dt ++ [Tok.param]) := inW_of_mem hmem htoks'
        have hstar2 : StarLast (chars (dt ++ [Tok.param])) := by
          rw [chars_snoc_param]; exact starLast_snoc hnostar
        rw [insertLoop_colon]
        cases hdrop : rest.dropWhile (· ≠ '/') with
        | nil =>
          simp only
          rw [hdrop, NA_nil] at htoks' hnm
          simp only [List.append_nil] at htoks' hnm
          have b := step_marker hW (k := .param) (tk := .param)
            (rm := some ⟨ppath, pn ++ [rest.takeWhile (· ≠ '/')], hid⟩) hst hs hnostar rfl hstar2
            (by
              intro r hr
              simp only [Option.some.injEq] at hr
              subst hr
              exact ⟨htoks', hnorm, by rw [← hnm]; exact hnames⟩)
            (by intro h; cases h) hD2 hin2
          subst htoks'
          rw [← chars_snoc_param]
          refine ⟨b, rfl, hnm.symm, hstar2, ?_⟩
          exact head_chars_append hdne hs _
        | cons d r =>
          simp only
          have hd : d = '/' := dropWhile_head rest d r hdrop
          subst hd
          have b := step_marker hW (k := .param) (tk := .param) (rm := none) hst hs hnostar rfl hstar2
            (by intro r hr; cases hr) (by intro h; cases h) hD2 hin2
          have hlen := dropWhile_length_le (· ≠ '/') rest
          rw [hdrop] at hlen htoks' hnm hok
          simp only [List.length_cons] at hlen
          have hesc' : ¬ ('/' = '\\' ∧ r.head? = some ':') := by simp
          rw [NA_cons, if_neg hesc', if_neg (by simp), if_neg (by simp)] at htoks' hnm
          rw [OKE_cons, if_neg hesc', if_neg (by simp), if_neg (by simp)] at hok
          have hdone' : chars dt ++ [':', '/'] = chars ((dt ++ [Tok.param]) ++ [Tok.lit '/']) := by simp [charOf]
          rw [hdone', ← chars_snoc_param]
          refine ih _ ((dt ++ [Tok.param]) ++ [Tok.lit '/']) r _ (by omega) (b.snoc_lit '/') ?_ ?_ hok ?_ ?_ ?_
          · rw [htoks']; simp
          · rw [hnm]; simp
          · rw [chars_snoc_lit, chars_snoc_param]
            exact mem_append_singleton_ne (mem_append_singleton_ne hnostar (by simp)) (by simp)
          · intro h; simp at h
          · exact fun _ => head_chars_append (by simp) (head_chars_append hdne hs [Tok.param]) _
      · by_cases hstarc : c = '*'
        · -- the wildcard
          subst hstarc
          rw [if_neg hcolon] at hok htoks hnm
          simp only [if_true] at hok htoks hnm
          have hrest : rest = [] := by simpa using hok
          subst hrest
          have hdne : dt ≠ [] := by intro h; have := hsl0 h; simp at this
          have hs := hsl1 hdne
          have hstar2 : StarLast (chars (dt ++ [Tok.any])) := by
            rw [chars_snoc_any]; exact starLast_snoc hnostar
          rw [insertLoop_star, insertLoop_nil]
          have b := step_marker hW (k := .any) (tk := .any)
            (rm := some ⟨ppath, pn ++ ["*".toList], hid⟩) hst hs hnostar rfl hstar2
            (by
              intro r hr
              simp only [Option.some.injEq] at hr
              subst hr
              exact ⟨htoks, hnorm, by rw [← hnm]; exact hnames⟩)
            (by intro _ h; cases h) (by rw [← htoks]; exact hD) (inW_of_mem (rest := []) hmem (by rw [List.append_nil]; exact htoks))
          subst htoks
          rw [← chars_snoc_any]
          refine ⟨b, rfl, hnm.symm, hstar2, ?_⟩
          exact head_chars_append hdne hs _
        · -- literal text
          rw [if_neg hcolon, if_neg hstarc] at hok htoks hnm
          rw [insertLoop_lit _ _ _ _ _ _ _ _ _ hesc hcolon hstarc, ← chars_snoc_lit]
          refine ih t (dt ++ [Tok.lit c]) rest pn (by omega) (hst.snoc_lit c) ?_ hnm hok ?_ ?_ ?_
          · rw [htoks]; simp
          · rw [chars_snoc_lit]; exact mem_append_singleton_ne hnostar (fun h => hstarc h.symm)
          · intro h; simp at h
          · intro _
            by_cases hd : dt = []
            · have := hsl0 hd
              simp only [List.head?_cons, Option.some.injEq] at this
              rw [hd, this]; rfl
            · exact head_chars_append hd (hsl1 hd) _

end Router.Tree.Esc
