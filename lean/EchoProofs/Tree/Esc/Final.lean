import EchoProofs.Tree.Esc.Route
/-!
# `Router.build` on tables WITH escaped colons

`build_tableInvariantE : rs ≠ [] → okTableE rs = true → tableInvariantD rs = (true, true)`:
for every non-empty table whose patterns have no text after `*` and whose literal colons never meet a
parameter at the same position (`escFree`), the tree built by the model of echo's router satisfies the
invariant `tiNode` and represents exactly the table in force (`dedupLast rs`; re-registrations allowed).
`build_okE` are the three facts by which the tree represents that table.  `okTableE_of_ok` shows that tables of
`okPattern`s (`build_tableInvariantD`, `build_tableInvariant`) are a special case.
-/
namespace Router.Tree
open Router Router.Spec

theorem tiList_iff (D : Nat) (here : List Tok) (st : List Node) :
    tiList D here st = true ↔ ∀ c ∈ st, c.kind = .static ∧ c.pre ≠ [] ∧ tiNode D here c = true := by
  induction st with
  | nil => simp [tiList]
  | cons c cs ih =>
    simp only [tiList, Bool.and_eq_true, beq_iff_eq, Bool.not_eq_true', List.isEmpty_eq_false_iff, ih,
      List.mem_cons, forall_eq_or_imp]
    constructor
    · rintro ⟨⟨⟨h1, h2⟩, h3⟩, h4⟩; exact ⟨⟨h1, h2, h3⟩, h4⟩
    · rintro ⟨⟨h1, h2, h3⟩, h4⟩; exact ⟨⟨⟨h1, h2⟩, h3⟩, h4⟩

theorem tiOpt_iff (D : Nat) (here : List Tok) (k : Kind) (o : Option Node) :
    tiOpt D here k o = true ↔ ∀ c, o = some c → c.kind = k ∧ tiNode D here c = true := by
  cases o with
  | none => simp [tiOpt]
  | some c => simp [tiOpt]

theorem foldl_max_ge (f : Route → Nat) : ∀ (rs : List Route) (init : Nat),
    init ≤ rs.foldl (fun a r => max a (f r)) init ∧ ∀ r ∈ rs, f r ≤ rs.foldl (fun a r => max a (f r)) init := by
  intro rs
  induction rs with
  | nil => intro init; simp
  | cons r rs ih =>
    intro init
    simp only [List.foldl_cons, List.mem_cons, forall_eq_or_imp]
    obtain ⟨h1, h2⟩ := ih (max init (f r))
    exact ⟨by omega, by omega, h2⟩

theorem le_maxParam {rs : List Route} {r : Route} (hr : r ∈ rs) : paramCountOf r.path ≤ maxParam rs :=
  (foldl_max_ge (fun r => paramCountOf r.path) rs 0).2 r hr

/-! ### the residual set along the registrations

Registering a route again (same method, same normalised pattern) replaces the earlier record (`addMethod`
overwrites), so the residual set after the registrations `rs` is that of the table in force, `dedupLast rs`. -/

theorem mkEntry_method (r : Route) : (mkEntry r).method = r.method := rfl

/-- what one registration does to the residual set -/
def regStep (X : R) (r : Route) : R :=
  ((norm r.path).1, mkEntry r) :: X.filter (keep (norm r.path).1 r.method)

theorem regStep_perm {X Y : R} (h : X.Perm Y) (r : Route) : (regStep X r).Perm (regStep Y r) :=
  List.Perm.cons _ (h.filter _)

/-- a residual survives all the registrations `rs` -/
def keepAll (rs : List Route) (x : List Tok × Entry) : Bool :=
  rs.all (fun r => keep (norm r.path).1 r.method x)

theorem keepAll_self (r : Route) (rs : List Route) :
    keepAll rs ((norm r.path).1, mkEntry r) = !rs.any (sameKey r) := by
  induction rs with
  | nil => rfl
  | cons r' rs ih =>
    simp only [keepAll, List.all_cons, List.any_cons, Bool.not_or] at ih ⊢
    rw [ih]
    congr 1
    simp only [keep, sameKey, mkEntry_method]
    rw [Bool.and_comm]

/-- the residual set after the registrations `rs`: the table in force, and what survives of the start -/
theorem foldl_regStep : ∀ (rs : List Route) (X : R),
    (rs.foldl regStep X).Perm (initial ((dedupLast rs).map mkEntry) ++ X.filter (keepAll rs)) := by
  intro rs
  induction rs with
  | nil =>
    intro X
    have : X.filter (keepAll []) = X := by
      rw [List.filter_eq_self]; intro x _; rfl
    simp [dedupLast, initial, this]
  | cons r rs ih =>
    intro X
    simp only [List.foldl_cons]
    refine (ih (regStep X r)).trans ?_
    have hfilt : (X.filter (keep (norm r.path).1 r.method)).filter (keepAll rs) = X.filter (keepAll (r :: rs)) := by
      rw [List.filter_filter]
      apply List.filter_congr
      intro x _
      simp only [keepAll, List.all_cons]
      rw [Bool.and_comm]
    simp only [regStep, List.filter_cons, keepAll_self, hfilt, dedupLast]
    by_cases hany : rs.any (sameKey r) = true
    · simp only [hany, Bool.not_true, Bool.false_eq_true, if_false, if_true]
      exact List.Perm.refl _
    · have hany' : rs.any (sameKey r) = false := by simpa using hany
      simp only [hany', Bool.not_false, if_true, Bool.false_eq_true, if_false]
      have : initial ((r :: dedupLast rs).map mkEntry)
          = ((norm r.path).1, mkEntry r) :: initial ((dedupLast rs).map mkEntry) := by
        simp [initial, mkEntry]
      rw [this]
      exact List.perm_middle

end Router.Tree

namespace Router.Tree.Esc
open Router Router.Spec Router.Tree

variable {W : List (List Tok)}

theorem tiNode_of_tiR (n : Node) : ∀ (D : Nat) (above : List Tok), tiR W D above n → deads n = [] →
    tiNode D above n = true := by
  refine node_induct (P := fun n => ∀ (D : Nat) (above : List Tok), tiR W D above n → deads n = [] →
    tiNode D above n = true) ?_ n
  intro k pre ms nf op pc st pa an ihS ihP ihA D above hti hdead
  obtain ⟨hl, hS, hP, hA⟩ := (tiR_mk ..).mp hti
  -- no dead leaf below: the node itself is alive and no child has a dead leaf
  have hno := List.eq_nil_iff_forall_not_mem.mp hdead
  have hkid : ∀ c, IsChild c st pa an → deads c = [] := fun c hc =>
    List.eq_nil_iff_forall_not_mem.mpr fun y hy => hno _ (mem_deads_mk.mpr (Or.inr ⟨c, hc, y, hy, rfl⟩))
  have halive : isDead ms nf st pa an = false :=
    Bool.eq_false_iff.mpr fun h => hno _ (mem_deads_mk.mpr (Or.inl ⟨rfl, h⟩))
  simp only [tiNode, Bool.and_eq_true, decide_eq_true_eq]
  refine ⟨⟨⟨⟨⟨⟨⟨⟨hl.depth, ?_⟩, ?_⟩, ?_⟩, ?_⟩, hl.distinct⟩, ?_⟩, ?_⟩, ?_⟩
  · revert halive
    cases ms <;> cases nf <;> cases st <;> cases pa <;> cases an <;> simp [isDead]
  · cases k with
    | static => rfl
    | param => simp [hl.kP rfl]
    | any =>
      obtain ⟨h1, h2, h3, h4, h5⟩ := hl.kA rfl
      simp [h1, h2, h3, h4, h5]
  · rw [List.all_eq_true]
    intro x hx
    have := hl.recs x hx
    simp [hl.noNf x hx, this.1, this.2]
  · cases nf with
    | none => rfl
    | some rm =>
      have := hl.nfRec rm rfl
      simp [this.1, this.2]
  · rw [tiList_iff]
    intro c hc
    exact ⟨(hl.stK c hc).1, (hl.stK c hc).2, ihS c hc D _ ((tiRL_iff ..).mp hS c hc) (hkid c (Or.inl hc))⟩
  · rw [tiOpt_iff]
    intro c hc
    exact ⟨hl.paK c hc, ihP c hc D _ ((tiRO_iff ..).mp hP c hc) (hkid c (Or.inr (Or.inl hc)))⟩
  · rw [tiOpt_iff]
    intro c hc
    exact ⟨hl.anK c hc, ihA c hc D _ ((tiRO_iff ..).mp hA c hc) (hkid c (Or.inr (Or.inr hc)))⟩

theorem top_empty (D : Nat) (hne : W ≠ []) : Top W D emptyTree := by
  refine ⟨?_, rfl, Or.inl rfl⟩
  have hin : InW W ([] ++ []) := by
    cases W with
    | nil => exact absurd rfl hne
    | cons w _ => exact ⟨w, List.mem_cons_self, List.nil_prefix⟩
  exact tiR_leaf (m := []) (rm := none) (t := .static) (tv := []) ⟨[], rfl⟩ (by simp [arity]) hin
    (by intro r hr; cases hr) (by intro h; cases h)

theorem world_single (w : List Tok) (h : Tok.lit '*' ∉ w) : World [w] := by
  constructor
  · intro w' hw'
    simp only [List.mem_singleton] at hw'
    rw [hw']; exact h
  · intro w1 hw1 w2 hw2 q r1 r2 e1 e2
    simp only [List.mem_singleton] at hw1 hw2
    rw [hw1] at e1
    rw [hw2, e1] at e2
    have := List.append_cancel_left e2
    simp at this

theorem paramCountOf_eq {p : Str} (h : okPatternE p = true) : paramCountOf p = arity (norm p).1 := by
  have hW := world_single (norm p).1 (no_lit_star _ _)
  have := (insertRoute_ok hW (arity (norm p).1) emptyTree [] p 0 (top_empty _ (by simp)) deads_empty h
    (Nat.le_refl _) (by simp)).2.2.2
  show (insertLoop [] (normalizeSlash p) 0 ((normalizeSlash p).length + 2) emptyTree []
    (normalizeSlash p) []).2.2.length = _
  rw [this]
  exact normAux_names _ _

/-! ### the whole table -/

/-- the registrations one after the other, duplicates allowed -/
theorem fold_gen (hW : World W) (D : Nat) : ∀ (rs : List Route) (t : Node) (X : R), Top W D t →
    (∀ x ∈ deads t, x = []) → (resid t).Perm X →
    (∀ r ∈ rs, okPatternE r.path = true ∧ arity (norm r.path).1 ≤ D ∧ (norm r.path).1 ∈ W) →
    Top W D (rs.foldl (fun t r => insertRoute t r.method r.path r.hid) t)
      ∧ (rs ≠ [] → deads (rs.foldl (fun t r => insertRoute t r.method r.path r.hid) t) = [])
      ∧ (resid (rs.foldl (fun t r => insertRoute t r.method r.path r.hid) t)).Perm (rs.foldl regStep X) := by
  intro rs
  induction rs with
  | nil =>
    intro t X ht _ hres _
    exact ⟨ht, fun h => absurd rfl h, hres⟩
  | cons r rs ih =>
    intro t X ht hdead hres hok
    obtain ⟨hokr, hDr, hmr⟩ := hok r (by simp)
    obtain ⟨f1, f2, f3, _⟩ := insertRoute_ok hW D t r.method r.path r.hid ht hdead hokr hDr hmr
    simp only [List.foldl_cons]
    have hres1 : (resid (insertRoute t r.method r.path r.hid)).Perm (regStep X r) :=
      f3.trans (regStep_perm hres r)
    obtain ⟨g1, g2, g3⟩ := ih (insertRoute t r.method r.path r.hid) (regStep X r) f1
      (by intro x hx; rw [f2] at hx; simp at hx) hres1 (fun r' hr' => hok r' (by simp [hr']))
    refine ⟨g1, fun _ => ?_, g3⟩
    by_cases hrs : rs = []
    · subst hrs; exact f2
    · exact g2 hrs

theorem okTableE_parts {rs : List Route} (h : okTableE rs = true) :
    (∀ r ∈ rs, okPatternE r.path = true) ∧ escFree rs = true := by
  simp only [okTableE, Bool.and_eq_true, List.all_eq_true] at h
  exact h

theorem okTableE_bound {rs : List Route} (h : okTableE rs = true) :
    ∀ r ∈ rs, okPatternE r.path = true ∧ arity (norm r.path).1 ≤ maxParam rs
      ∧ (norm r.path).1 ∈ rs.map (fun r => (norm r.path).1) := by
  obtain ⟨hp, _⟩ := okTableE_parts h
  intro r hr
  refine ⟨hp r hr, ?_, List.mem_map.mpr ⟨r, hr, rfl⟩⟩
  rw [← paramCountOf_eq (hp r hr)]
  exact le_maxParam hr

end Router.Tree.Esc

namespace Router.Tree
open Router Router.Spec Router.Tree.Esc

theorem build_okE (rs : List Route) (hne : rs ≠ []) (h : okTableE rs = true) :
    tiNode (maxParam rs) [] (build rs) = true ∧ (build rs).kind = .static
      ∧ (resid (build rs)).Perm (initial ((dedupLast rs).map mkEntry)) := by
  have hW := world_of_escFree (okTableE_parts h).2
  have hWne : rs.map (fun r => (norm r.path).1) ≠ [] := by
    cases rs with
    | nil => exact absurd rfl hne
    | cons _ _ => simp
  obtain ⟨f1, f2, f3⟩ := Esc.fold_gen hW (maxParam rs) rs emptyTree [] (Esc.top_empty _ hWne) deads_empty
    (by rw [resid_emptyTree]) (okTableE_bound h)
  refine ⟨Esc.tiNode_of_tiR _ _ _ f1.inv (f2 hne), f1.kind, ?_⟩
  have := f3.trans (foldl_regStep rs [])
  unfold build
  simpa using this

/-- **`Router.build` yields a tree satisfying the invariant and representing the table in force**, for every
    non-empty table without text after `*` and without escape conflict — escaped colons and re-registrations
    allowed -/
theorem build_tableInvariantE (rs : List Route) (hne : rs ≠ []) (h : okTableE rs = true) :
    tableInvariantD rs = (true, true) := by
  obtain ⟨h1, h2, h3⟩ := build_okE rs hne h
  unfold tableInvariantD
  simp only [Prod.mk.injEq, Bool.and_eq_true, decide_eq_true_eq, List.isPerm_iff]
  exact ⟨⟨h1, h2⟩, h3⟩

/-- the residual set, also for the empty table -/
theorem build_RS_okE (rs : List Route) (h : okTableE rs = true) :
    (resid (build rs)).Perm (initial ((dedupLast rs).map mkEntry)) := by
  cases rs with
  | nil =>
    have hb : build [] = emptyTree := rfl
    rw [hb, resid_emptyTree]; exact List.Perm.refl _
  | cons r rs => exact (build_okE (r :: rs) (by simp) h).2.2

/-- `okTable` is the case of `okTableE` without escaped colon: `build_tableInvariantE` subsumes `build_tableInvariantD` -/
theorem okTableE_of_ok {rs : List Route} (h : okTable rs = true) : okTableE rs = true := Esc.okTableE_of_ok h

/-- `escFree` in the formulation with positions: no two routes whose tokens agree before position `k` and
    continue with a literal colon in one and a parameter in the other -/
theorem escFree_iff (rs : List Route) :
    escFree rs = true ↔ ∀ r1 ∈ rs, ∀ r2 ∈ rs, ∀ k, conflictAt (norm r1.path).1 (norm r2.path).1 k = false := by
  simp only [escFree, List.all_eq_true, Bool.not_eq_true']
  constructor
  · intro h r1 h1 r2 h2 k
    cases hc : conflictAt (norm r1.path).1 (norm r2.path).1 k with
    | false => rfl
    | true =>
      have := (Esc.conflictAt_iff _ _).mpr ⟨k, Or.inl hc⟩
      rw [h r1 h1 r2 h2] at this; cases this
  · intro h r1 h1 r2 h2
    cases hc : conflict (norm r1.path).1 (norm r2.path).1 with
    | false => rfl
    | true =>
      obtain ⟨k, hk | hk⟩ := (Esc.conflictAt_iff _ _).mp hc
      · rw [h r1 h1 r2 h2 k] at hk; cases hk
      · rw [h r2 h2 r1 h1 k] at hk; cases hk

end Router.Tree
