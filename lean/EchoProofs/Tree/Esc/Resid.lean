import EchoProofs.Tree.Esc.Inv
/-!
# Insertion with escaped colons: the residual set after an insertion
-/
namespace Router.Tree.Esc
open Router Router.Spec Router.Tree

variable {W : List (List Tok)}

theorem resid_first {d : Node} {tok : Tok} {rest : List Tok} (h : headToks d.kind d.pre = tok :: rest) :
    ∀ x ∈ resid d, ∃ rest', x.1 = tok :: rest' := by
  intro x hx
  rw [resid_eq, h] at hx
  simp only [prepend, List.mem_map] at hx
  obtain ⟨y, _, rfl⟩ := hx
  exact ⟨rest ++ y.1, rfl⟩

theorem kids_ne_nil {D : Nat} {above : List Tok} {k p ms nf op pc st pa an}
    (h : tiR W D above (.mk k p ms nf op pc st pa an)) : ∀ x ∈ kidsR st pa an, x.1 ≠ [] := by
  intro x hx
  obtain ⟨d, hd, hxd⟩ := mem_kidsR.mp hx
  obtain ⟨e, r, tok, rest, _, _, hh, _, _⟩ := child_first h hd
  obtain ⟨rest', hr⟩ := resid_first hh x hxd
  rw [hr]; simp

theorem resid_withRec {m : Str} {rm : Option RouteMethod} {k p ms nf op pc st pa an} (hNo : NoNfKey ms)
    (hkids : ∀ x ∈ kidsR st pa an, x.1 ≠ []) :
    (resid (withRec m rm k p ms nf op pc st pa an)).Perm
      (expected m rm (headToks k p) (resid (.mk k p ms nf op pc st pa an))) := by
  cases rm with
  | none => exact List.Perm.refl _
  | some r =>
    simp only [withRec, resid_mk']
    have h1 := expected_prepend m (some r) (headToks k p) [] (ownR ms nf ++ kidsR st pa an)
    rw [List.append_nil] at h1
    rw [h1]
    apply prepend_perm
    have := expected_mid (m := m) (rm := some r) (ts := []) (A := []) (B := kidsR st pa an) (Y := ownR ms nf)
      (Y' := ownR (addMethod ms nf m r).1 (addMethod ms nf m r).2) (by intro x hx; simp at hx) hkids
      (ownR_withRec m r hNo)
    simpa using this

theorem resid_leaf {m : Str} {rm : Option RouteMethod} {t : Kind} {tv : List Tok} (hp : Piece t tv) :
    (resid (withRec m rm t (chars tv) [] none [] 0 [] none none)).Perm (expected m rm tv []) := by
  have h := resid_withRec (m := m) (rm := rm) (k := t) (p := chars tv) (ms := []) (nf := none) (op := []) (pc := 0)
    (st := []) (pa := none) (an := none) (by intro y hy; simp at hy) (by intro y hy; simp [kidsR] at hy)
  have h0 : resid (.mk t (chars tv) [] none [] 0 [] none none) = [] := by
    rw [resid_mk']; simp [ownR, kidsR, ownEntries, prepend]
  rw [h0, piece_headToks hp] at h
  exact h

/-! ### the parts an insertion does not touch -/

theorem ne_own {ms : List (Str × RouteMethod)} {nf : Option RouteMethod} {tc : Tok} {ts' : List Tok} :
    ∀ x ∈ ownR ms nf, x.1 ≠ tc :: ts' := by
  intro x hx
  rw [ownR_nil ms nf x hx]; simp

theorem ne_child {D : Nat} {above : List Tok} {k p ms nf op pc st pa an} {d : Node} {tc : Tok} {ts' : List Tok}
    (h : tiR W D above (.mk k p ms nf op pc st pa an)) (hd : IsChild d st pa an)
    (hl : d.label ≠ some (charOf tc)) : ∀ x ∈ resid d, x.1 ≠ tc :: ts' := by
  intro x hx
  obtain ⟨e, r, tok, rest, _, hlab, hh, hce, _⟩ := child_first h hd
  obtain ⟨rest', hr⟩ := resid_first hh x hx
  rw [hr]
  simp only [ne_eq, List.cons.injEq, not_and]
  intro he
  exact absurd (by rw [hlab, ← hce, he]) hl

theorem resid_mid {m : Str} {rm : Option RouteMethod} {k a ms nf op pc st pa an} {st' : List Node}
    {pa' an' : Option Node} {A B Y Y' : R} {tc : Tok} {ts' : List Tok}
    (e1 : ownR ms nf ++ kidsR st pa an = A ++ (Y ++ B)) (e2 : ownR ms nf ++ kidsR st' pa' an' = A ++ (Y' ++ B))
    (hA : ∀ x ∈ A, x.1 ≠ tc :: ts') (hB : ∀ x ∈ B, x.1 ≠ tc :: ts')
    (hY : Y'.Perm (expected m rm (tc :: ts') Y)) :
    (resid (.mk k a ms nf op pc st' pa' an')).Perm
      (expected m rm (headToks k a ++ tc :: ts') (resid (.mk k a ms nf op pc st pa an))) := by
  rw [resid_mk', resid_mk', e1, e2, expected_prepend]
  exact prepend_perm (expected_mid hA hB hY)

/-- the residuals of a node after an insertion below the child `ch`: those of the other children, which begin with
    another token, stay -/
theorem resid_desc {D : Nat} {above : List Tok} (hW : WorldFrom W above) {m : Str} {rm : Option RouteMethod}
    {k a ms nf op pc st pa an} {tc : Tok} {ts' : List Tok} {ch ch' : Node} {st' : List Node} {pa' an' : Option Node}
    (hti : tiR W D above (.mk k a ms nf op pc st pa an)) (hd : Desc (charOf tc) ch ch' st pa an st' pa' an')
    (hY : (resid ch').Perm (expected m rm (tc :: ts') (resid ch))) :
    (resid (.mk k a ms nf op pc st' pa' an')).Perm
      (expected m rm (headToks k a ++ tc :: ts') (resid (.mk k a ms nf op pc st pa an))) := by
  cases hd with
  | static hch h1 =>
    have hne := fun d hd => ne_child (ts' := ts') hti (isChild_mid.mpr (Or.inr hd)) (other_label_S hW hti hch h1 d hd)
    refine resid_mid (A := ownR ms nf ++ belowList _) (B := belowList _ ++ (belowOpt pa ++ belowOpt an)) ?_ ?_
      (ne_append ne_own (ne_belowList fun d hd => hne d (Or.inl hd)))
      (ne_append (ne_belowList fun d hd => hne d (Or.inr (Or.inl hd)))
        (ne_append (ne_belowOpt fun d hd => hne d (Or.inr (Or.inr (Or.inl hd))))
          (ne_belowOpt fun d hd => hne d (Or.inr (Or.inr (Or.inr hd)))))) hY
    · simp only [kidsR, belowList_append, belowList_cons, List.append_assoc]
    · simp only [kidsR, belowList_append, belowList_cons, List.append_assoc]
  | param hc h1 =>
    have hne := fun d hd => ne_child (ts' := ts') hti (isChild_pa.mpr (Or.inr hd)) (other_label_P hc hti h1 d hd)
    refine resid_mid (A := ownR ms nf ++ belowList st) (B := belowOpt an) ?_ ?_
      (ne_append ne_own (ne_belowList fun d hd => hne d (Or.inl hd))) (ne_belowOpt fun d hd => hne d (Or.inr hd)) hY
    · simp only [kidsR, belowOpt_some, List.append_assoc]
    · simp only [kidsR, belowOpt_some, List.append_assoc]
  | any hc h1 =>
    have hne := fun d hd => ne_child (ts' := ts') hti (isChild_an.mpr (Or.inr hd)) (other_label_A hc hti h1 d hd)
    refine resid_mid (A := ownR ms nf ++ (belowList st ++ belowOpt pa)) (B := []) ?_ ?_
      (ne_append ne_own (ne_append (ne_belowList fun d hd => hne d (Or.inl hd)) (ne_belowOpt fun d hd => hne d (Or.inr hd))))
      (fun x hx => nomatch hx) hY
    · simp only [kidsR, belowOpt_some, List.append_assoc, List.append_nil]
    · simp only [kidsR, belowOpt_some, List.append_assoc, List.append_nil]

theorem insertAt_resid_from (m : Str) (t : Kind) (rm : Option RouteMethod) (s : Str) (n : Node) :
    ∀ (D : Nat) (above ts : List Tok), WorldFrom W above → s = chars ts → tiR W D above n → Fit t ts n →
      InW W (above ++ ts) → (lcp s n.pre = 0 → n = emptyTree ∧ t = .static) →
      (resid (insertAt m s t rm n)).Perm (expected m rm ts (resid n)) := by
  refine insertAt_cases m t rm (fun s n r => ∀ (D : Nat) (above ts : List Tok), WorldFrom W above → s = chars ts →
      tiR W D above n →
      Fit t ts n → InW W (above ++ ts) →
      (lcp s n.pre = 0 → n = emptyTree ∧ t = .static) →
      (resid r).Perm (expected m rm ts (resid n))) ?_ ?_ ?_ ?_ ?_ ?_ s n
  · -- take-over of the empty root
    intro s k p ms nf op pc st pa an h0 D above ts hW hs hti hfit hin hroot
    obtain ⟨hn, ht⟩ := hroot h0
    rw [hn] at hfit ⊢
    simp only [emptyTree, Node.mk.injEq] at hn
    obtain ⟨rfl, rfl, rfl, rfl, rfl, rfl, rfl, rfl, rfl⟩ := hn
    subst ht
    have hk : (if rm.isSome = true then Kind.static else Kind.static) = .static := by split <;> rfl
    rw [hk, resid_emptyTree, hs]
    exact resid_leaf (fit_empty hfit)
  · -- split, the new text ends at the split point
    intro a y p' k ms nf op pc st pa an ha D above ts hW hs hti hfit hin hroot
    obtain ⟨ht, hk, hts⟩ := fit_split hW hti ha hfit hin (by rw [← hs]; exact List.prefix_refl a)
      (by rw [← hs]; exact not_prefix_self_app (by simp))
    subst ht hk
    rw [← hs] at hts
    subst hts
    have hbase : resid (.mk .static a [] none [] 0 [.mk .static (y :: p') ms nf op pc st pa an] none none)
        = resid (.mk .static (a ++ y :: p') ms nf op pc st pa an) := by
      rw [resid_split]; simp [prepend]
    rw [← hbase]
    apply resid_withRec (k := .static) (fun x hx => by simp at hx)
    intro x hx
    simp only [kidsR, belowList_cons, belowList_nil, belowOpt_none, List.append_nil, resid_mk', headToks, lits,
      List.map_cons, prepend, List.mem_map] at hx
    obtain ⟨z, _, rfl⟩ := hx
    simp
  · -- split with a new branch
    intro a x0 s' y p' k ms nf op pc st pa an ha hne D above ts hW hs hti hfit hin hroot
    obtain ⟨ht, hk, hts⟩ := fit_split hW hti ha hfit hin (by rw [← hs]; exact List.prefix_append a _)
      (by rw [← hs]; exact not_prefix_app (fun h => hne (List.cons_prefix_cons.mp h).1.symm))
    subst ht hk
    rw [← hs] at hts
    subst hts
    rw [resid_split]
    simp only [belowList_cons, belowList_nil, List.append_nil]
    have hleaf : (prepend (lits a) (resid (withRec m rm .static (x0 :: s') [] none [] 0 [] none none))).Perm
        (expected m rm (lits (a ++ x0 :: s')) []) := by
      have h1 := expected_prepend m rm (lits a) (lits (x0 :: s')) []
      rw [prepend_nil_right] at h1
      rw [lits_append, h1]
      have h2 := resid_leaf (m := m) (rm := rm) (t := .static) (tv := lits (x0 :: s')) ⟨_, rfl⟩
      rw [chars_lits] at h2
      exact prepend_perm h2
    have hA : ∀ x ∈ resid (.mk .static (a ++ y :: p') ms nf op pc st pa an),
        x.1 ≠ lits (a ++ x0 :: s') := by
      intro x hx
      rw [resid_mk'] at hx
      simp only [prepend, List.mem_map, headToks] at hx
      obtain ⟨z, _, rfl⟩ := hx
      simp only [lits_append, lits_cons, List.append_assoc, ne_eq, List.append_cancel_left_eq,
        List.cons_append, List.cons.injEq, not_and, Tok.lit.injEq]
      intro he
      exact absurd he.symm hne
    have := expected_mid (m := m) (rm := rm) (B := []) (Y := []) hA (by intro x hx; simp at hx) hleaf
    simpa using this
  · -- descend into a child
    intro a c s' k ms nf op pc st pa an st' pa' an' ch ha hd ih D above ts hW hs hti hfit hin hroot
    obtain ⟨tc, ts', rfl, rfl, rfl, hdesc, -⟩ := fit_below hW hti ha hs hfit hin
    rw [← List.append_assoc] at hin
    obtain ⟨hch, hsel, -⟩ := desc_others hW hti hd
    exact resid_desc hW hti hd (ih D (above ++ headToks k a) (tc :: ts') (hW.append _) rfl (tiR_child hti hd.child)
      (hdesc ch hsel) hin (fun h0 => absurd h0 (lcp_ne_zero_of_label hch)))
  · -- a new child
    intro a c s' k ms nf op pc st pa an ha h1 hp hA D above ts hW hs hti hfit hin hroot
    obtain ⟨tc, ts', rfl, rfl, rfl, -, hnew⟩ := fit_below hW hti ha hs hfit hin
    have hno := other_label_new hti h1 hp hA
    have hpiece := hnew hno
    have hleaf := resid_leaf (m := m) (rm := rm) hpiece
    rw [chars_cons] at hleaf
    have hst : ∀ x ∈ belowList st, x.1 ≠ tc :: ts' :=
      ne_belowList (fun d hd => ne_child hti (Or.inl hd) (hno d (Or.inl hd)))
    have hpa : ∀ x ∈ belowOpt pa, x.1 ≠ tc :: ts' :=
      ne_belowOpt (fun d hd => ne_child hti (Or.inr (Or.inl hd)) (hno d (Or.inr (Or.inl hd))))
    have han : ∀ x ∈ belowOpt an, x.1 ≠ tc :: ts' :=
      ne_belowOpt (fun d hd => ne_child hti (Or.inr (Or.inr hd)) (hno d (Or.inr (Or.inr hd))))
    cases t with
    | static =>
      refine resid_mid (A := ownR ms nf ++ belowList st) (B := belowOpt pa ++ belowOpt an) (Y := [])
        ?_ ?_ (ne_append ne_own hst) (ne_append hpa han) hleaf
      · simp only [kidsR, List.append_assoc, List.nil_append]
      · simp only [kidsR, belowList_append, belowList_cons, belowList_nil, List.append_assoc, List.append_nil]
    | param =>
      have hc : charOf tc = ':' := by
        have : tc :: ts' = [.param] := hpiece
        rw [(List.cons.inj this).1]; rfl
      have hpn := hp hc
      subst hpn
      refine resid_mid (A := ownR ms nf ++ belowList st) (B := belowOpt an) (Y := [])
        ?_ ?_ (ne_append ne_own hst) han hleaf
      · simp only [kidsR, belowOpt_none, List.append_assoc, List.nil_append]
      · simp only [kidsR, belowOpt_some, List.append_assoc]
    | any =>
      have hc : charOf tc = '*' := by
        have : tc :: ts' = [.any] := hpiece
        rw [(List.cons.inj this).1]; rfl
      have han' := hA hc
      subst han'
      refine resid_mid (A := ownR ms nf ++ (belowList st ++ belowOpt pa)) (B := []) (Y := [])
        ?_ ?_ (ne_append ne_own (ne_append hst hpa)) (by intro x hx; simp at hx) hleaf
      · simp only [kidsR, belowOpt_none, List.append_nil]
      · simp only [kidsR, belowOpt_some, List.append_assoc, List.append_nil]
  · -- the node exists
    intro k p ms nf op pc st pa an hp D above ts hW hs hti hfit hin hroot
    have hl := ((tiR_mk ..).mp hti).1
    have hag := agree_full hW hl hs.symm (ts' := []) (by simpa using hin)
    rw [← hag]
    exact resid_withRec hl.noNf (kids_ne_nil hti)

theorem insertAt_resid (hW : World W) (m : Str) (t : Kind) (rm : Option RouteMethod) (s : Str) (n : Node) :
    ∀ (D : Nat) (above ts : List Tok), s = chars ts → tiR W D above n → Fit t ts n → InW W (above ++ ts) →
      (lcp s n.pre = 0 → n = emptyTree ∧ t = .static) →
      (resid (insertAt m s t rm n)).Perm (expected m rm ts (resid n)) :=
  fun D above ts => insertAt_resid_from m t rm s n D above ts (hW.worldFrom above)

end Router.Tree.Esc
