import EchoProofs.Tree.Esc.Paths
/-!
# Insertion with escaped colons: `insertAt` preserves the relaxed invariant

The inserted text is `chars ts` for a token list `ts` whose position `above ++ ts` is a position of the
table (`InW W`).  `agree_static` / `agree_full` are the place where the absence of escape conflicts is used:
the bytes that `lcp` finds equal are equal TOKENS.
-/
namespace Router.Tree.Esc
open Router Router.Spec Router.Tree

variable {W : List (List Tok)}

/-- the tokens `ts` inserted below `n` as a node of kind `t` fit: everything before the last piece is
    already a node boundary, so only the last piece can become a new node -/
def Fit (t : Kind) (ts : List Tok) (n : Node) : Prop :=
  ∃ tu tv, ts = tu ++ tv ∧ Piece t tv ∧ (tu = [] ∨ chars tu ∈ bounds n)

/-- along a static prefix: the inserted tokens whose text is the common part `a` are the literals `a` -/
theorem agree_static : ∀ (a : Str) (ta above : List Tok) (p' : Str) (ts' : List Tok), WorldFrom W above →
    chars ta = a → InW W (above ++ lits (a ++ p')) → InW W (above ++ ta ++ ts') → ta = lits a := by
  intro a
  induction a with
  | nil => intro ta above p' ts' _ h _ _; rw [chars_eq_nil h]; rfl
  | cons x a ih =>
    intro ta above p' ts' hW h h1 h2
    obtain ⟨tx, ta', rfl, hx, ha'⟩ := chars_eq_cons h
    have hx' : Tok.lit x = tx :=
      hW.tok_eq (q := []) (r1 := lits (a ++ p')) (r2 := ta' ++ ts') (by simpa using h1) (by simpa using h2)
        (by rw [hx]; rfl)
    subst hx'
    have := ih ta' (above ++ [Tok.lit x]) p' ts' (hW.append _) ha' (by simpa using h1) (by simpa using h2)
    rw [this]
    simp

/-- the whole prefix of a node: the inserted tokens with the text of the prefix are the tokens of the node -/
theorem agree_full {D : Nat} {above : List Tok} (hW : WorldFrom W above) {k a ms nf pc st pa an}
    (hl : Local W D (above ++ headToks k a) k a ms nf pc st pa an) {ta ts' : List Tok} (hca : chars ta = a)
    (hin : InW W (above ++ ta ++ ts')) : headToks k a = ta := by
  cases k with
  | static =>
    have := agree_static a ta above [] ts' hW hca (by simpa [headToks] using hl.inW) hin
    rw [this]; rfl
  | param =>
    have ha := hl.kP rfl
    subst ha
    obtain ⟨tx, ta', rfl, hx, ha'⟩ := chars_eq_cons hca
    have := chars_eq_nil ha'
    subst this
    have := hW.tok_eq (q := []) (x := Tok.param) (r1 := []) (r2 := ts') (by simpa [headToks] using hl.inW)
      (by simpa using hin) (by rw [hx]; rfl)
    rw [← this]; rfl
  | any =>
    have ha := (hl.kA rfl).1
    subst ha
    obtain ⟨tx, ta', rfl, hx, ha'⟩ := chars_eq_cons hca
    have := chars_eq_nil ha'
    subst this
    have := hW.tok_eq (q := []) (x := Tok.any) (r1 := []) (r2 := ts') (by simpa [headToks] using hl.inW)
      (by simpa using hin) (by rw [hx]; rfl)
    rw [← this]; rfl

/-! ### records, leaves, split nodes -/

theorem Local.not_any {D here k pre ms nf pc st pa an} {c : Node}
    (h : Local W D here k pre ms nf pc st pa an) (hc : IsChild c st pa an) : k ≠ .any := by
  intro hk
  obtain ⟨_, rfl, rfl, rfl, _⟩ := h.kA hk
  rcases hc with h | h | h <;> cases h

/-- `Local` sees the child slots only through the labels and kinds of the children: other children may stand in
    their place, unless the node is a wildcard -/
theorem Local.withKids {D here k pre ms nf pc st pa an} {st' : List Node}
    {pa' an' : Option Node} (h : Local W D here k pre ms nf pc st pa an) (hk : k ≠ .any)
    (hd : labelsDistinct st' = true) (hs : ∀ c ∈ st', c.kind = .static ∧ c.pre ≠ [])
    (hp : ∀ c, pa' = some c → c.kind = .param) (ha : ∀ c, an' = some c → c.kind = .any) :
    Local W D here k pre ms nf pc st' pa' an' :=
  ⟨h.depth, h.inW, h.kP, fun e => absurd e hk, h.noNf, h.recs, h.nfRec, hd, hs, hp, ha⟩

theorem tiR_withRec {D : Nat} {above : List Tok} {m : Str} {rm : Option RouteMethod} {k pre ms nf op pc st pa an}
    (h : tiR W D above (.mk k pre ms nf op pc st pa an))
    (hrec : ∀ r, rm = some r → (norm r.ppath).1 = above ++ headToks k pre
      ∧ r.pnames.length = arity (above ++ headToks k pre)) :
    tiR W D above (withRec m rm k pre ms nf op pc st pa an) := by
  cases rm with
  | none => exact h
  | some r =>
    obtain ⟨hr1, hr2⟩ := hrec r rfl
    obtain ⟨hl, hS, hP, hA⟩ := (tiR_mk ..).mp h
    simp only [withRec]
    refine (tiR_mk ..).mpr ⟨?_, hS, hP, hA⟩
    refine ⟨hl.depth, hl.inW, hl.kP, ?_, noNfKey_addMethod m r hl.noNf, ?_, ?_, hl.distinct, hl.stK, hl.paK, hl.anK⟩
    · intro hk
      obtain ⟨h1, h2, h3, h4, _⟩ := hl.kA hk
      exact ⟨h1, h2, h3, h4, hr2⟩
    · intro x hx
      rcases mem_addMethod hx with hx | hx
      · exact hl.recs x hx
      · rw [hx]; exact ⟨hr1, hr2⟩
    · intro r' hr'
      rcases nf_addMethod hr' with hr' | hr'
      · exact hl.nfRec r' hr'
      · rw [hr']; exact ⟨hr1, hr2⟩

theorem tiR_leaf {D : Nat} {above : List Tok} {m : Str} {rm : Option RouteMethod} {t : Kind} {tv : List Tok}
    (hp : Piece t tv) (hD : arity (above ++ tv) ≤ D) (hin : InW W (above ++ tv))
    (hrec : ∀ r, rm = some r → (norm r.ppath).1 = above ++ tv ∧ r.pnames.length = arity (above ++ tv))
    (hany : t = .any → rm ≠ none) :
    tiR W D above (withRec m rm t (chars tv) [] none [] 0 [] none none) := by
  -- the leaf before its record is written; a wildcard leaf must already count its parameters
  have hbare : ∀ pc, (t = .any → pc = arity (above ++ tv)) →
      tiR W D above (.mk t (chars tv) [] none [] pc [] none none) := by
    intro pc hpc
    refine (tiR_mk ..).mpr ?_
    rw [piece_headToks hp]
    refine ⟨⟨hD, hin, piece_kP hp, fun hk => ⟨piece_kA hp hk, rfl, rfl, rfl, hpc hk⟩, ?_, ?_, ?_, rfl, ?_, ?_, ?_⟩,
      by rw [tiRL]; trivial, by rw [tiRO]; trivial, by rw [tiRO]; trivial⟩
    · intro x hx; simp at hx
    · intro x hx; simp at hx
    · intro r hr; simp at hr
    · intro c hc; simp at hc
    · intro c hc; simp at hc
    · intro c hc; simp at hc
  cases rm with
  | none => exact hbare 0 fun hk => absurd rfl (hany hk)
  | some r =>
    rw [← piece_headToks hp] at hrec
    exact tiR_withRec (pc := arity (above ++ tv)) (hbare _ fun _ => rfl) hrec

/-- the lower half of a split static node -/
theorem tiR_shift {D : Nat} {above : List Tok} {a p2 : Str} {ms nf op pc st pa an}
    (h : tiR W D above (.mk .static (a ++ p2) ms nf op pc st pa an)) :
    tiR W D (above ++ lits a) (.mk .static p2 ms nf op pc st pa an) := by
  obtain ⟨hl, hS, hP, hA⟩ := (tiR_mk ..).mp h
  have he : above ++ headToks .static (a ++ p2) = above ++ lits a ++ headToks .static p2 := by
    simp [headToks, lits_append]
  rw [he] at hl hS hP hA
  refine (tiR_mk ..).mpr ⟨?_, hS, hP, hA⟩
  exact ⟨hl.depth, hl.inW, (fun hk => nomatch hk), (fun hk => nomatch hk),
    hl.noNf, hl.recs, hl.nfRec, hl.distinct, hl.stK, hl.paK, hl.anK⟩

/-- the upper half of a split node -/
theorem tiR_splitNode {D : Nat} {above : List Tok} {a : Str} {kids : List Node}
    (hD : arity (above ++ lits a) ≤ D) (hin : InW W (above ++ lits a)) (hdist : labelsDistinct kids = true)
    (hk : ∀ c ∈ kids, c.kind = .static ∧ c.pre ≠ [] ∧ tiR W D (above ++ lits a) c) :
    tiR W D above (.mk .static a [] none [] 0 kids none none) := by
  refine (tiR_mk ..).mpr ⟨?_, ?_, by rw [tiRO]; trivial, by rw [tiRO]; trivial⟩
  · refine ⟨hD, hin, (fun h => nomatch h), (fun h => nomatch h), ?_, ?_, ?_, hdist, ?_, ?_, ?_⟩
    · intro x hx; simp at hx
    · intro x hx; simp at hx
    · intro r hr; simp at hr
    · intro c hc; exact ⟨(hk c hc).1, (hk c hc).2.1⟩
    · intro c hc; simp at hc
    · intro c hc; simp at hc
  · rw [tiRL_iff]; intro c hc; exact (hk c hc).2.2

theorem tiR_desc {D : Nat} {above : List Tok} {k a ms nf op pc st pa an} {c : Char} {ch ch' : Node} {st' : List Node}
    {pa' an' : Option Node} (hti : tiR W D above (.mk k a ms nf op pc st pa an))
    (hd : Desc c ch ch' st pa an st' pa' an') (h1 : tiR W D (above ++ headToks k a) ch') (h2 : ch'.kind = ch.kind)
    (hlab : ch'.label = some c) : tiR W D above (.mk k a ms nf op pc st' pa' an') := by
  obtain ⟨hl, hS, hP, hA⟩ := (tiR_mk ..).mp hti
  have hk := hl.not_any hd.child
  cases hd with
  | static hch _ =>
    have hstK := hl.stK
    rw [tiRL_iff] at hS
    simp only [List.forall_mem_append, List.forall_mem_cons] at hstK hS
    refine (tiR_mk ..).mpr ⟨hl.withKids hk (labelsDistinct_replace (hlab.trans hch.symm) hl.distinct) ?_ hl.paK hl.anK,
      (tiRL_iff ..).mpr ?_, hP, hA⟩
    · simp only [List.forall_mem_append, List.forall_mem_cons]
      obtain ⟨r, hr⟩ := pre_of_label hlab
      exact ⟨hstK.1, ⟨h2.trans hstK.2.1.1, by rw [hr]; simp⟩, hstK.2.2⟩
    · simp only [List.forall_mem_append, List.forall_mem_cons]
      exact ⟨hS.1, h1, hS.2.2⟩
  | param _ _ =>
    refine (tiR_mk ..).mpr ⟨hl.withKids hk hl.distinct hl.stK ?_ hl.anK, hS, by rw [tiRO]; exact h1, hA⟩
    intro d hd
    rw [← Option.some.inj hd, h2]; exact hl.paK ch rfl
  | any _ _ =>
    refine (tiR_mk ..).mpr ⟨hl.withKids hk hl.distinct hl.stK hl.paK ?_, hS, hP, by rw [tiRO]; exact h1⟩
    intro d hd
    rw [← Option.some.inj hd, h2]; exact hl.anK ch rfl

/-! ### how `Fit` travels down the tree -/

theorem piece_drop {t : Kind} {ta : List Tok} {tc : Tok} {ts' : List Tok} (ha : ta ≠ [])
    (h : Piece t (ta ++ tc :: ts')) : Piece t (tc :: ts') := by
  cases t with
  | static =>
    obtain ⟨v, hv⟩ := h
    exact ⟨_, (eq_lits_of_append hv.symm).2⟩
  | param =>
    have hl := congrArg List.length (show ta ++ tc :: ts' = [.param] from h)
    cases ta with
    | nil => exact absurd rfl ha
    | cons _ _ => simp at hl
  | any =>
    have hl := congrArg List.length (show ta ++ tc :: ts' = [.any] from h)
    cases ta with
    | nil => exact absurd rfl ha
    | cons _ _ => simp at hl

theorem fit_cases {t : Kind} {ta : List Tok} {tc : Tok} {ts' : List Tok} {k a ms nf op pc st pa an} (ha : ta ≠ [])
    (hca : chars ta = a) (h : Fit t (ta ++ tc :: ts') (.mk k a ms nf op pc st pa an)) :
    Piece t (tc :: ts') ∨
      ∃ d, IsChild d st pa an ∧ ∃ ty tv, chars ty ∈ bounds d ∧ tc :: ts' = ty ++ tv ∧ Piece t tv := by
  obtain ⟨tu, tv, hs, hp, hu⟩ := h
  rcases hu with hu | hu
  · subst hu
    simp only [List.nil_append] at hs
    rw [← hs] at hp
    exact Or.inl (piece_drop ha hp)
  · rcases mem_bounds_mk.mp hu with hu | ⟨d, hd, y, hy, hu⟩
    · obtain ⟨_, h2⟩ := append_eq_of_chars hs (hca.trans hu.symm)
      rw [← h2] at hp
      exact Or.inl hp
    · obtain ⟨tu1, ty, rfl, h1, h2⟩ := chars_eq_append hu
      rw [List.append_assoc] at hs
      obtain ⟨_, h4⟩ := append_eq_of_chars hs (hca.trans h1.symm)
      exact Or.inr ⟨d, hd, ty, tv, by rw [h2]; exact hy, h4, hp⟩

theorem fit_label {D : Nat} {above : List Tok} {k a ms nf op pc st pa an} {d : Node} {ty tv : List Tok} {tc : Tok}
    {ts' : List Tok} (h : tiR W D above (.mk k a ms nf op pc st pa an)) (hd : IsChild d st pa an)
    (hy : chars ty ∈ bounds d) (he : tc :: ts' = ty ++ tv) : d.label = some (charOf tc) := by
  obtain ⟨z, hz⟩ := bounds_prefix hy
  have hne := child_pre_ne h hd
  cases hp : d.pre with
  | nil => exact absurd hp hne
  | cons e r =>
    rw [hp] at hz
    obtain ⟨te, ty', rfl, hte, _⟩ := chars_eq_cons (s := r ++ z) (by simpa using hz)
    simp only [List.cons_append, List.cons.injEq] at he
    rw [label_of_pre hp, he.1, hte]

/-- one step down the tree, below a node whose whole prefix `a` is read: the inserted tokens begin with the
    tokens of the node; what remains fits the child that alone carries the next byte as its label, and is the
    piece of a new node when no child carries it -/
theorem fit_below {D : Nat} {above : List Tok} (hW : WorldFrom W above) {t : Kind} {ts : List Tok} {a : Str}
    {c : Char} {s' : Str} {k ms nf op pc st pa an} (hti : tiR W D above (.mk k a ms nf op pc st pa an)) (ha : a ≠ [])
    (hs : a ++ c :: s' = chars ts) (hfit : Fit t ts (.mk k a ms nf op pc st pa an)) (hin : InW W (above ++ ts)) :
    ∃ tc ts', ts = headToks k a ++ tc :: ts' ∧ charOf tc = c ∧ chars ts' = s'
      ∧ (∀ ch, (∀ d, IsChild d st pa an → d = ch ∨ d.label ≠ some c) → Fit t (tc :: ts') ch)
      ∧ ((∀ d, IsChild d st pa an → d.label ≠ some c) → Piece t (tc :: ts')) := by
  obtain ⟨ta, tr, rfl, hca, hcr⟩ := chars_eq_append hs.symm
  obtain ⟨tc, ts', rfl, rfl, hcs⟩ := chars_eq_cons hcr
  have hag := agree_full hW ((tiR_mk ..).mp hti).1 hca (by rw [List.append_assoc]; exact hin)
  have hta : ta ≠ [] := by intro h; rw [h] at hca; exact ha hca.symm
  refine ⟨tc, ts', by rw [hag], rfl, hcs, ?_, ?_⟩
  · intro ch hsel
    rcases fit_cases hta hca hfit with hp | ⟨d, hd, ty, tv, hy, he, hp⟩
    · exact ⟨[], tc :: ts', rfl, hp, Or.inl rfl⟩
    · rcases hsel d hd with hd' | hd'
      · subst hd'; exact ⟨ty, tv, he, hp, Or.inr hy⟩
      · exact absurd (fit_label hti hd hy he) hd'
  · intro hno
    rcases fit_cases hta hca hfit with hp | ⟨d, hd, ty, tv, hy, he, hp⟩
    · exact hp
    · exact absurd (fit_label hti hd hy he) (hno d hd)

theorem fit_empty {t : Kind} {ts : List Tok} (h : Fit t ts emptyTree) : Piece t ts := by
  obtain ⟨tu, tv, hs, hp, hu⟩ := h
  have hu' : tu = [] := by
    rcases hu with hu | hu
    · exact hu
    · rcases mem_bounds_mk.mp hu with hu | ⟨d, hd, _⟩
      · exact chars_eq_nil hu
      · simp [IsChild] at hd
  subst hu'
  simp only [List.nil_append] at hs
  rw [hs]; exact hp

/-- in the split cases the new tokens are literals, and so is the split node -/
theorem fit_split {D : Nat} {above : List Tok} (hW : WorldFrom W above) {t : Kind} {a : Str} {y : Char} {p' : Str}
    {ts : List Tok} {k ms nf op pc st pa an}
    (hti : tiR W D above (.mk k (a ++ y :: p') ms nf op pc st pa an)) (ha : a ≠ [])
    (h : Fit t ts (.mk k (a ++ y :: p') ms nf op pc st pa an)) (hin : InW W (above ++ ts))
    (hpre : a <+: chars ts) (hnp : ¬ (a ++ y :: p') <+: chars ts) :
    t = .static ∧ k = .static ∧ ts = lits (chars ts) := by
  have hl := ((tiR_mk ..).mp hti).1
  have hlen : 2 ≤ (a ++ y :: p').length := by
    cases a with
    | nil => exact absurd rfl ha
    | cons _ _ => simp; omega
  have hk : k = .static := by
    cases k with
    | static => rfl
    | param => have := hl.kP rfl; rw [this] at hlen; simp at hlen
    | any => have := (hl.kA rfl).1; rw [this] at hlen; simp at hlen
  subst hk
  have hnode := hl.inW
  obtain ⟨tu, tv, hs, hp, hu⟩ := h
  rcases hu with hu | hu
  · subst hu
    simp only [List.nil_append] at hs
    subst hs
    cases t with
    | static =>
      obtain ⟨v, hv⟩ := hp
      exact ⟨rfl, rfl, by rw [hv]; simp⟩
    | param =>
      exfalso
      have hv : ts = [.param] := hp
      subst hv
      have hae := prefix_singleton ha hpre
      subst hae
      exact hW.no_conflict (q := []) (r1 := lits (y :: p')) (r2 := []) (by simpa [headToks, charOf] using hnode)
        (by simpa using hin)
    | any =>
      exfalso
      have hv : ts = [.any] := hp
      subst hv
      have hae := prefix_singleton ha hpre
      subst hae
      exact hW.no_lit_star (q := []) (r := lits (y :: p')) (by simpa [headToks, charOf] using hnode)
  · obtain ⟨z, hz⟩ := bounds_prefix hu
    exfalso
    apply hnp
    rw [hs, chars_append, hz]
    simp only [Node.pre]
    rw [List.append_assoc (a ++ y :: p')]
    exact List.prefix_append _ _

/-- `insertAt` preserves the relaxed invariant (and the kind of the node it is applied to); of the world only
    the positions below `above` matter -/
theorem insertAt_tiR_from (m : Str) (t : Kind) (rm : Option RouteMethod) (s : Str) (n : Node) :
    ∀ (D : Nat) (above ts : List Tok), WorldFrom W above → s = chars ts → tiR W D above n → Fit t ts n →
      InW W (above ++ ts) → StarLast s →
      (∀ r, rm = some r → (norm r.ppath).1 = above ++ ts ∧ r.pnames.length = arity (above ++ ts)) →
      arity (above ++ ts) ≤ D → (t = .any → rm ≠ none) →
      (lcp s n.pre = 0 → n = emptyTree ∧ t = .static) →
      tiR W D above (insertAt m s t rm n) ∧ (insertAt m s t rm n).kind = n.kind := by
  refine insertAt_cases m t rm (fun s n r => ∀ (D : Nat) (above ts : List Tok), WorldFrom W above → s = chars ts →
      tiR W D above n →
      Fit t ts n → InW W (above ++ ts) → StarLast s →
      (∀ r, rm = some r → (norm r.ppath).1 = above ++ ts ∧ r.pnames.length = arity (above ++ ts)) →
      arity (above ++ ts) ≤ D → (t = .any → rm ≠ none) →
      (lcp s n.pre = 0 → n = emptyTree ∧ t = .static) →
      tiR W D above r ∧ r.kind = n.kind) ?_ ?_ ?_ ?_ ?_ ?_ s n
  · -- take-over of the empty root
    intro s k p ms nf op pc st pa an h0 D above ts hW hs hti hfit hin hstar hrec hD hany hroot
    obtain ⟨hn, ht⟩ := hroot h0
    rw [hn] at hfit
    simp only [emptyTree, Node.mk.injEq] at hn
    obtain ⟨rfl, rfl, rfl, rfl, rfl, rfl, rfl, rfl, rfl⟩ := hn
    subst ht
    have hk : (if rm.isSome = true then Kind.static else Kind.static) = .static := by split <;> rfl
    rw [hk, hs]
    exact ⟨tiR_leaf (t := .static) (fit_empty hfit) hD hin hrec hany, withRec_kind ..⟩
  · -- split, the new text ends at the split point
    intro a y p' k ms nf op pc st pa an ha D above ts hW hs hti hfit hin hstar hrec hD hany hroot
    obtain ⟨ht, hk, hts⟩ := fit_split hW hti ha hfit hin (by rw [← hs]; exact List.prefix_refl a)
      (by rw [← hs]; exact not_prefix_self_app (by simp))
    subst ht hk
    rw [← hs] at hts
    subst hts
    refine ⟨tiR_withRec ?_ hrec, withRec_kind ..⟩
    refine tiR_splitNode hD hin (labelsDistinct_single _) ?_
    intro c hc
    simp only [List.mem_singleton] at hc
    subst hc
    exact ⟨rfl, by simp [Node.pre], tiR_shift hti⟩
  · -- split with a new branch
    intro a x s' y p' k ms nf op pc st pa an ha hne D above ts hW hs hti hfit hin hstar hrec hD hany hroot
    obtain ⟨ht, hk, hts⟩ := fit_split hW hti ha hfit hin (by rw [← hs]; exact List.prefix_append a _)
      (by rw [← hs]; exact not_prefix_app (fun h => hne (List.cons_prefix_cons.mp h).1.symm))
    subst ht hk
    rw [← hs] at hts
    subst hts
    have he : above ++ lits (a ++ x :: s') = above ++ lits a ++ lits (x :: s') := by simp [lits_append]
    rw [he] at hD hrec hin
    refine ⟨?_, rfl⟩
    refine tiR_splitNode (Nat.le_trans (arity_le_append _ _) hD) hin.left ?_ ?_
    · apply labelsDistinct_pair
      rw [withRec_label]
      simp only [Node.label, Node.pre, List.head?_cons, ne_eq, Option.some.injEq]
      exact fun h => hne h.symm
    · intro c hc
      simp only [List.mem_cons, List.not_mem_nil, or_false] at hc
      rcases hc with hc | hc
      · subst hc; exact ⟨rfl, by simp [Node.pre], tiR_shift hti⟩
      · subst hc
        have hleaf := tiR_leaf (W := W) (m := m) (t := .static) (tv := lits (x :: s')) ⟨_, rfl⟩ hD hin hrec hany
        rw [chars_lits] at hleaf
        exact ⟨withRec_kind .., by rw [withRec_pre]; simp, hleaf⟩
  · -- descend into a child
    intro a c s' k ms nf op pc st pa an st' pa' an' ch ha hd ih D above ts hW hs hti hfit hin hstar hrec hD hany hroot
    obtain ⟨tc, ts', rfl, rfl, rfl, hdesc, -⟩ := fit_below hW hti ha hs hfit hin
    rw [← List.append_assoc] at hin hD hrec
    obtain ⟨hch, hsel, -⟩ := desc_others hW hti hd
    obtain ⟨ih1, ih2⟩ := ih D (above ++ headToks k a) (tc :: ts') (hW.append _) rfl (tiR_child hti hd.child)
      (hdesc ch hsel) hin (starLast_drop hstar) hrec hD hany (fun h0 => absurd h0 (lcp_ne_zero_of_label hch))
    exact ⟨tiR_desc hti hd ih1 ih2 (insertAt_label ..), rfl⟩
  · -- a new child
    intro a c s' k ms nf op pc st pa an ha h1 hp hA D above ts hW hs hti hfit hin hstar hrec hD hany hroot
    obtain ⟨tc, ts', rfl, rfl, rfl, -, hnew⟩ := fit_below hW hti ha hs hfit hin
    rw [← List.append_assoc] at hin hD hrec
    obtain ⟨hl, hS, hP, hAn⟩ := (tiR_mk ..).mp hti
    have hkA : k ≠ .any := by
      intro hk
      have := (hl.kA hk).1
      subst this
      exact starLast_not hstar
    have hleaf := tiR_leaf (W := W) (m := m) (hnew (other_label_new hti h1 hp hA)) hD hin hrec hany
    rw [chars_cons] at hleaf
    cases t with
    | static =>
      rw [tiRL_iff] at hS
      refine ⟨(tiR_mk ..).mpr ⟨hl.withKids hkA ?_ ?_ hl.paK hl.anK, (tiRL_iff ..).mpr ?_, hP, hAn⟩, rfl⟩
      · apply labelsDistinct_snoc hl.distinct
        intro x hx
        rw [withRec_label]; exact h1 x hx
      · simp only [List.forall_mem_append, List.forall_mem_singleton]
        exact ⟨hl.stK, withRec_kind .., by rw [withRec_pre]; simp⟩
      · simp only [List.forall_mem_append, List.forall_mem_singleton]
        exact ⟨hS, hleaf⟩
    | param =>
      refine ⟨(tiR_mk ..).mpr ⟨hl.withKids hkA hl.distinct hl.stK ?_ hl.anK, hS, by rw [tiRO]; exact hleaf, hAn⟩, rfl⟩
      intro d hd
      rw [← Option.some.inj hd]; exact withRec_kind ..
    | any =>
      refine ⟨(tiR_mk ..).mpr ⟨hl.withKids hkA hl.distinct hl.stK hl.paK ?_, hS, hP, by rw [tiRO]; exact hleaf⟩, rfl⟩
      intro d hd
      rw [← Option.some.inj hd]; exact withRec_kind ..
  · -- the node exists
    intro k p ms nf op pc st pa an hp D above ts hW hs hti hfit hin hstar hrec hD hany hroot
    have hl := ((tiR_mk ..).mp hti).1
    have hag := agree_full hW hl hs.symm (ts' := []) (by simpa using hin)
    rw [← hag] at hrec
    exact ⟨tiR_withRec hti hrec, withRec_kind ..⟩

/-- **`insertAt` preserves the relaxed invariant** (and the kind of the node it is applied to) -/
theorem insertAt_tiR (hW : World W) (m : Str) (t : Kind) (rm : Option RouteMethod) (s : Str) (n : Node) :
    ∀ (D : Nat) (above ts : List Tok), s = chars ts → tiR W D above n → Fit t ts n → InW W (above ++ ts) →
      StarLast s →
      (∀ r, rm = some r → (norm r.ppath).1 = above ++ ts ∧ r.pnames.length = arity (above ++ ts)) →
      arity (above ++ ts) ≤ D → (t = .any → rm ≠ none) →
      (lcp s n.pre = 0 → n = emptyTree ∧ t = .static) →
      tiR W D above (insertAt m s t rm n) ∧ (insertAt m s t rm n).kind = n.kind :=
  fun D above ts => insertAt_tiR_from m t rm s n D above ts (hW.worldFrom above)

end Router.Tree.Esc
