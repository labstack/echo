import EchoProofs.Tree.Esc.Corollaries
import EchoProofs.Lit
/-!
# `okTableE`: non-vacuity and sharpness

* the documented use case of escaped colons (`/v1/res/name\:customAction` next to `/v1/res/:name`) and other
  shapes with escaped colons satisfy `okTableE` (but not `okTable`), so the `…_okE` theorems speak about them;
* the F2 tables (a literal colon and a parameter after the same token prefix) violate `escFree`, their tree
  really breaks (`tableInvariantD … = (false, false)`), and there are concrete requests on which the tree
  model dispatches to the WRONG route (`F2a`) or fails with an index out of range (`F2b`): the hypothesis
  `escFree` of `build_tableInvariantE` / `find_eq_route_okE` / `find_table_no_panic_okE` cannot be dropped.
-/
namespace Router.Tree.EscDemo
open Router Router.Spec Router.Tree

def GET : Str := ['G','E','T']

/-! ### evaluating `tableInvariantD` in the kernel (`resid` is compiled by well-founded recursion) -/

theorem residSL_eq {st : List Node} (h : ∀ c ∈ st, residS c = resid c) : residSL st = belowList st := by
  induction st with
  | nil => rw [residSL, belowList_nil]
  | cons c cs ih =>
    rw [residSL, belowList_cons, h c (by simp), ih (fun d hd => h d (by simp [hd]))]

theorem residSO_eq {o : Option Node} (h : ∀ c, o = some c → residS c = resid c) : residSO o = belowOpt o := by
  cases o with
  | none => rw [residSO, belowOpt_none]
  | some c => rw [residSO, belowOpt_some, h c rfl]

theorem residS_eq (n : Node) : residS n = resid n := by
  refine node_induct (P := fun n => residS n = resid n) ?_ n
  intro k pre ms nf op pc st pa an ihS ihP ihA
  rw [residS, resid_mk', residSL_eq ihS, residSO_eq ihP, residSO_eq ihA]
  rfl

theorem tableInvariantDS_eq (rs : List Route) : tableInvariantD rs = tableInvariantDS rs := by
  unfold tableInvariantD tableInvariantDS
  simp only [residS_eq]

/-! ### tables with escaped colons that are covered -/

/-- the documented use case: a custom action next to a parameter -/
def useCase : List Route :=
  [⟨GET, "/v1/res/name\\:customAction".toList, 1⟩, ⟨GET, "/v1/res/:name".toList, 2⟩]

theorem useCase_okE : okTableE useCase = true := by unfold useCase; lit_chars; decide +kernel

example : okTableE useCase = true := useCase_okE
example : okTable useCase = false := by unfold useCase; lit_chars; decide +kernel

theorem useCase_invariant : tableInvariantD useCase = (true, true) :=
  build_tableInvariantE useCase (List.cons_ne_nil _ _) useCase_okE

/-- the executable check agrees with the theorem -/
example : tableInvariantD useCase = (true, true) := by
  rw [tableInvariantDS_eq]; unfold useCase; lit_chars; decide +kernel

example : maxParam useCase = 1 := by unfold useCase; lit_chars; decide +kernel

/-- the literal colon is matched literally … -/
example : find (build useCase) GET "/v1/res/name:customAction".toList [[]]
    = .dispatch ⟨"/v1/res/name\\:customAction".toList, [], 1⟩ [] :=
  eq_of_isDispatch (by unfold useCase; lit_chars; decide +kernel)

/-- … and the parameter route still serves everything else -/
example : find (build useCase) GET "/v1/res/bob".toList [[]]
    = .dispatch ⟨"/v1/res/:name".toList, ["name".toList], 2⟩ ["bob".toList] :=
  eq_of_isDispatch (by unfold useCase; lit_chars; decide +kernel)

/-- further shapes: `\:` at the very end, `\:` followed by `*`, a pattern made only of `\:`, `\\:` (the first
    backslash is ordinary text), a literal colon right after a split point, a literal colon as the first byte
    of a node that a parameter route splits later, a re-registration -/
def shapes : List Route :=
  [⟨GET, "/a/\\:x".toList, 1⟩, ⟨GET, "/a/b".toList, 2⟩, ⟨GET, "/end\\:".toList, 3⟩, ⟨GET, "/w\\:*".toList, 4⟩,
   ⟨GET, "\\:".toList, 5⟩, ⟨GET, "/bs\\\\:x".toList, 6⟩, ⟨GET, "/s\\:x/:id".toList, 7⟩, ⟨GET, "/s\\:y".toList, 8⟩,
   ⟨GET, "/p/\\:ab/c".toList, 9⟩, ⟨GET, "/p/\\:ab/:q".toList, 10⟩, ⟨GET, "/a/\\:x".toList, 11⟩]

theorem shapes_okE : okTableE shapes = true := by unfold shapes; lit_chars; decide +kernel

example : okTableE shapes = true := shapes_okE
example : okTable shapes = false := by unfold shapes; lit_chars; decide +kernel
example : tableInvariantD shapes = (true, true) :=
  build_tableInvariantE shapes (List.cons_ne_nil _ _) shapes_okE
example : tableInvariantD shapes = (true, true) := by
  rw [tableInvariantDS_eq]; unfold shapes; lit_chars; decide +kernel

/-! ### F2: the hypothesis `escFree` cannot be dropped -/

/-- corpus/C01/F2a.json -/
def F2a : List Route := [⟨GET, "/x/:id".toList, 1⟩, ⟨GET, "/x/\\:/y".toList, 2⟩]
/-- corpus/C01/F2b.json (the other order) -/
def F2b : List Route := [⟨GET, "/x/\\:/y".toList, 1⟩, ⟨GET, "/x/:id".toList, 2⟩]

/-- every pattern is fine on its own … -/
example : F2a.all (fun r => okPatternE r.path) = true := by unfold F2a; lit_chars; decide +kernel
/-- … but the table has an escape conflict -/
example : escFree F2a = false := by unfold F2a; lit_chars; decide +kernel
example : escFree F2b = false := by unfold F2b; lit_chars; decide +kernel
example : okTableE F2a = false := by unfold F2a; lit_chars; decide +kernel
example : okTableE F2b = false := by unfold F2b; lit_chars; decide +kernel

/-- the tree of the F2 tables really breaks: neither the invariant nor the residual set hold -/
theorem F2a_breaks : tableInvariantD F2a = (false, false) := by
  rw [tableInvariantDS_eq]; unfold F2a; lit_chars; decide +kernel
theorem F2b_breaks : tableInvariantD F2b = (false, false) := by
  rw [tableInvariantDS_eq]; unfold F2b; lit_chars; decide +kernel
example : tableInvariantD [⟨GET, "/a/\\:x".toList, 1⟩, ⟨GET, "/a/:id".toList, 2⟩] = (false, false) := by
  rw [tableInvariantDS_eq]; lit_chars; decide +kernel
example : tableInvariantD [⟨GET, "/a/:id".toList, 1⟩, ⟨GET, "/a/\\:x".toList, 2⟩] = (false, false) := by
  rw [tableInvariantDS_eq]; lit_chars; decide +kernel

example : maxParam F2a = 1 := by unfold F2a; lit_chars; decide +kernel
example : maxParam F2b = 1 := by unfold F2b; lit_chars; decide +kernel

/-- F2a: the tree model dispatches `GET /x/abc/y` to the route with the literal colon (handler 2) … -/
theorem F2a_find : find (build F2a) GET "/x/abc/y".toList (List.replicate 1 [])
    = .dispatch ⟨"/x/\\:/y".toList, [], 2⟩ [] :=
  eq_of_isDispatch (by unfold F2a; lit_chars; decide +kernel)

/-- … whereas the reference search dispatches to `/x/:id` (handler 1) with the value `abc/y` -/
theorem F2a_route : route ((dedupLast F2a).map mkEntry) GET "/x/abc/y".toList
    = .dispatch (mkEntry ⟨GET, "/x/:id".toList, 1⟩) ["abc/y".toList] := by
  unfold F2a; lit_chars; decide +kernel

/-- so the conclusion of `find_eq_route_okE` is FALSE for the F2 table -/
theorem F2a_not_refined :
    ¬ ∃ o, OutRel (find (build F2a) GET "/x/abc/y".toList (List.replicate 1 [])) o ∧
      C02.OutEquiv o (route ((dedupLast F2a).map mkEntry) GET "/x/abc/y".toList) := by
  rintro ⟨o, ho, he⟩
  rw [F2a_find] at ho
  rw [F2a_route] at he
  obtain ⟨mm, rfl⟩ := outRel_dispatch_inv ho
  -- the two sides are dispatches now: `he.1` equates the entries, handler 2 with handler 1
  have h : (2 : Nat) = 1 := congrArg Entry.hid he.1
  exact absurd h (by decide)

def isPanic : Router.Outcome → Bool
  | .panic => true
  | _ => false

theorem eq_of_isPanic {o : Router.Outcome} (h : isPanic o = true) : o = .panic := by
  cases o <;> simp [isPanic] at h
  rfl

/-- F2b: `GET /x/:/y` fails with an index out of range in the tree model although the value slice has
    `maxParam` slots — the conclusion of `find_table_no_panic_okE` is FALSE for the F2 table -/
theorem F2b_panic : find (build F2b) GET "/x/:/y".toList (List.replicate (maxParam F2b) []) = .panic :=
  eq_of_isPanic (by unfold F2b; lit_chars; decide +kernel)

/-- the reference search serves that request from the route with the literal colon -/
theorem F2b_route : route ((dedupLast F2b).map mkEntry) GET "/x/:/y".toList
    = .dispatch (mkEntry ⟨GET, "/x/\\:/y".toList, 1⟩) [] := by
  unfold F2b; lit_chars; decide +kernel

end Router.Tree.EscDemo
