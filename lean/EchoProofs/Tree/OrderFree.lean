import EchoProofs.Tree.OK
import EchoProofs.Lit
/-!
# C02 on the tree model for every table of representable patterns (re-registrations allowed)

`tree_order_free` / `tree_order_free_wf` need tables without re-registered routes.  With `Tree/Dedup.lean`
the statement extends to every `okTable`: what matters is the table IN FORCE (`dedupLast`, the last registration
of every method + normalised pattern).
-/
namespace Router.Tree
open Router Router.Spec

/-- **C02 on the tree model, re-registrations allowed**: two registration sequences of representable patterns
    whose tables in force (last registration of every route) are permutations of one another route every
    request alike — same handler, same values, same Allow set, or 404 in both. -/
theorem tree_order_free_ok (rs rs' : List Route) (hp : (dedupLast rs).Perm (dedupLast rs')) (m path : Str) (n : Nat)
    (hn : maxParam rs ≤ n) (hn' : maxParam rs' ≤ n)
    (hok : okTable rs = true) (hok' : okTable rs' = true) :
    Observably (find (build rs) m path (List.replicate n [])) (find (build rs') m path (List.replicate n [])) :=
  (represents_ok hok).order_free (represents_ok hok') (hp.map _) hn hn'

/-- a permutation of a registration sequence without re-registered routes (the statement of
    `tree_order_free_wf`) -/
theorem tree_order_free_ok_perm (rs rs' : List Route) (hp : rs.Perm rs') (m path : Str) (n : Nat)
    (hn : maxParam rs ≤ n) (hn' : maxParam rs' ≤ n)
    (hwf : wfTable rs = true) (hwf' : wfTable rs' = true) :
    Observably (find (build rs) m path (List.replicate n [])) (find (build rs') m path (List.replicate n [])) := by
  apply tree_order_free_ok rs rs' _ m path n hn hn' (okTable_of_wf hwf) (okTable_of_wf hwf')
  rw [dedupLast_of_wf rs hwf, dedupLast_of_wf rs' hwf']
  exact hp

/-- the table in force, registered once more in the opposite order, routes like the original sequence -/
theorem tree_order_free_reverse (rs : List Route) (hok : okTable rs = true)
    (hwf : wfTable (dedupLast rs).reverse = true) (m path : Str) (n : Nat)
    (hn : maxParam rs ≤ n) (hn' : maxParam (dedupLast rs).reverse ≤ n) :
    Observably (find (build rs) m path (List.replicate n []))
      (find (build (dedupLast rs).reverse) m path (List.replicate n [])) := by
  refine tree_order_free_ok rs _ ?_ m path n hn hn' hok (okTable_of_wf hwf)
  rw [dedupLast_of_wf _ hwf]
  exact (List.reverse_perm _).symm

/-! ### non-vacuity: `demoDup` (`GET /a/:x` registered again as `GET /a/:y`) against the table in force written out -/

-- `Observably` is a `match` on the two outcomes, and elaborating an application whose type is such a `match`
-- evaluates its arguments as far as they go: the closed table stays folded, or `build demoDup` is computed here
section
attribute [local irreducible] demoDup

theorem demoDup_order_free (m path : Str) (n : Nat) (hn : maxParam demoDup ≤ n)
    (hn' : maxParam (dedupLast demoDup).reverse ≤ n) :
    Observably (find (build demoDup) m path (List.replicate n []))
      (find (build (dedupLast demoDup).reverse) m path (List.replicate n [])) :=
  tree_order_free_reverse demoDup (by unfold demoDup; lit_chars; decide +kernel)
    (by unfold demoDup; lit_chars; decide +kernel) m path n hn hn'

end

end Router.Tree
