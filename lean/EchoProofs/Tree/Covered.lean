import EchoProofs.Spec.Covered
import EchoProofs.C04ScopeReq
/-!
# Catch-all not-found routes cover their prefix (layer L3, the radix-tree model)

`find_covered`: in the tree built from any table of representable patterns (`okTable`; re-registrations
allowed), a registered `RouteNotFound` route with pattern `s*` (`s` literal text) makes `Router.Find`
dispatch every request whose path starts with `s`, and one with the literal pattern `s` the request for
exactly `s` — for every method.  It is `route_covered` (L1) transported through `represents_ok`.
-/
namespace Router.Tree
open Router Router.Spec

theorem sameKey_refl (a : Route) : sameKey a a = true := by simp [sameKey]

theorem sameKey_trans {a b c : Route} (h1 : sameKey a b = true) (h2 : sameKey b c = true) :
    sameKey a c = true := by
  simp only [sameKey, Bool.and_eq_true, beq_iff_eq] at *
  exact ⟨h1.1.trans h2.1, h1.2.trans h2.2⟩

theorem dedupLast_mono (a : Route) (rs : List Route) : ∀ r ∈ dedupLast rs, r ∈ dedupLast (a :: rs) := by
  intro r hr
  simp only [dedupLast]
  split
  · exact hr
  · exact List.mem_cons_of_mem _ hr

/-- every registered route has a registration with the same method and tokens in the table in force -/
theorem dedupLast_key : ∀ (rs : List Route) (r : Route), r ∈ rs → ∃ r' ∈ dedupLast rs, sameKey r r' = true := by
  intro rs
  induction rs with
  | nil => intro r hr; simp at hr
  | cons a rs ih =>
    intro r hr
    rcases List.mem_cons.mp hr with rfl | hr
    · by_cases hany : rs.any (sameKey r) = true
      · obtain ⟨b, hb, hs⟩ := List.any_eq_true.mp hany
        obtain ⟨r', hr', hs'⟩ := ih b hb
        exact ⟨r', dedupLast_mono r rs r' hr', sameKey_trans hs hs'⟩
      · exact ⟨r, by simp [dedupLast, hany], sameKey_refl r⟩
    · obtain ⟨r', hr', hs⟩ := ih r hr
      exact ⟨r', dedupLast_mono a rs r' hr', hs⟩

/-! ### the tokens of a literal pattern and of a literal pattern followed by `*` -/

theorem norm_plain_star {p s : Str} (hs : C04.Plain s) (h : normalizeSlash p = s ++ ['*']) :
    (norm p).1 = s.map Tok.lit ++ [.any] := by
  unfold norm
  simp only
  rw [h, C04.normAux_plain s ['*'] hs _ (by simp; omega)]
  have : (s ++ ['*']).length + 1 - s.length = 2 := by simp; omega
  rw [this]
  simp [normAux, lits]

theorem norm_plain {p s : Str} (hs : C04.Plain s) (h : normalizeSlash p = s) :
    (norm p).1 = s.map Tok.lit := by
  unfold norm
  simp only
  rw [h]
  have := C04.normAux_plain s [] hs (s.length + 1) (by omega)
  rw [List.append_nil] at this
  rw [this]
  have h2 : s.length + 1 - s.length = 1 := by omega
  rw [h2]
  simp [normAux, lits]

/-- **catch-all not-found routes cover their prefix, on the tree model** -/
theorem find_covered (rs : List Route) (hok : okTable rs = true) (r : Route) (hr : r ∈ rs)
    (hm : r.method = routeNotFound) (s path : Str) (hs : C04.Plain s)
    (h : (normalizeSlash r.path = s ++ ['*'] ∧ s <+: path) ∨ (normalizeSlash r.path = s ∧ path = s))
    (m : Str) (n : Nat) (hn : maxParam rs ≤ n) :
    ∃ rm vals, find (build rs) m path (List.replicate n []) = .dispatch rm vals := by
  obtain ⟨r', hr', hkey⟩ := dedupLast_key rs r hr
  simp only [sameKey, Bool.and_eq_true, beq_iff_eq] at hkey
  have hmem : mkEntry r' ∈ (dedupLast rs).map mkEntry := List.mem_map.mpr ⟨r', hr', rfl⟩
  have hal : ∀ e ∈ (dedupLast rs).map mkEntry, anyLast e.toks = true := by
    intro e he
    obtain ⟨a, _, rfl⟩ := List.mem_map.mp he
    exact normAux_anyLast _ _
  have htoks : (mkEntry r').toks = (norm r.path).1 := hkey.2.symm
  have hcov : ((mkEntry r').toks = s.map Tok.lit ++ [.any] ∧ s <+: path)
      ∨ ((mkEntry r').toks = s.map Tok.lit ∧ path = s) := by
    rcases h with ⟨h1, h2⟩ | ⟨h1, h2⟩
    · exact Or.inl ⟨by rw [htoks]; exact norm_plain_star hs h1, h2⟩
    · exact Or.inr ⟨by rw [htoks]; exact norm_plain hs h1, h2⟩
  obtain ⟨e', vals, hroute⟩ := route_covered _ hal (mkEntry r') hmem
    (hkey.1.symm.trans hm) s path hcov m
  obtain ⟨rm, _, hf, _⟩ := (represents_ok hok).dispatch_of_route hn hroute
  exact ⟨rm, vals, hf⟩

end Router.Tree
