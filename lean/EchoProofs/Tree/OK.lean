import EchoProofs.Tree.Dedup
import EchoProofs.Tree.WF2
/-!
# Router corollaries for every table of representable patterns, re-registrations included

By `build_tableInvariantD` (`Dedup.lean`) the tree of a table whose patterns are representable (`okTable`: no
escaped colon, no text after `*`) represents the table *in force* (`dedupLast rs`: a re-registered route
replaces its earlier registration): `represents_ok` (`Dedup.lean`).  This file instantiates the C03 and C05
statements about trees that represent an entry list with it.  (C02's order-freeness is, by its nature, about tables
without re-registrations: with a re-registration the order decides which handler is in force.)
-/
namespace Router.Tree
open Router Router.Spec

theorem mem_dedup_entries {rs : List Route} {e : Entry} (h : e ∈ (dedupLast rs).map mkEntry) :
    e ∈ rs.map mkEntry := by
  obtain ⟨r, hr, rfl⟩ := List.mem_map.mp h
  exact List.mem_map.mpr ⟨r, dedupLast_subset rs r hr, rfl⟩

/-- **C03 on the tree model**: every advertised method is really served — by the registration in force -/
theorem tree_allow_truthful_ok (rs : List Route) (m path : Str) (n : Nat) (hn : maxParam rs ≤ n)
    (hok : okTable rs = true) (p : Str) (allow : List Str)
    (h : find (build rs) m path (List.replicate n []) = .methodNotAllowed p allow)
    (m' : Str) (hm' : m' ∈ allow) (hopt : m' ≠ methodOptions) :
    ∃ rm vals, find (build rs) m' path (List.replicate n []) = .dispatch rm vals ∧
      ∃ e, e ∈ (dedupLast rs).map mkEntry ∧ e.method = m' ∧ e.hid = rm.hid :=
  (represents_ok hok).allow_truthful hn h hm' hopt

/-- **C03 on the tree model**: a path no registered pattern can be instantiated to gets 404 -/
theorem tree_404_ok (rs : List Route) (m path : Str) (n : Nat) (hn : maxParam rs ≤ n)
    (hok : okTable rs = true)
    (hno : ∀ e ∈ rs.map mkEntry, ∀ w, inst e.toks w ≠ some path) :
    ∃ p, find (build rs) m path (List.replicate n []) = .notFound p :=
  (represents_ok hok).notFound hn fun e he => hno e (mem_dedup_entries he)

/-- a dispatched record is a registration in force whose pattern matches the path -/
theorem tree_dispatch_registered (rs : List Route) (m path : Str) (n : Nat) (hn : maxParam rs ≤ n)
    (hok : okTable rs = true) (rm : RouteMethod) (vals : List Str)
    (h : find (build rs) m path (List.replicate n []) = .dispatch rm vals) :
    ∃ r ∈ dedupLast rs, r.hid = rm.hid ∧ normalizeSlash r.path = rm.ppath
      ∧ ∃ w, inst (norm r.path).1 w = some path :=
  (represents_ok hok).dispatch_registered hn h

/-- **C05_isolated on the tree model**, for every table of representable patterns -/
theorem C05_isolated_tree_ok (rs : List Route) (hok : okTable rs = true)
    (dirty : C05.Ctx) (r : C05.Request) :
    (C05.serveWith (C05.routerOf rs) (maxParam rs) (some dirty) r).1 =
      (C05.serveWith (C05.routerOf rs) (maxParam rs) none r).1 :=
  C05.C05_isolated _ _ (tree_length_irrelevant_ok rs hok) (C05.routerOf_valuesPerName rs) dirty r

theorem C05_no_fail_after_registration_tree_ok (rs : List Route) (hok : okTable rs = true)
    (pooled : Option C05.Ctx) (r : C05.Request) :
    (C05.serveWith (C05.routerOf rs) (maxParam rs) pooled r).1.kind ≠ 3 :=
  C05.C05_no_fail_after_registration _ _ (tree_no_panic_ok rs hok) pooled r

theorem C05_history_isolated_tree_ok :
    ∀ (steps : List C05.Step) (w : C05.World),
      TablesOk (fun routes => okTable routes = true) w.routes steps →
      C05.runSteps w steps = C05.expected w.routes steps :=
  history_isolated tree_length_irrelevant_ok

theorem okTable_prefix (rs ext : List Route) (h : okTable (rs ++ ext) = true) : okTable rs = true := by
  simp only [okTable, List.all_append, Bool.and_eq_true] at h
  exact h.1

/-- **C05_history_isolated**, most general form: if every pattern the application ever registers is
    representable (no escaped colon, no text after `*`) — routes may be registered again and again, at any
    point of the history — then from any pool content every request observes exactly what it would observe
    alone on a fresh instance with the routes registered so far. -/
theorem C05_history_isolated_tree_patterns (steps : List C05.Step) (w : C05.World)
    (h : okTable (w.routes ++ regsOf steps) = true) :
    C05.runSteps w steps = C05.expected w.routes steps :=
  C05_history_isolated_tree_ok steps w (tablesOk_of_prefix okTable_prefix steps w.routes h)

end Router.Tree
