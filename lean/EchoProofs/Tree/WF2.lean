import EchoProofs.Tree.WF
import EchoProofs.Tree.Frame
/-!
# The remaining router corollaries for every well-formed table

`Corollaries.lean` / `Frame.lean` state C02 (order-freeness), C03 (truthful Allow, 404) and C05 (length
irrelevance, isolation under recycling) for every tree that represents an entry list.  With `represents_wf`
the tree of a well-formed table does, so the statements below carry `wfTable` only — a decidable condition
on the *table* (no escaped colon, no text after `*`, no route registered twice), not on the tree.
-/
namespace Router.Tree
open Router Router.Spec

/-- **C02 on the tree model**, for well-formed tables: the outcome does not depend on the registration order -/
theorem tree_order_free_wf (rs rs' : List Route) (hp : rs.Perm rs') (m path : Str) (n : Nat)
    (hn : maxParam rs ≤ n) (hn' : maxParam rs' ≤ n)
    (hwf : wfTable rs = true) (hwf' : wfTable rs' = true) :
    Observably (find (build rs) m path (List.replicate n [])) (find (build rs') m path (List.replicate n [])) :=
  (represents_wf hwf).order_free (represents_wf hwf') (hp.map _) hn hn'

/-- **C03 on the tree model**, for well-formed tables: every advertised method is really served -/
theorem tree_allow_truthful_wf (rs : List Route) (m path : Str) (n : Nat) (hn : maxParam rs ≤ n)
    (hwf : wfTable rs = true) (p : Str) (allow : List Str)
    (h : find (build rs) m path (List.replicate n []) = .methodNotAllowed p allow)
    (m' : Str) (hm' : m' ∈ allow) (hopt : m' ≠ methodOptions) :
    ∃ rm vals, find (build rs) m' path (List.replicate n []) = .dispatch rm vals ∧
      ∃ e, e ∈ rs.map mkEntry ∧ e.method = m' ∧ e.hid = rm.hid :=
  (represents_wf hwf).allow_truthful hn h hm' hopt

/-- **C03 on the tree model**, for well-formed tables: a path no pattern can be instantiated to gets 404 -/
theorem tree_404_wf (rs : List Route) (m path : Str) (n : Nat) (hn : maxParam rs ≤ n)
    (hwf : wfTable rs = true)
    (hno : ∀ e ∈ rs.map mkEntry, ∀ w, inst e.toks w ≠ some path) :
    ∃ p, find (build rs) m path (List.replicate n []) = .notFound p :=
  (represents_wf hwf).notFound hn hno

/-- **C05**: routing does not depend on the number of spare value slots, for well-formed tables -/
theorem tree_length_irrelevant_wf (rs : List Route) (hwf : wfTable rs = true) :
    C05.LengthIrrelevant (C05.routerOf rs) (maxParam rs) :=
  (represents_wf hwf).lengthIrrelevant

/-- **C05_isolated on the tree model**, for well-formed tables -/
theorem C05_isolated_tree_wf (rs : List Route) (hwf : wfTable rs = true)
    (dirty : C05.Ctx) (r : C05.Request) :
    (C05.serveWith (C05.routerOf rs) (maxParam rs) (some dirty) r).1 =
      (C05.serveWith (C05.routerOf rs) (maxParam rs) none r).1 :=
  C05.C05_isolated _ _ (tree_length_irrelevant_wf rs hwf) (C05.routerOf_valuesPerName rs) dirty r

theorem C05_no_fail_after_registration_tree_wf (rs : List Route) (hwf : wfTable rs = true)
    (pooled : Option C05.Ctx) (r : C05.Request) :
    (C05.serveWith (C05.routerOf rs) (maxParam rs) pooled r).1.kind ≠ 3 :=
  C05.C05_no_fail_after_registration _ _ (tree_no_panic_wf rs hwf) pooled r

/-- **C05_history_isolated on the tree model**: for every history of requests (handlers that dirty
    everything, panic or fail) interleaved with registrations, starting from any world (any pool content),
    in which the table in force at each request is well formed: every request observes exactly what it
    would observe alone on a fresh instance with the routes registered so far. -/
theorem C05_history_isolated_tree_wf :
    ∀ (steps : List C05.Step) (w : C05.World),
      TablesOk (fun routes => wfTable routes = true) w.routes steps →
      C05.runSteps w steps = C05.expected w.routes steps :=
  history_isolated tree_length_irrelevant_wf

/-- well-formedness of the final table implies it for every table in force during the history when only
    registrations of new, distinct routes happen: a prefix of a well-formed table is well formed -/
theorem wfTable_prefix (rs ext : List Route) (h : wfTable (rs ++ ext) = true) : wfTable rs = true := by
  simp only [wfTable, Bool.and_eq_true, List.all_append, List.map_append, initial] at h ⊢
  refine ⟨h.1.1, ?_⟩
  have hu := h.2
  clear h
  generalize rs.map mkEntry = es at hu ⊢
  generalize ext.map mkEntry = es' at hu
  induction es with
  | nil => rfl
  | cons e es ih =>
    simp only [List.cons_append, List.map_cons, uniqB, Bool.and_eq_true, List.all_append] at hu ⊢
    exact ⟨hu.1.1, ih hu.2⟩

/-- the routes a history registers, in order -/
def regsOf : List C05.Step → List Route
  | [] => []
  | .register rt :: ss => rt :: regsOf ss
  | .request _ :: ss => regsOf ss
  | .borrow _ _ :: ss => regsOf ss

/-- a property of tables that passes to prefixes holds of every table in force during a history if it holds of
    the table the history ends with -/
theorem tablesOk_of_prefix {P : List Route → Prop} (hP : ∀ rs ext, P (rs ++ ext) → P rs) :
    ∀ (steps : List C05.Step) (routes : List Route), P (routes ++ regsOf steps) → TablesOk P routes steps := by
  intro steps
  induction steps with
  | nil => intro _ _; trivial
  | cons s ss ih =>
    intro routes h
    cases s with
    | register rt =>
      simp only [TablesOk]
      apply ih
      simpa [regsOf, List.append_assoc] using h
    | borrow id prog => exact ih routes h
    | request r => exact ⟨hP _ _ h, ih routes h⟩

/-- **C05_history_isolated**, final form: if the table the application ends up with is well formed
    (no escaped colon, no text after `*`, no route registered twice), then in every history of requests
    and registrations leading to it, from any pool content, every request observes exactly what it would
    observe alone on a fresh instance with the routes registered so far. -/
theorem C05_history_isolated_tree_final (steps : List C05.Step) (w : C05.World)
    (h : wfTable (w.routes ++ regsOf steps) = true) :
    C05.runSteps w steps = C05.expected w.routes steps :=
  C05_history_isolated_tree_wf steps w (tablesOk_of_prefix wfTable_prefix steps w.routes h)

end Router.Tree
