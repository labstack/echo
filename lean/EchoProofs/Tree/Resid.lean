import EchoModel.Router
import EchoModel.RouterSpec
import EchoModel.RouterInv
import EchoProofs.Spec.Irrelevant
/-!
# The residual set represented by a radix tree (towards the L3 → L1 refinement)

`below n` lists, for every route record stored in the subtree of `n`, the tokens that lead
from `n` (after its own prefix) to the record; `residFrom s n` prepends the literal tokens of
a remaining piece `s` of `n`'s prefix.  The lemmas say how the operations of the reference
search (`deriv`, `ends`) act on these sets: following a compressed edge byte by byte is
`deriv (.lit c)`, the children are reached by the derivative of their first token.
-/
namespace Router.Tree
open Router Router.Spec

theorem prepend_nil (r : R) : prepend [] r = r := by
  unfold prepend
  induction r with
  | nil => rfl
  | cons x xs ih => simp

theorem residFrom_nil (n : Node) : residFrom [] n = below n := by
  simp [residFrom, lits, prepend_nil]

theorem deriv_prepend_cons_same (t : Tok) (ts : List Tok) (r : R) :
    deriv t (prepend (t :: ts) r) = prepend ts r := by
  unfold deriv prepend
  induction r with
  | nil => rfl
  | cons x xs ih =>
    simp only [List.map_cons, List.filterMap_cons, List.cons_append, if_true]
    congr 1

theorem deriv_prepend_cons_ne (t t' : Tok) (ts : List Tok) (r : R) (h : t' ≠ t) :
    deriv t (prepend (t' :: ts) r) = [] := by
  unfold deriv prepend
  induction r with
  | nil => rfl
  | cons x xs ih =>
    simp only [List.map_cons, List.filterMap_cons, List.cons_append, h, if_false]
    exact ih

theorem ends_prepend_cons (t : Tok) (ts : List Tok) (r : R) : ends (prepend (t :: ts) r) = [] := by
  unfold ends prepend
  induction r with
  | nil => rfl
  | cons x xs ih =>
    simp only [List.map_cons, List.filterMap_cons, List.cons_append, List.isEmpty_cons,
      Bool.false_eq_true, if_false]
    exact ih

theorem deriv_append (t : Tok) (a b : R) : deriv t (a ++ b) = deriv t a ++ deriv t b := by
  simp [deriv, List.filterMap_append]

theorem ends_append (a b : R) : ends (a ++ b) = ends a ++ ends b := by
  simp [ends, List.filterMap_append]

theorem deriv_own (t : Tok) (es : List Entry) : deriv t (es.map fun e => ([], e)) = [] := by
  unfold deriv
  induction es with
  | nil => rfl
  | cons e es ih =>
    simp only [List.map_cons, List.filterMap_cons]
    exact ih

theorem ends_own (es : List Entry) : ends (es.map fun e => ([], e)) = es := by
  unfold ends
  induction es with
  | nil => rfl
  | cons e es ih =>
    simp only [List.map_cons, List.filterMap_cons, List.isEmpty_nil, if_true]
    rw [ih]

theorem deriv_residFrom_same (c : Char) (s : Str) (n : Node) :
    deriv (.lit c) (residFrom (c :: s) n) = residFrom s n := by
  simp [residFrom, lits, deriv_prepend_cons_same]

theorem deriv_residFrom_ne (t : Tok) (c : Char) (s : Str) (n : Node) (h : Tok.lit c ≠ t) :
    deriv t (residFrom (c :: s) n) = [] :=
  deriv_prepend_cons_ne _ _ _ _ h

theorem ends_residFrom_cons (c : Char) (s : Str) (n : Node) : ends (residFrom (c :: s) n) = [] := by
  simp only [residFrom, lits, List.map_cons]
  exact ends_prepend_cons _ _ _

theorem orElse_miss_right (x : Spec.Res × Spec.Best) : orElse x (fun b => (Spec.Res.miss, b)) = x := by
  obtain ⟨res, b⟩ := x
  cases res <;> rfl

/-- the emptiness test of `litStep` is a shortcut: the search on the empty set misses anyway -/
theorem search_unless_empty (m : Str) (fuel : Nat) (r : R) (path : Str) (vals : List Str) (best : Spec.Best) :
    (if r.isEmpty then (Spec.Res.miss, best) else search m fuel r path vals best) = search m fuel r path vals best := by
  cases r with
  | nil => exact (search_empty m fuel path vals best).symm
  | cons _ _ => rfl

/-- inside a compressed edge nothing ends and no parameter or wildcard starts: one step of the search
    reads the next byte of the edge -/
theorem search_residFrom_cons (m : Str) (c : Char) (s : Str) (n : Node) (fuel : Nat) (path : Str)
    (vals : List Str) (best : Spec.Best) :
    search m (fuel + 1) (residFrom (c :: s) n) path vals best =
      match path with
      | d :: rest => if d = c then search m fuel (residFrom s n) rest vals best else (Spec.Res.miss, best)
      | [] => (Spec.Res.miss, best) := by
  have hend : stepEnd m [] path best = (none, best) := by
    simp only [stepEnd, isHandler, List.any_nil, findNF, List.find?_nil, Bool.false_eq_true, if_false, ite_self]
  simp only [search, ends_residFrom_cons, hend, paramStep, anyStep, deriv_residFrom_ne .param c s n Tok.noConfusion,
    deriv_residFrom_ne .any c s n Tok.noConfusion, List.isEmpty_nil, or_true, if_true, orElse_miss_right]
  cases path with
  | nil => rfl
  | cons d rest =>
    by_cases hdc : d = c
    · subst hdc
      simp only [litStep, deriv_residFrom_same, if_true, search_unless_empty]
    · simp only [litStep, deriv_residFrom_ne _ c s n fun h => hdc (Tok.lit.inj h).symm, List.isEmpty_nil, if_true,
        if_neg hdc]

/-- **edge lemma**: reading a compressed edge.  With enough fuel, the search on
    `residFrom s n` consumes `s` from the path byte by byte and then continues on `below n`;
    if the path does not start with `s` it fails without touching `best`. -/
theorem search_residFrom (m : Str) (n : Node) : ∀ (s : Str) (fuel : Nat) (path : Str) (vals : List Str) (best : Spec.Best),
    search m (fuel + s.length) (residFrom s n) path vals best =
      if s.isPrefixOf path then search m fuel (below n) (path.drop s.length) vals best else (Spec.Res.miss, best)
  | [], fuel, path, vals, best => by simp [residFrom_nil]
  | c :: s, fuel, path, vals, best => by
    rw [List.length_cons, ← Nat.add_assoc, search_residFrom_cons]
    cases path with
    | nil => rfl
    | cons d rest =>
      by_cases hdc : d = c
      · subst hdc
        simp only [if_true, search_residFrom m n s, List.isPrefixOf, beq_self_eq_true, Bool.true_and,
          List.drop_succ_cons]
      · have hcd : (c == d) = false := beq_false_of_ne fun h => hdc h.symm
        simp only [if_neg hdc, List.isPrefixOf, hcd, Bool.false_and, Bool.false_eq_true, if_false]

/-- the same with the failure written as the two fuel cases of `search` -/
theorem search_edge (m : Str) (n : Node) : ∀ (s : Str) (fuel : Nat) (path : Str) (vals : List Str) (best : Spec.Best),
    search m (fuel + s.length) (residFrom s n) path vals best =
      if s.isPrefixOf path then search m fuel (below n) (path.drop s.length) vals best
      else if fuel + s.length = 0 then (Spec.Res.miss, best) else (Spec.Res.miss, best) := by
  intro s fuel path vals best
  rw [ite_self]
  exact search_residFrom m n s fuel path vals best

end Router.Tree
