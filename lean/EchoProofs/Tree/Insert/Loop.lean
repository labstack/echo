import EchoProofs.Tree.Insert.Resid
import EchoProofs.Tree.Insert.Text
/-!
# The scan loop of `Router.insert`: its equations, the invariant of the tree inside the loop
-/
namespace Router.Tree
open Router Router.Spec

theorem insertLoop_nil (m p : Str) (h f : Nat) (t : Node) (done : Str) (pn : List Str) :
    insertLoop m p h f t done [] pn = (t, done, pn) := by
  cases f <;> rfl

theorem insertLoop_colon (m p : Str) (h f : Nat) (t : Node) (done : Str) (rest : Str) (pn : List Str) :
    insertLoop m p h (f + 1) t done (':' :: rest) pn =
    match rest.dropWhile (· ≠ '/') with
    | [] => (insertAt m (done ++ [':']) .param (some ⟨p, pn ++ [rest.takeWhile (· ≠ '/')], h⟩)
              (insertAt m done .static none t), done ++ [':'], pn ++ [rest.takeWhile (· ≠ '/')])
    | d :: r => insertLoop m p h f (insertAt m (done ++ [':']) .param none (insertAt m done .static none t))
              (done ++ [':', d]) r (pn ++ [rest.takeWhile (· ≠ '/')]) := by
  rw [insertLoop]
  have h1 : ¬ (':' = '\\' ∧ rest.head? = some ':') := by simp
  rw [if_neg h1, if_pos rfl]
  cases hd : rest.dropWhile (· ≠ '/') with
  | nil => simp
  | cons d r => simp

theorem insertLoop_star (m p : Str) (h f : Nat) (t : Node) (done : Str) (rest : Str) (pn : List Str) :
    insertLoop m p h (f + 1) t done ('*' :: rest) pn =
    insertLoop m p h f (insertAt m (done ++ ['*']) .any (some ⟨p, pn ++ ["*".toList], h⟩)
      (insertAt m done .static none t)) (done ++ ['*']) rest (pn ++ ["*".toList]) := by
  rw [insertLoop]
  have h1 : ¬ ('*' = '\\' ∧ rest.head? = some ':') := by simp
  have h2 : ¬ ('*' = ':') := by simp
  rw [if_neg h1, if_neg h2, if_pos rfl]

theorem insertLoop_lit (m p : Str) (h f : Nat) (t : Node) (done : Str) (c : Char) (rest : Str) (pn : List Str)
    (h1 : ¬ (c = '\\' ∧ rest.head? = some ':')) (h2 : c ≠ ':') (h3 : c ≠ '*') :
    insertLoop m p h (f + 1) t done (c :: rest) pn = insertLoop m p h f t (done ++ [c]) rest pn := by
  rw [insertLoop, if_neg h1, if_neg h2, if_neg h3]

/-- the tree between two registrations -/
structure Top (D : Nat) (t : Node) : Prop where
  inv : tiR D [] t
  kind : t.kind = .static
  root : t = emptyTree ∨ t.label = some '/'

/-- the tree inside the scan loop: `done` is the text scanned so far -/
structure TreeSt (D : Nat) (m : Str) (toks : List Tok) (R0 : R) (t : Node) (done : Str) : Prop where
  top : Top D t
  fit : ∃ u v, done = u ++ v ∧ Clean v ∧ (u = [] ∨ u ∈ bounds t)
  dead : ∀ x ∈ deads t, x <+: done
  res : ((resid t).filter (keep toks m)).Perm (R0.filter (keep toks m))

theorem lcp_ne_zero_of_heads {s p : Str} {c : Char} (hs : s.head? = some c) (hp : p.head? = some c) :
    lcp s p ≠ 0 := by
  cases s with
  | nil => simp at hs
  | cons a s =>
    cases p with
    | nil => simp at hp
    | cons b p =>
      simp only [List.head?_cons, Option.some.injEq] at hs hp
      simp [lcp, hs, hp]

theorem emptyTree_fields : emptyTree.statics = [] ∧ emptyTree.param = none ∧ emptyTree.any = none :=
  ⟨rfl, rfl, rfl⟩

theorem keep_self (toks : List Tok) (m : Str) (r : RouteMethod) : keep toks m (toks, entryOf m r) = false := by
  simp [keep, entryOf]

/-- filtering away the key of the record just written forgets that record -/
theorem filter_expected {m : Str} {r : RouteMethod} {toks : List Tok} {X Y : R}
    (h : X.Perm (expected m (some r) toks Y)) : (X.filter (keep toks m)).Perm (Y.filter (keep toks m)) := by
  have := h.filter (keep toks m)
  simp only [expected, List.filter_cons, keep_self, Bool.false_eq_true, if_false, List.filter_filter,
    Bool.and_self] at this
  exact this

theorem mem_append_singleton_ne {c d : Char} {s : Str} (hs : c ∉ s) (hd : c ≠ d) : c ∉ s ++ [d] := by
  simp only [List.mem_append, List.mem_singleton, not_or]
  exact ⟨hs, hd⟩

theorem starLast_of_not_mem {s : Str} (h : '*' ∉ s) : StarLast s := by
  intro a b hs
  exfalso; apply h; rw [hs]; simp

theorem starLast_snoc {s : Str} {c : Char} (h : '*' ∉ s) : StarLast (s ++ [c]) := by
  intro a b hs
  cases b with
  | nil => rfl
  | cons x xs =>
    exfalso
    apply h
    have h1 : s ++ [c] = (a ++ '*' :: (x :: xs).dropLast) ++ [(x :: xs).getLast (by simp)] := by
      rw [hs, List.append_assoc, List.cons_append, List.dropLast_concat_getLast]
    have h2 := List.append_inj_left' h1 rfl
    rw [h2]; simp

end Router.Tree
