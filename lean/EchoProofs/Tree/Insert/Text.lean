import EchoProofs.Tree.Insert.Basic
/-!
# The normalisation of the specification (`normAux`, `okPatternAux`): fuel beyond the length of the text does not matter (`NA`, `OK`)
-/
namespace Router.Tree
open Router Router.Spec

theorem normAux_cons (f : Nat) (c : Char) (rest : Str) :
    normAux (f + 1) (c :: rest) =
      if c = '\\' ∧ rest.head? = some ':' then (.lit ':' :: (normAux f rest.tail).1, (normAux f rest.tail).2)
      else if c = ':' then
        (.param :: (normAux f (rest.dropWhile (· ≠ '/'))).1,
         rest.takeWhile (· ≠ '/') :: (normAux f (rest.dropWhile (· ≠ '/'))).2)
      else if c = '*' then ([.any], ["*".toList])
      else (.lit c :: (normAux f rest).1, (normAux f rest).2) := by
  simp only [normAux]

theorem dropWhile_length_le (p : Char → Bool) (s : Str) : (s.dropWhile p).length ≤ s.length :=
  (List.dropWhile_suffix p).length_le

/-- a scan that spends one unit of fuel per step and continues on texts no longer than the rest does not depend
    on its fuel, once this exceeds the length of the text -/
theorem fuel_irrelevant {α : Type} (F : Nat → Str → α) (hnil : ∀ f f', F (f + 1) [] = F (f' + 1) [])
    (hcons : ∀ f f' c rest, (∀ s : Str, s.length ≤ rest.length → F f s = F f' s) →
      F (f + 1) (c :: rest) = F (f' + 1) (c :: rest)) :
    ∀ (f f' : Nat) (s : Str), s.length < f → s.length < f' → F f s = F f' s := by
  intro f
  induction f with
  | zero => intro f' s h; omega
  | succ f ih =>
    intro f' s h h'
    obtain ⟨g, rfl⟩ : ∃ g, f' = g + 1 := ⟨f' - 1, by omega⟩
    cases s with
    | nil => exact hnil f g
    | cons c rest =>
      simp only [List.length_cons] at h h'
      exact hcons f g c rest fun s hs => ih g s (by omega) (by omega)

theorem normAux_fuel : ∀ (f f' : Nat) (s : Str), s.length < f → s.length < f' → normAux f s = normAux f' s := by
  refine fuel_irrelevant normAux (fun f f' => by simp [normAux]) fun f f' c rest h => ?_
  rw [normAux_cons, normAux_cons, h rest.tail (by simp), h _ (dropWhile_length_le _ rest), h rest (Nat.le_refl _)]

theorem okPatternAux_cons (f : Nat) (c : Char) (rest : Str) :
    okPatternAux (f + 1) (c :: rest) =
      if c = '\\' ∧ rest.head? = some ':' then false
      else if c = ':' then okPatternAux f (rest.dropWhile (· ≠ '/'))
      else if c = '*' then rest.isEmpty
      else okPatternAux f rest := by
  simp only [okPatternAux]

theorem okPatternAux_fuel : ∀ (f f' : Nat) (s : Str), s.length < f → s.length < f' →
    okPatternAux f s = okPatternAux f' s := by
  refine fuel_irrelevant okPatternAux (fun f f' => by simp [okPatternAux]) fun f f' c rest h => ?_
  rw [okPatternAux_cons, okPatternAux_cons, h _ (dropWhile_length_le _ rest), h rest (Nat.le_refl _)]

/-- `normAux` / `okPatternAux` with just enough fuel -/
def NA (s : Str) : List Tok × List Str := normAux (s.length + 1) s
def OK (s : Str) : Bool := okPatternAux (s.length + 1) s

theorem normAux_NA {f : Nat} {s : Str} (h : s.length < f) : normAux f s = NA s :=
  normAux_fuel f _ s h (Nat.lt_succ_self _)

theorem okPatternAux_OK {f : Nat} {s : Str} (h : s.length < f) : okPatternAux f s = OK s :=
  okPatternAux_fuel f _ s h (Nat.lt_succ_self _)

theorem NA_nil : NA [] = ([], []) := by simp [NA, normAux]

theorem NA_cons (c : Char) (rest : Str) :
    NA (c :: rest) =
      if c = '\\' ∧ rest.head? = some ':' then (.lit ':' :: (NA rest.tail).1, (NA rest.tail).2)
      else if c = ':' then
        (.param :: (NA (rest.dropWhile (· ≠ '/'))).1,
         rest.takeWhile (· ≠ '/') :: (NA (rest.dropWhile (· ≠ '/'))).2)
      else if c = '*' then ([.any], ["*".toList])
      else (.lit c :: (NA rest).1, (NA rest).2) := by
  show normAux (rest.length + 1 + 1) (c :: rest) = _
  rw [normAux_cons, normAux_NA (Nat.lt_succ_of_le (dropWhile_length_le _ rest)), normAux_NA (Nat.lt_succ_self _),
    normAux_NA (s := rest.tail) (by rw [List.length_tail]; omega)]

theorem OK_cons (c : Char) (rest : Str) :
    OK (c :: rest) =
      if c = '\\' ∧ rest.head? = some ':' then false
      else if c = ':' then OK (rest.dropWhile (· ≠ '/'))
      else if c = '*' then rest.isEmpty
      else OK rest := by
  show okPatternAux (rest.length + 1 + 1) (c :: rest) = _
  rw [okPatternAux_cons, okPatternAux_OK (Nat.lt_succ_of_le (dropWhile_length_le _ rest)),
    okPatternAux_OK (Nat.lt_succ_self _)]

/-- one parameter name per marker -/
theorem normAux_names : ∀ (f : Nat) (s : Str), (normAux f s).2.length = arity (normAux f s).1 :=
  normAux_induction (P := fun _ _ ts ns => ns.length = arity ts) (fun _ _ _ => rfl) (fun _ _ _ _ ih => ih)
    (fun _ _ ih => congrArg (· + 1) ih) (fun _ _ => rfl) (fun _ _ _ _ _ _ _ _ ih => ih)

theorem normalizeSlash_idem (p : Str) : normalizeSlash (normalizeSlash p) = normalizeSlash p := by
  unfold normalizeSlash
  cases p with
  | nil => simp
  | cons c r =>
    by_cases h : c = '/'
    · simp [h]
    · simp [h]

theorem normalizeSlash_head (p : Str) : ∃ r, normalizeSlash p = '/' :: r := by
  unfold normalizeSlash
  cases p with
  | nil => exact ⟨[], rfl⟩
  | cons c r =>
    by_cases h : c = '/'
    · exact ⟨r, by simp [h]⟩
    · exact ⟨c :: r, by simp [h]⟩

theorem norm_eq_NA (p : Str) : norm p = NA (normalizeSlash p) := rfl

theorem norm_normalizeSlash (p : Str) : norm (normalizeSlash p) = norm p := by
  unfold norm; rw [normalizeSlash_idem]

theorem okPattern_eq_OK (p : Str) : okPattern p = OK (normalizeSlash p) := rfl

theorem dropWhile_head (s : Str) (d : Char) (r : Str) (h : s.dropWhile (· ≠ '/') = d :: r) : d = '/' := by
  induction s with
  | nil => simp at h
  | cons c s ih =>
    simp only [List.dropWhile_cons] at h
    split at h
    · exact ih h
    · rename_i hc
      simp only [List.cons.injEq] at h
      rw [← h.1]
      simpa using hc

end Router.Tree
