import EchoProofs.Tree.Insert.Defs
/-!
# Insertion into the radix tree: basic facts about tree text, labels and prefixes
-/
namespace Router.Tree
open Router Router.Spec

/-! ### tree text -/

theorem tokOf_colon : tokOf ':' = .param := by simp [tokOf]
theorem tokOf_star : tokOf '*' = .any := by simp [tokOf]
theorem tokOf_lit {c : Char} (h1 : c ≠ ':') (h2 : c ≠ '*') : tokOf c = .lit c := by simp [tokOf, h1, h2]

theorem tokOf_inj {a b : Char} (h : tokOf a = tokOf b) : a = b := by
  unfold tokOf at h
  by_cases ha : a = ':'
  · by_cases hb : b = ':'
    · rw [ha, hb]
    · by_cases hb' : b = '*' <;> simp [ha, hb, hb'] at h
  · by_cases ha' : a = '*'
    · by_cases hb : b = ':'
      · simp [ha', hb] at h
      · by_cases hb' : b = '*'
        · rw [ha', hb']
        · simp [ha', hb, hb'] at h
    · by_cases hb : b = ':'
      · simp [ha, ha', hb] at h
      · by_cases hb' : b = '*'
        · simp [ha, ha', hb'] at h
        · simpa [ha, ha', hb, hb'] using h

@[simp] theorem textToks_nil : textToks [] = [] := rfl
@[simp] theorem textToks_cons (c : Char) (s : Str) : textToks (c :: s) = tokOf c :: textToks s := rfl
@[simp] theorem textToks_append (a b : Str) : textToks (a ++ b) = textToks a ++ textToks b := by
  simp [textToks]

theorem textToks_inj {a b : Str} (h : textToks a = textToks b) : a = b := by
  induction a generalizing b with
  | nil => cases b with
    | nil => rfl
    | cons _ _ => simp at h
  | cons x xs ih =>
    cases b with
    | nil => simp at h
    | cons y ys =>
      simp only [textToks_cons, List.cons.injEq] at h
      rw [tokOf_inj h.1, ih h.2]

theorem clean_nil : Clean [] := by intro c hc; simp at hc
theorem clean_cons {c : Char} {s : Str} : Clean (c :: s) ↔ (c ≠ ':' ∧ c ≠ '*') ∧ Clean s := by
  unfold Clean
  simp
theorem clean_append {a b : Str} : Clean (a ++ b) ↔ Clean a ∧ Clean b := by
  unfold Clean
  simp only [List.mem_append]
  constructor
  · intro h; exact ⟨fun c hc => h c (Or.inl hc), fun c hc => h c (Or.inr hc)⟩
  · rintro ⟨h1, h2⟩ c (hc | hc)
    · exact h1 c hc
    · exact h2 c hc

theorem textToks_clean {s : Str} (h : Clean s) : textToks s = lits s := by
  induction s with
  | nil => rfl
  | cons c s ih =>
    obtain ⟨⟨h1, h2⟩, hs⟩ := clean_cons.mp h
    simp only [textToks_cons, lits, List.map_cons, tokOf_lit h1 h2]
    rw [ih hs]; rfl

theorem headToks_eq_textToks {k : Kind} {pre : Str} (hS : k = .static → Clean pre) (hP : k = .param → pre = [':'])
    (hA : k = .any → pre = ['*']) : headToks k pre = textToks pre := by
  cases k with
  | static => simp only [headToks]; exact (textToks_clean (hS rfl)).symm
  | param => rw [hP rfl]; simp [headToks, tokOf_colon]
  | any => rw [hA rfl]; simp [headToks, tokOf_star]

theorem Local.headToks {D here k pre ms nf pc st pa an} (h : Local D here k pre ms nf pc st pa an) :
    headToks k pre = textToks pre :=
  headToks_eq_textToks h.kS h.kP (fun hk => (h.kA hk).1)

theorem arity_textToks_clean {s : Str} (h : Clean s) : arity (textToks s) = 0 := by
  rw [textToks_clean h]; exact arity_lits s

theorem arity_le_append (a b : List Tok) : arity a ≤ arity (a ++ b) := by
  rw [arity_append]; omega

/-! ### labels -/

theorem label_of_pre {c : Node} {e : Char} {r : Str} (h : c.pre = e :: r) : c.label = some e := by
  simp [Node.label, h]

theorem pre_of_label {c : Node} {e : Char} (h : c.label = some e) : ∃ r, c.pre = e :: r := by
  unfold Node.label at h
  cases hp : c.pre with
  | nil => rw [hp] at h; simp at h
  | cons x r => rw [hp] at h; simp at h; exact ⟨r, by rw [h]⟩

theorem lcp_ne_zero_of_label {c : Node} {e : Char} {s : Str} (h : c.label = some e) : lcp (e :: s) c.pre ≠ 0 := by
  obtain ⟨r, hr⟩ := pre_of_label h
  rw [hr]; simp [lcp]

/-! ### distinct labels -/

theorem labelsDistinct_iff (st : List Node) :
    labelsDistinct st = true ↔ st.Pairwise (fun a b => a.label ≠ b.label) := by
  induction st with
  | nil => simp [labelsDistinct]
  | cons c cs ih =>
    simp only [labelsDistinct, Bool.and_eq_true, List.all_eq_true, bne_iff_ne, ne_eq, List.pairwise_cons, ih]
    constructor
    · rintro ⟨h1, h2⟩; exact ⟨fun d hd heq => h1 d hd heq.symm, h2⟩
    · rintro ⟨h1, h2⟩; exact ⟨fun d hd heq => h1 d hd heq.symm, h2⟩

theorem labelsDistinct_mid {st1 st2 : List Node} {ch : Node} (h : labelsDistinct (st1 ++ ch :: st2) = true) :
    (∀ x ∈ st1, x.label ≠ ch.label) ∧ (∀ x ∈ st2, x.label ≠ ch.label) := by
  rw [labelsDistinct_iff, List.pairwise_append] at h
  obtain ⟨_, h2, h3⟩ := h
  rw [List.pairwise_cons] at h2
  exact ⟨fun x hx => h3 x hx ch (by simp), fun x hx heq => h2.1 x hx heq.symm⟩

theorem labelsDistinct_replace {st1 st2 : List Node} {ch ch' : Node} (hl : ch'.label = ch.label)
    (h : labelsDistinct (st1 ++ ch :: st2) = true) : labelsDistinct (st1 ++ ch' :: st2) = true := by
  rw [labelsDistinct_iff, List.pairwise_append] at h ⊢
  obtain ⟨h1, h2, h3⟩ := h
  rw [List.pairwise_cons] at h2 ⊢
  refine ⟨h1, ⟨?_, h2.2⟩, ?_⟩
  · intro x hx; rw [hl]; exact h2.1 x hx
  · intro a ha b hb
    rcases List.mem_cons.mp hb with rfl | hb
    · rw [hl]; exact h3 a ha ch (by simp)
    · exact h3 a ha b (by simp [hb])

theorem labelsDistinct_snoc {st : List Node} {n : Node} (h : labelsDistinct st = true)
    (hn : ∀ x ∈ st, x.label ≠ n.label) : labelsDistinct (st ++ [n]) = true := by
  rw [labelsDistinct_iff, List.pairwise_append] at *
  refine ⟨h, by simp, ?_⟩
  intro a ha b hb
  simp only [List.mem_singleton] at hb
  rw [hb]; exact hn a ha

theorem labelsDistinct_pair {a b : Node} (h : a.label ≠ b.label) : labelsDistinct [a, b] = true := by
  rw [labelsDistinct_iff]; simp [h]

theorem labelsDistinct_single (a : Node) : labelsDistinct [a] = true := by
  rw [labelsDistinct_iff]; simp

/-! ### prefixes -/

theorem not_prefix_app {a y s' : Str} (h : ¬ y <+: s') : ¬ (a ++ y) <+: (a ++ s') := by
  rw [List.prefix_append_right_inj]; exact h

theorem not_prefix_self_app {a y : Str} (h : y ≠ []) : ¬ (a ++ y) <+: a := by
  have := not_prefix_app (a := a) (y := y) (s' := []) (by simpa using h)
  simpa using this

theorem not_prefix_of_label {d : Node} {c : Char} {z s' : Str} (hl : d.label ≠ some c) (hne : d.pre ≠ []) :
    ¬ (d.pre ++ z) <+: (c :: s') := by
  cases hp : d.pre with
  | nil => exact absurd hp hne
  | cons e r =>
    intro hpre
    simp only [List.cons_append, List.cons_prefix_cons] at hpre
    exact hl (by rw [label_of_pre hp, hpre.1])

end Router.Tree
