import EchoProofs.Tree.Insert.Basic
/-!
# Insertion into the radix tree: node boundaries and dead leaves
-/
namespace Router.Tree
open Router Router.Spec

theorem mem_bounds_withRec {x : Str} {m rm k p ms nf op pc st pa an} :
    x ∈ bounds (withRec m rm k p ms nf op pc st pa an) ↔
      x = p ∨ ∃ c, IsChild c st pa an ∧ ∃ y, y ∈ bounds c ∧ x = p ++ y := by
  cases rm <;> exact mem_bounds_mk

theorem insertAt_bounds (m : Str) (t : Kind) (rm : Option RouteMethod) (s : Str) (n : Node) :
    s ∈ bounds (insertAt m s t rm n) := by
  refine insertAt_cases m t rm (fun s _ r => s ∈ bounds r) ?_ ?_ ?_ ?_ ?_ ?_ s n
  · intros; exact mem_bounds_withRec.mpr (Or.inl rfl)
  · intros; exact mem_bounds_withRec.mpr (Or.inl rfl)
  · intro a x s' y p' k ms nf op pc st pa an _ _
    exact mem_bounds_mk.mpr (Or.inr ⟨_, Or.inl (List.mem_cons_of_mem _ List.mem_cons_self), x :: s',
      mem_bounds_withRec.mpr (Or.inl rfl), rfl⟩)
  · intro a c s' k ms nf op pc st pa an st' pa' an' ch _ hd ih
    exact mem_bounds_mk.mpr (Or.inr ⟨_, hd.child', c :: s', ih, rfl⟩)
  · intro a c s' k ms nf op pc st pa an _ _ _ _
    cases t with
    | static =>
      exact mem_bounds_mk.mpr (Or.inr ⟨withRec m rm .static (c :: s') [] none [] 0 [] none none,
        Or.inl (by simp), c :: s', mem_bounds_withRec.mpr (Or.inl rfl), rfl⟩)
    | param =>
      exact mem_bounds_mk.mpr (Or.inr ⟨_, Or.inr (Or.inl rfl), c :: s', mem_bounds_withRec.mpr (Or.inl rfl), rfl⟩)
    | any =>
      exact mem_bounds_mk.mpr (Or.inr ⟨_, Or.inr (Or.inr rfl), c :: s', mem_bounds_withRec.mpr (Or.inl rfl), rfl⟩)
  · intros; exact mem_bounds_withRec.mpr (Or.inl rfl)

theorem bounds_prefix {x : Str} {n : Node} (h : x ∈ bounds n) : ∃ z, x = n.pre ++ z := by
  cases n with
  | mk k p ms nf op pc st pa an =>
    rcases mem_bounds_mk.mp h with h | ⟨c, _, y, _, h⟩
    · exact ⟨[], by simp [Node.pre, h]⟩
    · exact ⟨y, h⟩

theorem deads_prefix {x : Str} {n : Node} (h : x ∈ deads n) : ∃ z, x = n.pre ++ z := by
  cases n with
  | mk k p ms nf op pc st pa an =>
    rcases mem_deads_mk.mp h with ⟨h, _⟩ | ⟨c, _, y, _, h⟩
    · exact ⟨[], by simp [Node.pre, h]⟩
    · exact ⟨y, h⟩

/-! ### dead leaves -/

theorem isDead_addMethod (ms : List (Str × RouteMethod)) (nf : Option RouteMethod) (m : Str) (r : RouteMethod)
    (st : List Node) (pa an : Option Node) :
    isDead (addMethod ms nf m r).1 (addMethod ms nf m r).2 st pa an = false := by
  unfold addMethod isDead
  by_cases h : m = routeNotFound <;> simp [h]

theorem mem_deads_withRec {x : Str} {m rm k p ms nf op pc st pa an} :
    x ∈ deads (withRec m rm k p ms nf op pc st pa an) ↔
      (x = p ∧ rm = none ∧ isDead ms nf st pa an = true)
      ∨ ∃ c, IsChild c st pa an ∧ ∃ y, y ∈ deads c ∧ x = p ++ y := by
  cases rm with
  | none => simp only [withRec]; rw [mem_deads_mk]; simp
  | some r => simp only [withRec]; rw [mem_deads_mk, isDead_addMethod]; simp

theorem deads_shift {a y : Str} {k p ms nf op pc st pa an}
    (h : y ∈ deads (.mk k p ms nf op pc st pa an)) : a ++ y ∈ deads (.mk k (a ++ p) ms nf op pc st pa an) := by
  rcases mem_deads_mk.mp h with ⟨h, hd⟩ | ⟨c, hc, z, hz, h⟩
  · exact mem_deads_mk.mpr (Or.inl ⟨by rw [h], hd⟩)
  · exact mem_deads_mk.mpr (Or.inr ⟨c, hc, z, hz, by rw [h, List.append_assoc]⟩)

theorem isDead_cons_false {ms nf} {c : Node} {st : List Node} {pa an} : isDead ms nf (c :: st) pa an = false := by
  simp [isDead]
theorem isDead_mid_false {ms nf} {c : Node} {st1 st2 : List Node} {pa an} :
    isDead ms nf (st1 ++ c :: st2) pa an = false := by
  simp [isDead]
theorem isDead_snoc_false {ms nf} {c : Node} {st1 : List Node} {pa an} :
    isDead ms nf (st1 ++ [c]) pa an = false := by
  simp [isDead]
theorem isDead_pa_false {ms nf} {c : Node} {st : List Node} {an} : isDead ms nf st (some c) an = false := by
  simp [isDead]
theorem isDead_an_false {ms nf} {c : Node} {st : List Node} {pa} : isDead ms nf st pa (some c) = false := by
  simp [isDead]

theorem Desc.alive {ms nf} {c : Char} {ch ch' : Node} {st st' : List Node} {pa an pa' an' : Option Node}
    (h : Desc c ch ch' st pa an st' pa' an') : isDead ms nf st' pa' an' = false := by
  cases h with
  | static _ _ => exact isDead_mid_false
  | param _ _ => exact isDead_pa_false
  | any _ _ => exact isDead_an_false

theorem deads_empty : ∀ x ∈ deads emptyTree, x = [] := by
  intro x hx
  unfold emptyTree at hx
  rcases mem_deads_mk.mp hx with ⟨h, _⟩ | ⟨c, hc, _⟩
  · exact h
  · simp [IsChild] at hc

end Router.Tree
