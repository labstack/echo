import EchoProofs.Tree.Insert.Loop
/-!
# One registration (`insertRoute`)
-/
namespace Router.Tree
open Router Router.Spec

theorem insertRoute_eq (t : Node) (m path0 : Str) (hid : Nat) :
    insertRoute t m path0 hid =
      insertAt m
        (insertLoop m (normalizeSlash path0) hid ((normalizeSlash path0).length + 2) t [] (normalizeSlash path0) []).2.1
        .static
        (some ⟨normalizeSlash path0,
          (insertLoop m (normalizeSlash path0) hid ((normalizeSlash path0).length + 2) t []
            (normalizeSlash path0) []).2.2, hid⟩)
        (insertLoop m (normalizeSlash path0) hid ((normalizeSlash path0).length + 2) t [] (normalizeSlash path0) []).1 :=
  rfl

end Router.Tree
