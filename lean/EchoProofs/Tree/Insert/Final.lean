import EchoProofs.Tree.Esc.Final
/-!
# Tables without escaped colon: the theorems about `insertAt`, the scan loop and `build` for tree text

Without escaped colons the text of the tree determines its tokens (`textToks`), and the relaxed invariant can be
stated without a table: `tiR D above` (`Insert/Defs.lean`).  Its theorems are the case of `Esc/*` in which the
world has no literal `':'` and `'*'` beyond `above` (`PlainFrom`): for a tree `n` and a token list `e` to be
inserted, `worldOf above n e` lists the positions of the node boundaries of `n` and `above ++ e`; over this world
`tiR D above` and `Esc.tiR W D above` say the same (`esc_of_tiR`, `tiR_of_esc`).
-/
namespace Router.Tree
open Router Router.Spec

/-- no literal `':'` and no literal `'*'`: the tokens are those of their text -/
def Plain (ts : List Tok) : Prop := Tok.lit ':' ∉ ts ∧ Tok.lit '*' ∉ ts

theorem Plain.right {a b : List Tok} (h : Plain (a ++ b)) : Plain b :=
  ⟨fun hm => h.1 (List.mem_append_right _ hm), fun hm => h.2 (List.mem_append_right _ hm)⟩

theorem Plain.left {a b : List Tok} (h : Plain (a ++ b)) : Plain a :=
  ⟨fun hm => h.1 (List.mem_append_left _ hm), fun hm => h.2 (List.mem_append_left _ hm)⟩

theorem Plain.append {a b : List Tok} (ha : Plain a) (hb : Plain b) : Plain (a ++ b) :=
  ⟨fun hm => (List.mem_append.mp hm).elim ha.1 hb.1, fun hm => (List.mem_append.mp hm).elim ha.2 hb.2⟩

theorem plain_textToks (s : Str) : Plain (textToks s) := by
  induction s with
  | nil => exact ⟨by simp, by simp⟩
  | cons c s ih =>
    have hc : tokOf c ≠ Tok.lit ':' ∧ tokOf c ≠ Tok.lit '*' := by
      unfold tokOf
      by_cases h1 : c = ':'
      · simp [h1]
      · by_cases h2 : c = '*'
        · simp [h2]
        · simp [h1, h2]
    rw [textToks_cons]
    exact ⟨fun hm => (List.mem_cons.mp hm).elim (fun h => hc.1 h.symm) ih.1,
      fun hm => (List.mem_cons.mp hm).elim (fun h => hc.2 h.symm) ih.2⟩

theorem textToks_chars {ts : List Tok} (h : Plain ts) : textToks (Esc.chars ts) = ts := by
  induction ts with
  | nil => rfl
  | cons t ts ih =>
    have ht : tokOf (Esc.charOf t) = t := by
      cases t with
      | lit c =>
        exact tokOf_lit (fun hc : c = ':' => h.1 (hc ▸ List.mem_cons_self))
          (fun hc : c = '*' => h.2 (hc ▸ List.mem_cons_self))
      | param => exact tokOf_colon
      | any => exact tokOf_star
    rw [Esc.chars_cons, textToks_cons, ht, ih (Plain.right (a := [t]) h)]

theorem clean_of_plain {v : Str} (h : Plain (lits v)) : Clean v := by
  intro c hc
  have hm : Tok.lit c ∈ lits v := List.mem_map.mpr ⟨c, hc, rfl⟩
  exact ⟨fun e => h.1 (e ▸ hm), fun e => h.2 (e ▸ hm)⟩

theorem plain_norm {p : Str} (h : okPattern p = true) : Plain (norm p).1 :=
  ⟨Esc.no_lit_colon_of_ok _ _ h, Esc.no_lit_star _ _⟩

/-! ### a world for a tree and a token list -/

def PlainFrom (W : List (List Tok)) (above : List Tok) : Prop := ∀ r, Esc.InW W (above ++ r) → Plain r

theorem PlainFrom.append {W : List (List Tok)} {above : List Tok} (hP : PlainFrom W above) (h : List Tok) :
    PlainFrom W (above ++ h) := by
  intro r hin
  rw [List.append_assoc] at hin
  exact (hP _ hin).right

theorem PlainFrom.worldFrom {W : List (List Tok)} {above : List Tok} (hP : PlainFrom W above) :
    Esc.WorldFrom W above := by
  constructor
  · intro q r hin
    rw [List.append_assoc] at hin
    exact (hP _ hin).2 (by simp)
  · intro q r1 r2 hin _
    rw [List.append_assoc] at hin
    exact (hP _ hin).1 (by simp)

theorem PlainFrom.world {W : List (List Tok)} (hP : PlainFrom W []) : Esc.World W := by
  constructor
  · intro w hw
    exact (hP w ⟨w, hw, List.prefix_refl _⟩).2
  · intro w1 hw1 w2 _ q r1 r2 e1 _
    exact (hP w1 ⟨w1, hw1, List.prefix_refl _⟩).1 (by rw [e1]; simp)

/-- the positions of the node boundaries of `n` (which lies below `above`), and the position `above ++ e` -/
def worldOf (above : List Tok) (n : Node) (e : List Tok) : List (List Tok) :=
  (above ++ e) :: (bounds n).map (fun x => above ++ textToks x)

theorem mem_worldOf (above : List Tok) (n : Node) (e : List Tok) : above ++ e ∈ worldOf above n e :=
  List.mem_cons_self

theorem inW_worldOf_self (above : List Tok) (n : Node) (e : List Tok) : Esc.InW (worldOf above n e) (above ++ e) :=
  ⟨_, mem_worldOf above n e, List.prefix_refl _⟩

theorem inW_worldOf_bounds {above : List Tok} {n : Node} {e : List Tok} {x : Str} (hx : x ∈ bounds n) :
    Esc.InW (worldOf above n e) (above ++ textToks x) :=
  ⟨_, List.mem_cons_of_mem _ (List.mem_map.mpr ⟨x, hx, rfl⟩), List.prefix_refl _⟩

theorem plainFrom_worldOf (above : List Tok) (n : Node) {e : List Tok} (he : Plain e) :
    PlainFrom (worldOf above n e) above := by
  intro r ⟨w, hw, hp⟩
  have key : ∀ y, Plain y → w = above ++ y → Plain r := by
    intro y hy e1
    rw [e1, List.prefix_append_right_inj] at hp
    obtain ⟨z, hz⟩ := hp
    rw [← hz] at hy
    exact hy.left
  rcases List.mem_cons.mp hw with hw | hw
  · exact key e he hw
  · obtain ⟨x, _, hx⟩ := List.mem_map.mp hw
    exact key _ (plain_textToks x) hx.symm

/-! ### the two relaxed invariants over such a world -/

theorem esc_of_tiR {W : List (List Tok)} (n : Node) : ∀ (D : Nat) (above : List Tok), tiR D above n →
    (∀ x ∈ bounds n, Esc.InW W (above ++ textToks x)) → Esc.tiR W D above n := by
  refine node_induct (P := fun n => ∀ (D : Nat) (above : List Tok), tiR D above n →
    (∀ x ∈ bounds n, Esc.InW W (above ++ textToks x)) → Esc.tiR W D above n) ?_ n
  intro k pre ms nf op pc st pa an ihS ihP ihA D above hti hb
  obtain ⟨hl, hS, hP, hA⟩ := (tiR_mk ..).mp hti
  have hkid : ∀ c, IsChild c st pa an → ∀ y ∈ bounds c, Esc.InW W (above ++ textToks pre ++ textToks y) := by
    intro c hc y hy
    have := hb (pre ++ y) (mem_bounds_mk.mpr (Or.inr ⟨c, hc, y, hy, rfl⟩))
    rwa [textToks_append, ← List.append_assoc] at this
  refine (Esc.tiR_mk ..).mpr ?_
  rw [hl.headToks]
  refine ⟨⟨hl.depth, hb pre (mem_bounds_mk.mpr (Or.inl rfl)), hl.kP, hl.kA, hl.noNf, hl.recs, hl.nfRec, hl.distinct,
    hl.stK, hl.paK, hl.anK⟩, ?_, ?_, ?_⟩
  · rw [Esc.tiRL_iff]
    intro c hc
    exact ihS c hc D _ ((tiRL_iff ..).mp hS c hc) (hkid c (Or.inl hc))
  · rw [Esc.tiRO_iff]
    intro c hc
    exact ihP c hc D _ ((tiRO_iff ..).mp hP c hc) (hkid c (Or.inr (Or.inl hc)))
  · rw [Esc.tiRO_iff]
    intro c hc
    exact ihA c hc D _ ((tiRO_iff ..).mp hA c hc) (hkid c (Or.inr (Or.inr hc)))

theorem tiR_of_esc {W : List (List Tok)} (n : Node) : ∀ (D : Nat) (above : List Tok), PlainFrom W above →
    Esc.tiR W D above n → tiR D above n := by
  refine node_induct (P := fun n => ∀ (D : Nat) (above : List Tok), PlainFrom W above →
    Esc.tiR W D above n → tiR D above n) ?_ n
  intro k pre ms nf op pc st pa an ihS ihP ihA D above hW hti
  obtain ⟨hl, hS, hP, hA⟩ := (Esc.tiR_mk ..).mp hti
  have hkS : k = .static → Clean pre := by
    intro hk
    subst hk
    exact clean_of_plain (hW _ hl.inW)
  have he : headToks k pre = textToks pre := headToks_eq_textToks hkS hl.kP (fun hk => (hl.kA hk).1)
  rw [he] at hl hS hP hA
  refine (tiR_mk ..).mpr ⟨⟨hl.depth, hkS, hl.kP, hl.kA, hl.noNf, hl.recs, hl.nfRec, hl.distinct, hl.stK, hl.paK,
    hl.anK⟩, ?_, ?_, ?_⟩
  · rw [tiRL_iff]
    intro c hc
    exact ihS c hc D _ (hW.append _) ((Esc.tiRL_iff ..).mp hS c hc)
  · rw [tiRO_iff]
    intro c hc
    exact ihP c hc D _ (hW.append _) ((Esc.tiRO_iff ..).mp hP c hc)
  · rw [tiRO_iff]
    intro c hc
    exact ihA c hc D _ (hW.append _) ((Esc.tiRO_iff ..).mp hA c hc)

theorem esc_piece {t : Kind} {v : Str} (h : Piece t v) : Esc.Piece t (textToks v) := by
  cases t with
  | static => exact ⟨v, textToks_clean h⟩
  | param => rw [show v = [':'] from h]; exact congrArg (· :: []) tokOf_colon
  | any => rw [show v = ['*'] from h]; exact congrArg (· :: []) tokOf_star

theorem esc_fit {t : Kind} {s : Str} {n : Node} (h : Fit t s n) : Esc.Fit t (textToks s) n := by
  obtain ⟨u, v, hs, hp, hu⟩ := h
  refine ⟨textToks u, textToks v, by rw [hs, textToks_append], esc_piece hp, ?_⟩
  rcases hu with hu | hu
  · exact Or.inl (by rw [hu]; rfl)
  · exact Or.inr (by rw [Esc.chars_textToks]; exact hu)

/-- **`insertAt` preserves the relaxed invariant** (and the kind of the node it is applied to) -/
theorem insertAt_tiR (m : Str) (t : Kind) (rm : Option RouteMethod) (s : Str) (n : Node) :
    ∀ (D : Nat) (above : List Tok), tiR D above n → Fit t s n → StarLast s →
      (∀ r, rm = some r → (norm r.ppath).1 = above ++ textToks s
        ∧ r.pnames.length = arity (above ++ textToks s)) →
      arity (above ++ textToks s) ≤ D → (t = .any → rm ≠ none) →
      (lcp s n.pre = 0 → n = emptyTree ∧ t = .static) →
      tiR D above (insertAt m s t rm n) ∧ (insertAt m s t rm n).kind = n.kind := by
  intro D above hti hfit hstar hrec hD hany hroot
  have hP := plainFrom_worldOf above n (plain_textToks s)
  obtain ⟨h1, h2⟩ := Esc.insertAt_tiR_from m t rm s n D above (textToks s) hP.worldFrom (Esc.chars_textToks s).symm
    (esc_of_tiR n D above hti fun _ hx => inW_worldOf_bounds hx) (esc_fit hfit) (inW_worldOf_self ..) hstar hrec hD
    hany hroot
  exact ⟨tiR_of_esc _ D above hP h1, h2⟩

theorem insertAt_resid (m : Str) (t : Kind) (rm : Option RouteMethod) (s : Str) (n : Node) :
    ∀ (D : Nat) (above : List Tok), tiR D above n → Fit t s n →
      (lcp s n.pre = 0 → n = emptyTree ∧ t = .static) →
      (resid (insertAt m s t rm n)).Perm (expected m rm (textToks s) (resid n)) := by
  intro D above hti hfit hroot
  have hP := plainFrom_worldOf above n (plain_textToks s)
  exact Esc.insertAt_resid_from m t rm s n D above (textToks s) hP.worldFrom (Esc.chars_textToks s).symm
    (esc_of_tiR n D above hti fun _ hx => inW_worldOf_bounds hx) (esc_fit hfit) (inW_worldOf_self ..) hroot

/-- the dead leaves after an insertion: possibly the new node (when no record is written); the
    old ones stay unless they are on the way to the new text -/
theorem insertAt_deads (m : Str) (t : Kind) (rm : Option RouteMethod) (s : Str) (n : Node) :
    ∀ (D : Nat) (above : List Tok), tiR D above n →
      (lcp s n.pre = 0 → n.statics = [] ∧ n.param = none ∧ n.any = none) →
      ∀ x ∈ deads (insertAt m s t rm n), (x = s ∧ rm = none) ∨ (x ∈ deads n ∧ ¬ x <+: s) := by
  intro D above hti
  have hP := plainFrom_worldOf above n (e := []) ⟨by simp, by simp⟩
  exact Esc.insertAt_deads m t rm s n D above hP.worldFrom (esc_of_tiR n D above hti fun _ hx => inW_worldOf_bounds hx)

theorem esc_top {W : List (List Tok)} {D : Nat} {t : Node} (h : Top D t)
    (hb : ∀ x ∈ bounds t, Esc.InW W ([] ++ textToks x)) : Esc.Top W D t :=
  ⟨esc_of_tiR t D [] h.inv hb, h.kind, h.root⟩

theorem top_of_esc {W : List (List Tok)} {D : Nat} {t : Node} (hP : PlainFrom W []) (h : Esc.Top W D t) : Top D t :=
  ⟨tiR_of_esc t D [] hP h.inv, h.kind, h.root⟩

/-- **the scan loop**: it keeps the tree invariant, leaves the registered records alone (up to the record
    of the route being registered), and ends with `done` = the tree text of the whole pattern -/
theorem insertLoop_ok (D : Nat) (m ppath : Str) (hid : Nat) (toks : List Tok) (names : List Str) (R0 : R)
    (hD : arity toks ≤ D) (hnorm : (norm ppath).1 = toks) (hnames : names.length = arity toks) :
    ∀ (fuel : Nat) (t : Node) (done todo : Str) (pn : List Str), todo.length < fuel →
      TreeSt D m toks R0 t done → toks = textToks done ++ (NA todo).1 → names = pn ++ (NA todo).2 →
      OK todo = true → '*' ∉ done → (done = [] → todo.head? = some '/') → (done ≠ [] → done.head? = some '/') →
      TreeSt D m toks R0 (insertLoop m ppath hid fuel t done todo pn).1
          (insertLoop m ppath hid fuel t done todo pn).2.1
        ∧ textToks (insertLoop m ppath hid fuel t done todo pn).2.1 = toks
        ∧ (insertLoop m ppath hid fuel t done todo pn).2.2 = names
        ∧ StarLast (insertLoop m ppath hid fuel t done todo pn).2.1
        ∧ (insertLoop m ppath hid fuel t done todo pn).2.1.head? = some '/' := by
  intro fuel t done todo pn hfuel hst htoks hnm hok hnostar hsl0 hsl1
  have hpl : Plain toks := by
    rw [htoks]
    exact (plain_textToks done).append ⟨Esc.no_lit_colon_of_ok _ _ hok, Esc.no_lit_star _ _⟩
  have hP := plainFrom_worldOf [] t hpl
  have hst' : Esc.TreeSt (worldOf [] t toks) D m toks R0 t (textToks done) := by
    obtain ⟨u, v, e1, e2, e3⟩ := hst.fit
    refine ⟨esc_top hst.top fun _ hx => inW_worldOf_bounds hx, ⟨textToks u, v, ?_, ?_⟩, ?_, hst.res⟩
    · rw [e1, textToks_append, textToks_clean e2]
    · exact e3.imp (fun h => by rw [h]; rfl) (fun h => by rw [Esc.chars_textToks]; exact h)
    · rw [Esc.chars_textToks]; exact hst.dead
  have h := Esc.insertLoop_ok hP.world D m ppath hid toks names R0 hD (mem_worldOf [] t toks) hnorm hnames fuel t
    (textToks done) todo pn hfuel hst' htoks hnm (Esc.okE_of_ok _ _ hok) (by rw [Esc.chars_textToks]; exact hnostar)
    (fun h0 => hsl0 (List.map_eq_nil_iff.mp h0))
    (fun h0 => by rw [Esc.chars_textToks]; exact hsl1 (fun hd => h0 (by rw [hd]; rfl)))
  rw [Esc.chars_textToks] at h
  obtain ⟨g1, g2, g3, g4, g5⟩ := h
  rw [g2]
  refine ⟨⟨top_of_esc hP g1.top, ?_, g1.dead, g1.res⟩, textToks_chars hpl, g3, g4, g5⟩
  obtain ⟨tu, v, e1, e3⟩ := g1.fit
  refine ⟨Esc.chars tu, v, by rw [e1]; simp, clean_of_plain ?_, e3.imp (fun h => by rw [h]; rfl) id⟩
  rw [e1] at hpl
  exact hpl.right

/-- **one registration**: the tree invariant is kept, no dead leaf remains, and the residual set gains the
    entry of the route (replacing the records of the same method at the same place) -/
theorem insertRoute_ok (D : Nat) (t : Node) (m path0 : Str) (hid : Nat) (ht : Top D t) (hdead : ∀ x ∈ deads t, x = [])
    (hok : okPattern path0 = true) (hD : arity (norm path0).1 ≤ D) :
    Top D (insertRoute t m path0 hid) ∧ deads (insertRoute t m path0 hid) = []
      ∧ (resid (insertRoute t m path0 hid)).Perm
          (((norm path0).1, mkEntry ⟨m, path0, hid⟩) :: (resid t).filter (keep (norm path0).1 m))
      ∧ (insertLoop m (normalizeSlash path0) hid ((normalizeSlash path0).length + 2) t []
            (normalizeSlash path0) []).2.2 = (norm path0).2 := by
  have hP := plainFrom_worldOf [] t (plain_norm hok)
  obtain ⟨f1, f2, f3, f4⟩ := Esc.insertRoute_ok hP.world D t m path0 hid
    (esc_top ht fun _ hx => inW_worldOf_bounds hx) hdead (Esc.okPatternE_of_ok hok) hD (mem_worldOf [] t _)
  exact ⟨top_of_esc hP f1, f2, f3, f4⟩

/-! ### the whole table -/

theorem initial_map_mkEntry (l : List Route) :
    initial (l.map mkEntry) = l.map (fun r => ((norm r.path).1, mkEntry r)) := by
  simp [initial, mkEntry, List.map_map, Function.comp_def]

/-- the registrations one after the other, starting from a tree that represents the routes `pre` -/
theorem fold_ok (D : Nat) : ∀ (rs : List Route) (t : Node) (pre : List Route), Top D t →
    (∀ x ∈ deads t, x = []) → (resid t).Perm (initial (pre.map mkEntry)) →
    (∀ r ∈ rs, okPattern r.path = true ∧ arity (norm r.path).1 ≤ D) →
    Uniq (initial ((pre ++ rs).map mkEntry)) →
    Top D (rs.foldl (fun t r => insertRoute t r.method r.path r.hid) t)
      ∧ (rs ≠ [] → deads (rs.foldl (fun t r => insertRoute t r.method r.path r.hid) t) = [])
      ∧ (resid (rs.foldl (fun t r => insertRoute t r.method r.path r.hid) t)).Perm
          (initial ((pre ++ rs).map mkEntry)) := by
  intro rs
  induction rs with
  | nil =>
    intro t pre ht _ hres _ _
    simp only [List.foldl_nil, List.append_nil]
    exact ⟨ht, fun h => absurd rfl h, hres⟩
  | cons r rs ih =>
    intro t pre ht hdead hres hok hu
    obtain ⟨hokr, hDr⟩ := hok r (by simp)
    obtain ⟨f1, f2, f3, _⟩ := insertRoute_ok D t r.method r.path r.hid ht hdead hokr hDr
    have he : pre ++ r :: rs = (pre ++ [r]) ++ rs := by simp
    simp only [List.foldl_cons]
    rw [he] at hu ⊢
    -- no registered entry has the tokens and the method of `r`
    have hkeep : (initial (pre.map mkEntry)).filter (keep (norm r.path).1 r.method) = initial (pre.map mkEntry) := by
      rw [List.filter_eq_self]
      intro x hx
      unfold Uniq at hu
      rw [List.map_append, List.map_append, initial, List.map_append, List.map_append, List.pairwise_append,
        List.pairwise_append] at hu
      have := hu.1.2.2 x (by simpa [initial] using hx) ((norm r.path).1, mkEntry r) (by simp [mkEntry])
      simp only [mkEntry_method, not_and] at this
      unfold keep
      by_cases h1 : x.1 = (norm r.path).1
      · have h2 := this h1
        simp [h1, h2]
      · simp [h1]
    have hres1 : (resid (insertRoute t r.method r.path r.hid)).Perm (initial ((pre ++ [r]).map mkEntry)) := by
      refine f3.trans ?_
      have h1 := (hres.filter (keep (norm r.path).1 r.method))
      rw [hkeep] at h1
      refine (List.Perm.cons _ h1).trans ?_
      have : initial ((pre ++ [r]).map mkEntry) = initial (pre.map mkEntry) ++ [((norm r.path).1, mkEntry r)] := by
        simp [initial, mkEntry]
      rw [this]
      exact (List.perm_append_comm (l₁ := initial (pre.map mkEntry)) (l₂ := [((norm r.path).1, mkEntry r)])).symm
    obtain ⟨g1, g2, g3⟩ := ih (insertRoute t r.method r.path r.hid) (pre ++ [r]) f1
      (by intro x hx; rw [f2] at hx; simp at hx) hres1 (fun r' hr' => hok r' (by simp [hr'])) hu
    refine ⟨g1, fun _ => ?_, g3⟩
    by_cases hrs : rs = []
    · subst hrs; exact f2
    · exact g2 hrs

theorem okTable_of_wf {rs : List Route} (h : wfTable rs = true) : okTable rs = true := by
  simp only [wfTable, Bool.and_eq_true] at h
  exact h.1

/-- without re-registrations the table in force is the table -/
theorem dedupLast_of_wf : ∀ (rs : List Route), wfTable rs = true → dedupLast rs = rs := by
  intro rs
  induction rs with
  | nil => intro _; rfl
  | cons a rs ih =>
    intro h
    have hcons : initial ((a :: rs).map mkEntry) = ((norm a.path).1, mkEntry a) :: initial (rs.map mkEntry) := by
      simp [initial, mkEntry]
    simp only [wfTable, hcons, uniqB, Bool.and_eq_true, List.all_cons, List.all_eq_true] at h
    obtain ⟨⟨_, hok⟩, hno, hu⟩ := h
    have hrs : wfTable rs = true := by
      simp only [wfTable, Bool.and_eq_true, List.all_eq_true]
      exact ⟨hok, hu⟩
    have hany : ¬ rs.any (sameKey a) = true := by
      intro hany
      obtain ⟨b, hb, hs⟩ := List.any_eq_true.mp hany
      have := hno ((norm b.path).1, mkEntry b) (by
        simp only [initial, List.map_map, List.mem_map, Function.comp_apply]
        exact ⟨b, hb, rfl⟩)
      simp only [sameKey, Bool.and_eq_true] at hs
      simp [mkEntry_method, hs.1, hs.2] at this
    simp only [dedupLast, if_neg hany, ih hrs]

/-- **`Router.build` yields a tree satisfying the invariant and representing the table**, for every
    non-empty well-formed table.  (For the empty table the statement is false: `build [] = emptyTree` is a
    node without record and child, which `tiNode` rejects; see `tableInvariant_nil`.) -/
theorem build_tableInvariant (rs : List Route) (hne : rs ≠ []) (h : wfTable rs = true) :
    tableInvariant rs = (true, true) := by
  obtain ⟨h1, h2, h3⟩ := build_okE rs hne (okTableE_of_ok (okTable_of_wf h))
  rw [dedupLast_of_wf rs h] at h3
  simp only [wfTable, Bool.and_eq_true] at h
  unfold tableInvariant
  simp only [Prod.mk.injEq, Bool.and_eq_true, decide_eq_true_eq, List.isPerm_iff]
  exact ⟨⟨h1, h2⟩, h3, h.2⟩

end Router.Tree
