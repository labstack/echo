import EchoProofs.Tree.Insert.Paths
/-!
# Insertion into the radix tree: when a text fits a tree (`Fit`), the label after an insertion, records
-/
namespace Router.Tree
open Router Router.Spec

/-- the text `s` inserted below `n` as a node of kind `t` fits: everything before the last piece is
    already a node boundary, so only the last piece can become a new node -/
def Fit (t : Kind) (s : Str) (n : Node) : Prop :=
  ∃ u v, s = u ++ v ∧ Piece t v ∧ (u = [] ∨ u ∈ bounds n)

theorem withRec_kind (m rm k pre ms nf op pc st pa an) : (withRec m rm k pre ms nf op pc st pa an).kind = k := by
  cases rm <;> rfl
theorem withRec_pre (m rm k pre ms nf op pc st pa an) : (withRec m rm k pre ms nf op pc st pa an).pre = pre := by
  cases rm <;> rfl
theorem withRec_label (m rm k pre ms nf op pc st pa an) :
    (withRec m rm k pre ms nf op pc st pa an).label = pre.head? := by
  cases rm <;> rfl

theorem head?_append_of_ne_nil {a b : Str} (h : a ≠ []) : (a ++ b).head? = a.head? := by
  cases a with
  | nil => exact absurd rfl h
  | cons _ _ => rfl

theorem insertAt_label (m : Str) (t : Kind) (rm : Option RouteMethod) (s : Str) (n : Node) :
    (insertAt m s t rm n).label = s.head? := by
  refine insertAt_cases m t rm (fun s _ r => r.label = s.head?) ?_ ?_ ?_ ?_ ?_ ?_ s n
  · intros; exact withRec_label ..
  · intros; exact withRec_label ..
  · intro a x s' y p' k ms nf op pc st pa an ha _
    simp only [Node.label, Node.pre]; exact (head?_append_of_ne_nil ha).symm
  · intro a c s' k ms nf op pc st pa an st' pa' an' ch ha _ _
    simp only [Node.label, Node.pre]; exact (head?_append_of_ne_nil ha).symm
  · intro a c s' k ms nf op pc st pa an ha _ _ _
    cases t <;> (simp only [Node.label, Node.pre]; exact (head?_append_of_ne_nil ha).symm)
  · intros; exact withRec_label ..

theorem starLast_drop {a r : Str} (h : StarLast (a ++ r)) : StarLast r := by
  intro a' b hb
  exact h (a ++ a') b (by rw [hb]; simp)

theorem starLast_not {c : Char} {s' : Str} (h : StarLast ('*' :: c :: s')) : False := by
  have := h [] (c :: s') rfl
  cases this

/-! ### records -/

theorem noNfKey_addMethod {ms : List (Str × RouteMethod)} {nf : Option RouteMethod} (m : Str) (r : RouteMethod)
    (h : NoNfKey ms) : NoNfKey (addMethod ms nf m r).1 := by
  unfold addMethod
  by_cases hm : m = routeNotFound
  · simpa [hm] using h
  · simp only [hm, if_false]
    intro x hx
    rcases List.mem_append.mp hx with hx | hx
    · exact h x (List.mem_filter.mp hx).1
    · simp only [List.mem_singleton] at hx
      rw [hx]; exact hm

theorem mem_addMethod {ms : List (Str × RouteMethod)} {nf : Option RouteMethod} {m : Str} {r : RouteMethod}
    {x : Str × RouteMethod} (hx : x ∈ (addMethod ms nf m r).1) : x ∈ ms ∨ x.2 = r := by
  unfold addMethod at hx
  by_cases hm : m = routeNotFound
  · simp only [hm, if_true] at hx; exact Or.inl hx
  · simp only [hm, if_false] at hx
    rcases List.mem_append.mp hx with hx | hx
    · exact Or.inl (List.mem_filter.mp hx).1
    · simp only [List.mem_singleton] at hx
      rw [hx]; exact Or.inr rfl

theorem nf_addMethod {ms : List (Str × RouteMethod)} {nf : Option RouteMethod} {m : Str} {r r' : RouteMethod}
    (h : (addMethod ms nf m r).2 = some r') : nf = some r' ∨ r' = r := by
  unfold addMethod at h
  by_cases hm : m = routeNotFound
  · simp only [hm, if_true, Option.some.injEq] at h; exact Or.inr h.symm
  · simp only [hm, if_false] at h; exact Or.inl h

theorem prefix_singleton {a : Str} {c : Char} (ha : a ≠ []) (h : a <+: [c]) : a = [c] := by
  cases a with
  | nil => exact absurd rfl ha
  | cons x xs =>
    simp only [List.cons_prefix_cons, List.prefix_nil] at h
    rw [h.1, h.2]

end Router.Tree
