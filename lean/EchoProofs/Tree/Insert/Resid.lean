import EchoProofs.Tree.Insert.Inv
/-!
# Insertion into the radix tree: what an insertion does to a residual set (`expected`), the residual set by parts
-/
namespace Router.Tree
open Router Router.Spec

def keep (ts : List Tok) (m : Str) (x : List Tok × Entry) : Bool := !(x.1 == ts && x.2.method == m)

/-- what an insertion at tokens `ts` does to a residual set: a record for method `m` replaces the
    records of `m` at the same place; without record nothing changes -/
def expected (m : Str) (rm : Option RouteMethod) (ts : List Tok) (X : R) : R :=
  match rm with
  | some r => (ts, entryOf m r) :: X.filter (keep ts m)
  | none => X

theorem prepend_append (ts : List Tok) (a b : R) : prepend ts (a ++ b) = prepend ts a ++ prepend ts b := by
  simp [prepend]

theorem prepend_prepend (a b : List Tok) (r : R) : prepend a (prepend b r) = prepend (a ++ b) r := by
  simp [prepend, List.map_map, Function.comp_def]

theorem prepend_perm {ts : List Tok} {r r' : R} (h : r.Perm r') : (prepend ts r).Perm (prepend ts r') :=
  h.map _

theorem prepend_nil_right (ts : List Tok) : prepend ts [] = [] := rfl

theorem keep_prepend (hd ts : List Tok) (m : Str) (y : List Tok) (e : Entry) :
    keep (hd ++ ts) m (hd ++ y, e) = keep ts m (y, e) := by
  unfold keep
  have : (hd ++ y == hd ++ ts) = (y == ts) := by
    by_cases h : y = ts
    · simp [h]
    · have h1 : (y == ts) = false := by simpa using h
      have h2 : (hd ++ y == hd ++ ts) = false := by simpa using h
      rw [h1, h2]
  simp only [this]

theorem filter_keep_prepend (hd ts : List Tok) (m : Str) (X : R) :
    (prepend hd X).filter (keep (hd ++ ts) m) = prepend hd (X.filter (keep ts m)) := by
  induction X with
  | nil => rfl
  | cons x xs ih =>
    obtain ⟨y, e⟩ := x
    simp only [prepend, List.map_cons, List.filter_cons, keep_prepend] at ih ⊢
    split
    · simp [ih]
    · exact ih

theorem expected_prepend (m : Str) (rm : Option RouteMethod) (hd ts : List Tok) (X : R) :
    expected m rm (hd ++ ts) (prepend hd X) = prepend hd (expected m rm ts X) := by
  cases rm with
  | none => rfl
  | some r =>
    simp only [expected, filter_keep_prepend]
    rfl

theorem expected_perm {m : Str} {rm : Option RouteMethod} {ts : List Tok} {X Y : R} (h : X.Perm Y) :
    (expected m rm ts X).Perm (expected m rm ts Y) := by
  cases rm with
  | none => exact h
  | some r => exact List.Perm.cons _ (h.filter _)

theorem filter_keep_id {ts : List Tok} {m : Str} {X : R} (h : ∀ x ∈ X, x.1 ≠ ts) : X.filter (keep ts m) = X := by
  rw [List.filter_eq_self]
  intro x hx
  simp [keep, h x hx]

theorem expected_mid {m : Str} {rm : Option RouteMethod} {ts : List Tok} {A B Y Y' : R}
    (hA : ∀ x ∈ A, x.1 ≠ ts) (hB : ∀ x ∈ B, x.1 ≠ ts) (hY : Y'.Perm (expected m rm ts Y)) :
    (A ++ (Y' ++ B)).Perm (expected m rm ts (A ++ (Y ++ B))) := by
  cases rm with
  | none => exact List.Perm.append_left _ (List.Perm.append_right _ hY)
  | some r =>
    simp only [expected, List.filter_append, filter_keep_id hA, filter_keep_id hB] at hY ⊢
    refine (List.Perm.append_left _ (List.Perm.append_right _ hY)).trans ?_
    simp only [List.cons_append]
    exact List.perm_middle

/-- the residuals of the records stored at a node itself -/
def ownR (ms : List (Str × RouteMethod)) (nf : Option RouteMethod) : R :=
  (ownEntries ms nf).map (fun e => (([] : List Tok), e))

theorem filter_keep_nil_map (m : Str) (es : List Entry) :
    (es.map (fun e => (([] : List Tok), e))).filter (keep [] m)
      = (es.filter (fun e => !(e.method == m))).map (fun e => (([] : List Tok), e)) := by
  induction es with
  | nil => rfl
  | cons e es ih =>
    simp only [List.map_cons, List.filter_cons, keep, beq_self_eq_true, Bool.true_and]
    split
    · simp [ih]
    · exact ih

theorem filter_methods_map (m : Str) (ms : List (Str × RouteMethod)) :
    (ms.map (fun x => entryOf x.1 x.2)).filter (fun e => !(e.method == m))
      = (ms.filter (·.1 ≠ m)).map (fun x => entryOf x.1 x.2) := by
  induction ms with
  | nil => rfl
  | cons x xs ih =>
    by_cases hx : x.1 = m
    · simp [entryOf, hx]
      simpa [entryOf] using ih
    · simp [entryOf, hx]
      simpa [entryOf] using ih

theorem filter_methods_id {m : Str} {ms : List (Str × RouteMethod)} (h : ∀ x ∈ ms, x.1 ≠ m) :
    (ms.map (fun x => entryOf x.1 x.2)).filter (fun e => !(e.method == m))
      = ms.map (fun x => entryOf x.1 x.2) := by
  rw [List.filter_eq_self]
  intro e he
  obtain ⟨x, hx, rfl⟩ := List.mem_map.mp he
  simp [entryOf, h x hx]

theorem own_addMethod {ms : List (Str × RouteMethod)} {nf : Option RouteMethod} (m : Str) (r : RouteMethod)
    (hNo : NoNfKey ms) :
    (ownEntries (addMethod ms nf m r).1 (addMethod ms nf m r).2).Perm
      (entryOf m r :: (ownEntries ms nf).filter (fun e => !(e.method == m))) := by
  unfold addMethod
  by_cases hm : m = routeNotFound
  · subst hm
    simp only [if_true, ownEntries, List.filter_append, filter_methods_id hNo]
    cases nf with
    | none => simp
    | some rm =>
      have : [entryOf routeNotFound rm].filter (fun e => !(e.method == routeNotFound)) = [] := by
        simp [entryOf]
      simp only [this, List.append_nil]
      exact List.perm_append_comm
  · simp only [hm, if_false, ownEntries, List.filter_append, filter_methods_map, List.map_append, List.map_cons,
      List.map_nil]
    cases nf with
    | none => simp
    | some rm =>
      have : [entryOf routeNotFound rm].filter (fun e => !(e.method == m)) = [entryOf routeNotFound rm] := by
        simp [entryOf, Ne.symm hm]
      simp only [this, List.append_assoc]
      exact List.perm_middle

theorem ownR_withRec {ms : List (Str × RouteMethod)} {nf : Option RouteMethod} (m : Str) (r : RouteMethod)
    (hNo : NoNfKey ms) :
    (ownR (addMethod ms nf m r).1 (addMethod ms nf m r).2).Perm (expected m (some r) [] (ownR ms nf)) := by
  unfold ownR expected
  rw [filter_keep_nil_map]
  exact ((own_addMethod m r hNo).map _)

/-- the residuals of the three child slots -/
def kidsR (st : List Node) (pa an : Option Node) : R := belowList st ++ (belowOpt pa ++ belowOpt an)

theorem resid_mk' (k pre ms nf op pc st pa an) :
    resid (.mk k pre ms nf op pc st pa an) = prepend (headToks k pre) (ownR ms nf ++ kidsR st pa an) := by
  rw [resid, below_mk]
  simp only [ownR, kidsR, List.append_assoc]

theorem belowList_append (a b : List Node) : belowList (a ++ b) = belowList a ++ belowList b := by
  induction a with
  | nil => simp
  | cons c cs ih => simp [ih]

theorem mem_belowList {x : List Tok × Entry} {st : List Node} : x ∈ belowList st ↔ ∃ c ∈ st, x ∈ resid c := by
  induction st with
  | nil => simp
  | cons c cs ih => simp [ih]

theorem mem_belowOpt {x : List Tok × Entry} {o : Option Node} : x ∈ belowOpt o ↔ ∃ c, o = some c ∧ x ∈ resid c := by
  cases o <;> simp

theorem mem_kidsR {x : List Tok × Entry} {st : List Node} {pa an : Option Node} :
    x ∈ kidsR st pa an ↔ ∃ c, IsChild c st pa an ∧ x ∈ resid c := by
  rw [kidsR, ← List.append_assoc]
  exact mem_slots mem_belowList mem_belowOpt

theorem ownR_nil (ms : List (Str × RouteMethod)) (nf : Option RouteMethod) : ∀ x ∈ ownR ms nf, x.1 = [] := by
  intro x hx
  simp only [ownR, List.mem_map] at hx
  obtain ⟨_, _, rfl⟩ := hx
  rfl

theorem ne_belowList {P : List Tok × Entry → Prop} {l : List Node} (h : ∀ d ∈ l, ∀ x ∈ resid d, P x) :
    ∀ x ∈ belowList l, P x := by
  intro x hx
  obtain ⟨d, hd, hxd⟩ := mem_belowList.mp hx
  exact h d hd x hxd

theorem ne_belowOpt {P : List Tok × Entry → Prop} {o : Option Node} (h : ∀ d, o = some d → ∀ x ∈ resid d, P x) :
    ∀ x ∈ belowOpt o, P x := by
  intro x hx
  obtain ⟨d, hd, hxd⟩ := mem_belowOpt.mp hx
  exact h d hd x hxd

theorem ne_append {P : List Tok × Entry → Prop} {A B : R} (hA : ∀ x ∈ A, P x) (hB : ∀ x ∈ B, P x) :
    ∀ x ∈ A ++ B, P x := by
  intro x hx
  rcases List.mem_append.mp hx with h | h
  · exact hA x h
  · exact hB x h

theorem lits_append (a b : Str) : lits (a ++ b) = lits a ++ lits b := by simp [lits]

theorem resid_split (a q : Str) (ms nf op pc st pa an) (rest : List Node) :
    resid (.mk .static a [] none [] 0 (.mk .static q ms nf op pc st pa an :: rest) none none)
      = resid (.mk .static (a ++ q) ms nf op pc st pa an) ++ prepend (lits a) (belowList rest) := by
  simp only [resid_mk', headToks, lits_append, ownR, ownEntries, kidsR, List.map_nil, List.nil_append,
    belowList_cons, belowOpt_none, List.append_nil, prepend_append, prepend_prepend]

theorem resid_emptyTree : resid emptyTree = [] := by
  unfold emptyTree
  rw [resid_mk']; simp [ownR, kidsR, ownEntries, prepend]

end Router.Tree
