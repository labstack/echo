import EchoProofs.Tree.Below
import EchoProofs.Tree.Refine
/-!
# Insertion into the radix tree: definitions and the case principle of `insertAt`

`insertAt_cases` splits an insertion into the six shapes of the Go loop with the common prefix already split off
(the three child slots it can go down into are one shape, `Desc`);
`node_induct` is the induction over the nested inductive `Node`.  Tree text is read as tokens by `textToks` (every
`':'` a parameter: the reading without escaped colon), `tiR D above` is `tiNode` without "no dead leaves" under that
reading, and `bounds` / `deads` list the node boundaries and the dead leaves of a tree as texts.
-/
namespace Router.Tree
open Router Router.Spec

/-! ### tree text -/

/-- token of one byte of tree text: `:` stands for a parameter, `*` for the wildcard -/
def tokOf (c : Char) : Tok := if c = ':' then .param else if c = '*' then .any else .lit c

def textToks (s : Str) : List Tok := s.map tokOf

/-- text without marker bytes -/
def Clean (s : Str) : Prop := ∀ c ∈ s, c ≠ ':' ∧ c ≠ '*'

/-- the text a new node of kind `k` may carry -/
def Piece : Kind → Str → Prop
  | .static, v => Clean v
  | .param, v => v = [':']
  | .any, v => v = ['*']

def StarLast (s : Str) : Prop := ∀ a b, s = a ++ '*' :: b → b = []

/-- the node `insertAt` writes a record into -/
def withRec (m : Str) (rm : Option RouteMethod) (k : Kind) (pre : Str) (ms : List (Str × RouteMethod))
    (nf : Option RouteMethod) (op : Str) (pc : Nat) (st : List Node) (pa an : Option Node) : Node :=
  match rm with
  | some r => .mk k pre (addMethod ms nf m r).1 (addMethod ms nf m r).2 r.ppath r.pnames.length st pa an
  | none => .mk k pre ms nf op pc st pa an

theorem newLeaf_eq (t : Kind) (x : Str) (m : Str) (rm : Option RouteMethod) :
    newLeaf t x m rm = withRec m rm t x [] none [] 0 [] none none := by
  cases rm <;> rfl

theorem insertAt_mk (m s : Str) (t : Kind) (rm : Option RouteMethod) (k : Kind) (p : Str)
    (ms : List (Str × RouteMethod)) (nf : Option RouteMethod) (op : Str) (pc : Nat) (st : List Node)
    (pa an : Option Node) :
    insertAt m s t rm (.mk k p ms nf op pc st pa an) =
    if lcp s p = 0 then withRec m rm (if rm.isSome then t else k) s ms nf op pc st pa an
    else if lcp s p < p.length then
      if lcp s p = s.length then
        withRec m rm t (p.take (lcp s p)) [] none [] 0 [.mk k (p.drop (lcp s p)) ms nf op pc st pa an] none none
      else
        .mk .static (p.take (lcp s p)) [] none [] 0
          [.mk k (p.drop (lcp s p)) ms nf op pc st pa an,
           withRec m rm t (s.drop (lcp s p)) [] none [] 0 [] none none] none none
    else if lcp s p < s.length then
      if st.any (fun n => n.label = some ((s.drop (lcp s p)).headD ' ')) then
        .mk k p ms nf op pc (insertList m (s.drop (lcp s p)) t rm st) pa an
      else if (s.drop (lcp s p)).headD ' ' = ':' ∧ pa.isSome then
        .mk k p ms nf op pc st (insertOpt m (s.drop (lcp s p)) t rm pa) an
      else if (s.drop (lcp s p)).headD ' ' = '*' ∧ an.isSome then
        .mk k p ms nf op pc st pa (insertOpt m (s.drop (lcp s p)) t rm an)
      else
        match t with
        | .static => .mk k p ms nf op pc (st ++ [withRec m rm t (s.drop (lcp s p)) [] none [] 0 [] none none]) pa an
        | .param => .mk k p ms nf op pc st (some (withRec m rm t (s.drop (lcp s p)) [] none [] 0 [] none none)) an
        | .any => .mk k p ms nf op pc st pa (some (withRec m rm t (s.drop (lcp s p)) [] none [] 0 [] none none))
    else withRec m rm k p ms nf op pc st pa an := by
  rw [insertAt.eq_def]
  simp only [newLeaf_eq]
  cases rm <;> rfl

mutual
theorem node_induct {P : Node → Prop}
    (step : ∀ k pre ms nf op pc st pa an, (∀ c ∈ st, P c) → (∀ c, pa = some c → P c) → (∀ c, an = some c → P c) →
      P (.mk k pre ms nf op pc st pa an)) : (n : Node) → P n
  | .mk k pre ms nf op pc st pa an =>
    step k pre ms nf op pc st pa an (list_induct step st) (opt_induct step pa) (opt_induct step an)
theorem list_induct {P : Node → Prop}
    (step : ∀ k pre ms nf op pc st pa an, (∀ c ∈ st, P c) → (∀ c, pa = some c → P c) → (∀ c, an = some c → P c) →
      P (.mk k pre ms nf op pc st pa an)) : (l : List Node) → ∀ c ∈ l, P c
  | [] => by intro c hc; simp at hc
  | d :: ds => by
    intro c hc
    rcases List.mem_cons.mp hc with heq | hm
    · rw [heq]; exact node_induct step d
    · exact list_induct step ds c hm
theorem opt_induct {P : Node → Prop}
    (step : ∀ k pre ms nf op pc st pa an, (∀ c ∈ st, P c) → (∀ c, pa = some c → P c) → (∀ c, an = some c → P c) →
      P (.mk k pre ms nf op pc st pa an)) : (o : Option Node) → ∀ c, o = some c → P c
  | none => by intro c hc; simp at hc
  | some d => by
    intro c hc
    simp only [Option.some.injEq] at hc
    rw [← hc]; exact node_induct step d
end

theorem lcp_nil_right (s : Str) : lcp s [] = 0 := by cases s <;> simp [lcp]
theorem lcp_nil_left (p : Str) : lcp [] p = 0 := by simp [lcp]

theorem lcp_cons_ne (x y : Char) (s p : Str) (h : x ≠ y) : lcp (x :: s) (y :: p) = 0 := by
  simp [lcp, h]

theorem lcp_append_left (a s' p' : Str) : lcp (a ++ s') (a ++ p') = a.length + lcp s' p' := by
  induction a with
  | nil => simp
  | cons c cs ih => simp [lcp, ih]; omega

theorem lcp_decomp (s p : Str) : ∃ a s' p', s = a ++ s' ∧ p = a ++ p' ∧ lcp s p = a.length ∧
    (∀ x s'' y p'', s' = x :: s'' → p' = y :: p'' → x ≠ y) := by
  induction s generalizing p with
  | nil => exact ⟨[], [], p, rfl, rfl, lcp_nil_left p, fun _ _ _ _ h => nomatch h⟩
  | cons a as ih =>
    cases p with
    | nil => exact ⟨[], a :: as, [], rfl, rfl, lcp_nil_right _, fun _ _ _ _ _ h => nomatch h⟩
    | cons b bs =>
      by_cases hab : a = b
      · subst hab
        obtain ⟨c, s', p', rfl, rfl, h3, h4⟩ := ih bs
        exact ⟨a :: c, s', p', rfl, rfl, by simp [lcp, h3], h4⟩
      · refine ⟨[], a :: as, b :: bs, rfl, rfl, lcp_cons_ne a b as bs hab, ?_⟩
        intro x s'' y p'' h1 h2
        rw [← (List.cons.inj h1).1, ← (List.cons.inj h2).1]; exact hab

theorem insertList_nil (m rest : Str) (t : Kind) (rm : Option RouteMethod) : insertList m rest t rm [] = [] := by
  rw [insertList]
theorem insertList_cons (m rest : Str) (t : Kind) (rm : Option RouteMethod) (c : Node) (cs : List Node) :
    insertList m rest t rm (c :: cs) =
      if c.label = rest.head? then insertAt m rest t rm c :: cs else c :: insertList m rest t rm cs := by
  rw [insertList]
theorem insertOpt_some (m rest : Str) (t : Kind) (rm : Option RouteMethod) (c : Node) :
    insertOpt m rest t rm (some c) = some (insertAt m rest t rm c) := by rw [insertOpt]
theorem insertOpt_none (m rest : Str) (t : Kind) (rm : Option RouteMethod) :
    insertOpt m rest t rm none = none := by rw [insertOpt]

theorem insertList_decomp (m rest : Str) (t : Kind) (rm : Option RouteMethod) (c : Char)
    (hh : rest.head? = some c) : ∀ st : List Node, st.any (fun n => n.label = some c) = true →
    ∃ st1 ch st2, st = st1 ++ ch :: st2 ∧ ch.label = some c ∧ (∀ x ∈ st1, x.label ≠ some c) ∧
      insertList m rest t rm st = st1 ++ insertAt m rest t rm ch :: st2 := by
  intro st
  induction st with
  | nil => intro h; simp at h
  | cons d ds ih =>
    intro h
    by_cases hd : d.label = some c
    · refine ⟨[], d, ds, rfl, hd, by simp, ?_⟩
      rw [insertList_cons, hh, if_pos hd]; rfl
    · have h' : ds.any (fun n => n.label = some c) = true := by
        simpa [hd] using h
      obtain ⟨st1, ch, st2, h1, h2, h3, h4⟩ := ih h'
      refine ⟨d :: st1, ch, st2, by rw [h1]; rfl, h2, ?_, ?_⟩
      · intro x hx
        rcases List.mem_cons.mp hx with rfl | hx
        · exact hd
        · exact h3 x hx
      · rw [insertList_cons, hh, if_neg hd, h4]; rfl

/-- the child slots of a node before and after `insertAt` goes down, for the byte `c`, into the child `ch` (`ch'` is
    what it leaves in its place), with what its loop has checked on the way to that slot: the static children are
    searched first, in order, then the `:` slot, then the `*` slot -/
inductive Desc (c : Char) (ch ch' : Node) :
    List Node → Option Node → Option Node → List Node → Option Node → Option Node → Prop
  | static {st1 st2 pa an} : ch.label = some c → (∀ x ∈ st1, x.label ≠ some c) →
      Desc c ch ch' (st1 ++ ch :: st2) pa an (st1 ++ ch' :: st2) pa an
  | param {st an} : c = ':' → (∀ x ∈ st, x.label ≠ some c) → Desc c ch ch' st (some ch) an st (some ch') an
  | any {st pa} : c = '*' → (∀ x ∈ st, x.label ≠ some c) → Desc c ch ch' st pa (some ch) st pa (some ch')

/-- the cases of `insertAt`, with the longest common prefix already split off -/
theorem insertAt_cases (m : Str) (t : Kind) (rm : Option RouteMethod) (P : Str → Node → Node → Prop)
    (takeover : ∀ s k p ms nf op pc st pa an, lcp s p = 0 →
      P s (.mk k p ms nf op pc st pa an) (withRec m rm (if rm.isSome then t else k) s ms nf op pc st pa an))
    (splitAt : ∀ a y p' k ms nf op pc st pa an, a ≠ [] →
      P a (.mk k (a ++ y :: p') ms nf op pc st pa an)
        (withRec m rm t a [] none [] 0 [.mk k (y :: p') ms nf op pc st pa an] none none))
    (splitBr : ∀ a x s' y p' k ms nf op pc st pa an, a ≠ [] → x ≠ y →
      P (a ++ x :: s') (.mk k (a ++ y :: p') ms nf op pc st pa an)
        (.mk .static a [] none [] 0 [.mk k (y :: p') ms nf op pc st pa an,
           withRec m rm t (x :: s') [] none [] 0 [] none none] none none))
    (desc : ∀ a c s' k ms nf op pc st pa an st' pa' an' ch, a ≠ [] →
      Desc c ch (insertAt m (c :: s') t rm ch) st pa an st' pa' an' → P (c :: s') ch (insertAt m (c :: s') t rm ch) →
      P (a ++ c :: s') (.mk k a ms nf op pc st pa an) (.mk k a ms nf op pc st' pa' an'))
    (newC : ∀ a c s' k ms nf op pc st pa an, a ≠ [] → (∀ x ∈ st, x.label ≠ some c) →
      (c = ':' → pa = none) → (c = '*' → an = none) →
      P (a ++ c :: s') (.mk k a ms nf op pc st pa an)
        (match (generalizing := false) t with
         | .static => .mk k a ms nf op pc (st ++ [withRec m rm t (c :: s') [] none [] 0 [] none none]) pa an
         | .param => .mk k a ms nf op pc st (some (withRec m rm t (c :: s') [] none [] 0 [] none none)) an
         | .any => .mk k a ms nf op pc st pa (some (withRec m rm t (c :: s') [] none [] 0 [] none none))))
    (exact : ∀ k p ms nf op pc st pa an, p ≠ [] →
      P p (.mk k p ms nf op pc st pa an) (withRec m rm k p ms nf op pc st pa an)) :
    ∀ s n, P s n (insertAt m s t rm n) := by
  intro s n
  revert s
  refine node_induct (P := fun n => ∀ s, P s n (insertAt m s t rm n)) ?_ n
  intro k p ms nf op pc st pa an ihS ihP ihA s
  rw [insertAt_mk]
  by_cases h0 : lcp s p = 0
  · rw [if_pos h0]; exact takeover s k p ms nf op pc st pa an h0
  rw [if_neg h0]
  obtain ⟨a, s', p', hs, hp, hl, hne⟩ := lcp_decomp s p
  have ha : a ≠ [] := by
    intro h; rw [h] at hl; exact h0 hl
  rw [hl]
  subst hs hp
  rw [List.take_left' rfl, List.drop_left' rfl, List.drop_left' rfl]
  cases p' with
  | cons y p'' =>
    have h1 : a.length < (a ++ y :: p'').length := by simp
    rw [if_pos h1]
    cases s' with
    | nil =>
      have h2 : a.length = (a ++ ([] : Str)).length := by simp
      rw [if_pos h2]
      simp only [List.append_nil]
      exact splitAt a y p'' k ms nf op pc st pa an ha
    | cons x s'' =>
      have h2 : ¬ a.length = (a ++ x :: s'').length := by simp
      rw [if_neg h2]
      exact splitBr a x s'' y p'' k ms nf op pc st pa an ha (hne x s'' y p'' rfl rfl)
  | nil =>
    have h1 : ¬ a.length < (a ++ ([] : Str)).length := by simp
    rw [if_neg h1]
    simp only [List.append_nil]
    cases s' with
    | nil =>
      have h2 : ¬ a.length < (a ++ ([] : Str)).length := by simp
      rw [if_neg h2]
      simp only [List.append_nil]
      exact exact k a ms nf op pc st pa an ha
    | cons c s'' =>
      have h2 : a.length < (a ++ c :: s'').length := by simp
      rw [if_pos h2]
      rw [show (c :: s'').headD ' ' = c from rfl]
      by_cases hany : st.any (fun n => n.label = some c) = true
      · rw [if_pos hany]
        obtain ⟨st1, ch, st2, e1, e2, e3, e4⟩ := insertList_decomp m (c :: s'') t rm c rfl st hany
        rw [e4, e1]
        exact desc a c s'' k ms nf op pc _ _ _ _ _ _ ch ha (.static e2 e3) (ihS ch (by rw [e1]; simp) (c :: s''))
      · rw [if_neg hany]
        have hno : ∀ x ∈ st, x.label ≠ some c := by
          intro x hx hlab
          apply hany
          rw [List.any_eq_true]
          exact ⟨x, hx, by simpa using hlab⟩
        by_cases hp : c = ':' ∧ pa.isSome = true
        · rw [if_pos hp]
          cases pa with
          | none => exact absurd hp.2 (by simp)
          | some ch =>
            rw [insertOpt_some]
            exact desc a c s'' k ms nf op pc _ _ _ _ _ _ ch ha (.param hp.1 hno) (ihP ch rfl _)
        · rw [if_neg hp]
          by_cases hq : c = '*' ∧ an.isSome = true
          · rw [if_pos hq]
            cases an with
            | none => exact absurd hq.2 (by simp)
            | some ch =>
              rw [insertOpt_some]
              exact desc a c s'' k ms nf op pc _ _ _ _ _ _ ch ha (.any hq.1 hno) (ihA ch rfl _)
          · rw [if_neg hq]
            refine newC a c s'' k ms nf op pc st pa an ha hno ?_ ?_
            · intro hc
              cases pa with
              | none => rfl
              | some _ => exact absurd ⟨hc, rfl⟩ hp
            · intro hc
              cases an with
              | none => rfl
              | some _ => exact absurd ⟨hc, rfl⟩ hq

/-! ### the relaxed invariant -/

/-- the facts about one node (`here` = tokens up to and including its prefix) -/
structure Local (D : Nat) (here : List Tok) (k : Kind) (pre : Str) (ms : List (Str × RouteMethod))
    (nf : Option RouteMethod) (pc : Nat) (st : List Node) (pa an : Option Node) : Prop where
  depth : arity here ≤ D
  kS : k = .static → Clean pre
  kP : k = .param → pre = [':']
  kA : k = .any → pre = ['*'] ∧ st = [] ∧ pa = none ∧ an = none ∧ pc = arity here
  noNf : NoNfKey ms
  recs : ∀ x ∈ ms, (norm x.2.ppath).1 = here ∧ x.2.pnames.length = arity here
  nfRec : ∀ rm, nf = some rm → (norm rm.ppath).1 = here ∧ rm.pnames.length = arity here
  distinct : labelsDistinct st = true
  stK : ∀ c ∈ st, c.kind = .static ∧ c.pre ≠ []
  paK : ∀ c, pa = some c → c.kind = .param
  anK : ∀ c, an = some c → c.kind = .any

mutual
/-- `tiNode` without "no dead leaves", with the byte classes of the prefixes (static text has no
    marker byte, so `headToks k pre = textToks pre` everywhere) -/
def tiR (D : Nat) (above : List Tok) : Node → Prop
  | .mk k pre ms nf _ pc st pa an =>
    Local D (above ++ textToks pre) k pre ms nf pc st pa an
    ∧ tiRL D (above ++ textToks pre) st ∧ tiRO D (above ++ textToks pre) pa
    ∧ tiRO D (above ++ textToks pre) an
def tiRL (D : Nat) (here : List Tok) : List Node → Prop
  | [] => True
  | c :: cs => tiR D here c ∧ tiRL D here cs
def tiRO (D : Nat) (here : List Tok) : Option Node → Prop
  | none => True
  | some c => tiR D here c
end

theorem tiR_mk (D : Nat) (above : List Tok) (k pre ms nf op pc st pa an) :
    tiR D above (.mk k pre ms nf op pc st pa an) ↔
      (Local D (above ++ textToks pre) k pre ms nf pc st pa an
      ∧ tiRL D (above ++ textToks pre) st ∧ tiRO D (above ++ textToks pre) pa
      ∧ tiRO D (above ++ textToks pre) an) := by
  rw [tiR]

theorem tiRL_iff (D : Nat) (here : List Tok) (st : List Node) : tiRL D here st ↔ ∀ c ∈ st, tiR D here c := by
  induction st with
  | nil => rw [tiRL]; simp
  | cons c cs ih => rw [tiRL, ih]; simp

theorem tiRO_iff (D : Nat) (here : List Tok) (o : Option Node) : tiRO D here o ↔ ∀ c, o = some c → tiR D here c := by
  cases o with
  | none => rw [tiRO]; simp
  | some c => rw [tiRO]; simp

/-! ### the node boundaries and the dead leaves of a tree, as texts relative to the point before the root prefix -/

def isDead (ms : List (Str × RouteMethod)) (nf : Option RouteMethod) (st : List Node) (pa an : Option Node) : Bool :=
  ms.isEmpty && nf.isNone && st.isEmpty && pa.isNone && an.isNone

mutual
def bounds : Node → List Str
  | .mk _ p _ _ _ _ st pa an => p :: (boundsL st ++ boundsO pa ++ boundsO an).map (p ++ ·)
def boundsL : List Node → List Str
  | [] => []
  | c :: cs => bounds c ++ boundsL cs
def boundsO : Option Node → List Str
  | none => []
  | some c => bounds c
end

mutual
def deads : Node → List Str
  | .mk _ p ms nf _ _ st pa an =>
    (if isDead ms nf st pa an then [p] else []) ++ (deadsL st ++ deadsO pa ++ deadsO an).map (p ++ ·)
def deadsL : List Node → List Str
  | [] => []
  | c :: cs => deads c ++ deadsL cs
def deadsO : Option Node → List Str
  | none => []
  | some c => deads c
end

theorem mem_boundsL {x : Str} {st : List Node} : x ∈ boundsL st ↔ ∃ c ∈ st, x ∈ bounds c := by
  induction st with
  | nil => rw [boundsL]; simp
  | cons c cs ih => rw [boundsL, List.mem_append, ih]; simp
theorem mem_boundsO {x : Str} {o : Option Node} : x ∈ boundsO o ↔ ∃ c, o = some c ∧ x ∈ bounds c := by
  cases o with
  | none => rw [boundsO]; simp
  | some c => rw [boundsO]; simp
theorem mem_deadsL {x : Str} {st : List Node} : x ∈ deadsL st ↔ ∃ c ∈ st, x ∈ deads c := by
  induction st with
  | nil => rw [deadsL]; simp
  | cons c cs ih => rw [deadsL, List.mem_append, ih]; simp
theorem mem_deadsO {x : Str} {o : Option Node} : x ∈ deadsO o ↔ ∃ c, o = some c ∧ x ∈ deads c := by
  cases o with
  | none => rw [deadsO]; simp
  | some c => rw [deadsO]; simp

def IsChild (c : Node) (st : List Node) (pa an : Option Node) : Prop := c ∈ st ∨ pa = some c ∨ an = some c

theorem isChild_mid {d ch : Node} {st1 st2 : List Node} {pa an : Option Node} :
    IsChild d (st1 ++ ch :: st2) pa an ↔ d = ch ∨ (d ∈ st1 ∨ d ∈ st2 ∨ pa = some d ∨ an = some d) := by
  simp only [IsChild, List.mem_append, List.mem_cons, or_assoc, or_left_comm]

theorem isChild_pa {d ch : Node} {st : List Node} {an : Option Node} :
    IsChild d st (some ch) an ↔ d = ch ∨ (d ∈ st ∨ an = some d) := by
  simp only [IsChild, Option.some.injEq, eq_comm (a := ch), or_left_comm]

theorem isChild_an {d ch : Node} {st : List Node} {pa : Option Node} :
    IsChild d st pa (some ch) ↔ d = ch ∨ (d ∈ st ∨ pa = some d) := by
  simp only [IsChild, Option.some.injEq, eq_comm (a := ch), or_comm, or_left_comm]

theorem Desc.child {c : Char} {ch ch' : Node} {st st' : List Node} {pa an pa' an' : Option Node}
    (h : Desc c ch ch' st pa an st' pa' an') : IsChild ch st pa an := by
  cases h with
  | static _ _ => exact Or.inl (List.mem_append_right _ List.mem_cons_self)
  | param _ _ => exact Or.inr (Or.inl rfl)
  | any _ _ => exact Or.inr (Or.inr rfl)

theorem Desc.child' {c : Char} {ch ch' : Node} {st st' : List Node} {pa an pa' an' : Option Node}
    (h : Desc c ch ch' st pa an st' pa' an') : IsChild ch' st' pa' an' := by
  cases h with
  | static _ _ => exact Or.inl (List.mem_append_right _ List.mem_cons_self)
  | param _ _ => exact Or.inr (Or.inl rfl)
  | any _ _ => exact Or.inr (Or.inr rfl)

/-- what is gathered from the three child slots of a node comes from one of its children -/
theorem mem_slots {α : Type} {f : Node → List α} {fL : List Node → List α} {fO : Option Node → List α}
    (hL : ∀ {x st}, x ∈ fL st ↔ ∃ c ∈ st, x ∈ f c) (hO : ∀ {x o}, x ∈ fO o ↔ ∃ c, o = some c ∧ x ∈ f c)
    {x : α} {st : List Node} {pa an : Option Node} :
    x ∈ fL st ++ fO pa ++ fO an ↔ ∃ c, IsChild c st pa an ∧ x ∈ f c := by
  simp only [List.mem_append, hL, hO, IsChild, or_and_right, exists_or, or_assoc]

theorem mem_slots_map {f : Node → List Str} {fL : List Node → List Str} {fO : Option Node → List Str}
    (hL : ∀ {x st}, x ∈ fL st ↔ ∃ c ∈ st, x ∈ f c) (hO : ∀ {x o}, x ∈ fO o ↔ ∃ c, o = some c ∧ x ∈ f c)
    {x p : Str} {st : List Node} {pa an : Option Node} :
    x ∈ (fL st ++ fO pa ++ fO an).map (p ++ ·) ↔ ∃ c, IsChild c st pa an ∧ ∃ y, y ∈ f c ∧ x = p ++ y := by
  simp only [List.mem_map, mem_slots hL hO]
  constructor
  · rintro ⟨y, ⟨c, hc, hy⟩, rfl⟩
    exact ⟨c, hc, y, hy, rfl⟩
  · rintro ⟨c, hc, y, hy, rfl⟩
    exact ⟨y, ⟨c, hc, hy⟩, rfl⟩

theorem mem_bounds_mk {x : Str} {k p ms nf op pc st pa an} :
    x ∈ bounds (.mk k p ms nf op pc st pa an) ↔
      x = p ∨ ∃ c, IsChild c st pa an ∧ ∃ y, y ∈ bounds c ∧ x = p ++ y := by
  rw [bounds, List.mem_cons, mem_slots_map mem_boundsL mem_boundsO]

theorem mem_deads_mk {x : Str} {k p ms nf op pc st pa an} :
    x ∈ deads (.mk k p ms nf op pc st pa an) ↔
      (x = p ∧ isDead ms nf st pa an = true) ∨ ∃ c, IsChild c st pa an ∧ ∃ y, y ∈ deads c ∧ x = p ++ y := by
  rw [deads, List.mem_append, mem_slots_map mem_deadsL mem_deadsO]
  refine or_congr ?_ Iff.rfl
  cases isDead ms nf st pa an <;> simp

end Router.Tree
