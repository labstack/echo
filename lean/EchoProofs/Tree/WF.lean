import EchoProofs.Tree.Insert
import EchoProofs.Tree.Corollaries
import EchoProofs.Lit
/-!
# The router theorems for every well-formed table, without the per-table run-time check

`Chain.lean` / `Corollaries.lean` prove the refinement `find t = route es` and its consequences for every tree
`t` that represents an entry list `es`.  `build_tableInvariant` (`Insert/Final.lean`) says that the tree of a
non-empty well-formed table represents the table; the tree of the empty table is the bare root, which
represents the empty list.  So the statements below need `wfTable rs = true` only (`represents_wf`).
-/
namespace Router.Tree
open Router Router.Spec
theorem represents_wf {rs : List Route} (h : wfTable rs = true) :
    Represents (build rs) (maxParam rs) (rs.map mkEntry) := by
  cases rs with
  | nil => exact represents_nil _
  | cons r rs => exact represents_of_tableInvariant (build_tableInvariant (r :: rs) (List.cons_ne_nil _ _) h)

/-- **L3 on the built tree = L1 on the table**, for every well-formed table -/
theorem find_eq_route_wf (rs : List Route) (m path : Str) (n : Nat) (hn : maxParam rs ≤ n)
    (h : wfTable rs = true) :
    ∃ o, OutRel (find (build rs) m path (List.replicate n [])) o ∧
      C02.OutEquiv o (route (rs.map mkEntry) m path) :=
  (represents_wf h).find_eq_route m path hn

/-- the tree model never fails on a value slice of at least `maxParam` slots, for every well-formed table -/
theorem find_table_no_panic_wf (rs : List Route) (m path : Str) (n : Nat) (hn : maxParam rs ≤ n)
    (h : wfTable rs = true) : find (build rs) m path (List.replicate n []) ≠ .panic :=
  (represents_wf h).no_panic m path hn

/-- **C01 on the tree model**, for every well-formed table -/
theorem tree_sound_wf (rs : List Route) (m path : Str) (n : Nat) (hn : maxParam rs ≤ n)
    (hwf : wfTable rs = true) (rm : RouteMethod) (vals : List Str)
    (h : find (build rs) m path (List.replicate n []) = .dispatch rm vals) :
    (inst (norm rm.ppath).1 vals = some path ∧ SlashFree (norm rm.ppath).1 vals
        ∧ vals.length = arity (norm rm.ppath).1)
    ∨ ((∃ w, inst (norm rm.ppath).1 w = some path) ∧ vals = rm.pnames.map (fun _ => [])) :=
  (represents_wf hwf).sound hn h

/-- **C05 on the tree model**, for every well-formed table -/
theorem tree_no_panic_wf (rs : List Route) (hwf : wfTable rs = true) :
    C05.NoPanic (C05.routerOf rs) (maxParam rs) :=
  (represents_wf hwf).noPanic

/-! ### the hypothesis is not vacuous -/

/-- a table with shared prefixes, a parameter, a wildcard and a split (`/us` splits `/users`) -/
def demoTable : List Route :=
  [⟨['G','E','T'], "/users".toList, 1⟩,
   ⟨['G','E','T'], "/users/:id".toList, 2⟩,
   ⟨['G','E','T'], "/users/:id/books".toList, 3⟩,
   ⟨['P','O','S','T'], "/users".toList, 4⟩,
   ⟨['G','E','T'], "/static/*".toList, 5⟩,
   ⟨['G','E','T'], "/us".toList, 6⟩]

theorem demoTable_wf : wfTable demoTable = true := by
  unfold demoTable; lit_chars; decide +kernel

example : wfTable demoTable = true := demoTable_wf

/-- the invariant of the demo table by the theorem (not by evaluation) -/
theorem demoTable_invariant : tableInvariant demoTable = (true, true) :=
  build_tableInvariant demoTable (List.cons_ne_nil _ _) demoTable_wf

theorem demoTable_maxParam : maxParam demoTable = 1 := by
  unfold demoTable; lit_chars; decide +kernel

example : maxParam demoTable = 1 := demoTable_maxParam

/-- routing on the demo table never fails and agrees with the reference search -/
example (m path : Str) : find (build demoTable) m path [[]] ≠ .panic :=
  find_table_no_panic_wf demoTable m path 1 (Nat.le_of_eq demoTable_maxParam) demoTable_wf

example (m path : Str) : ∃ o, OutRel (find (build demoTable) m path [[]]) o ∧
    C02.OutEquiv o (route (demoTable.map mkEntry) m path) :=
  find_eq_route_wf demoTable m path 1 (Nat.le_of_eq demoTable_maxParam) demoTable_wf

/-- an escaped colon or text after `*` makes a table ill-formed; so does a repeated route -/
example : wfTable [⟨['G','E','T'], "/a\\:b".toList, 1⟩] = false := by lit_chars; decide +kernel
example : wfTable [⟨['G','E','T'], "/a/*x".toList, 1⟩] = false := by lit_chars; decide +kernel
example : wfTable [⟨['G','E','T'], "/a/:x".toList, 1⟩, ⟨['G','E','T'], "/a/:y".toList, 2⟩] = false := by
  lit_chars; decide +kernel

end Router.Tree
