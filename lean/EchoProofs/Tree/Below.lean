import EchoProofs.Tree.Inv
/-!
# Derivatives of the residual set of a well-formed node

Under the tree invariant the operations of the reference search act on `below n` exactly
like the three child slots of the tree: the entries ending here are the node's own records,
`deriv (.lit c)` selects the static child labelled `c` (minus that first byte),
`deriv .param` / `deriv .any` select the param / any child.
-/
namespace Router.Tree
open Router Router.Spec

@[simp] theorem belowList_nil : belowList [] = [] := by rw [belowList]
@[simp] theorem belowList_cons (c : Node) (cs : List Node) : belowList (c :: cs) = resid c ++ belowList cs := by
  rw [belowList]
@[simp] theorem belowOpt_none : belowOpt none = [] := by rw [belowOpt]
@[simp] theorem belowOpt_some (c : Node) : belowOpt (some c) = resid c := by rw [belowOpt]
theorem below_mk (k pre ms nf op pc st pa an) : below (.mk k pre ms nf op pc st pa an) =
    (ownEntries ms nf).map (fun e => ([], e)) ++ belowList st ++ belowOpt pa ++ belowOpt an := by
  rw [below]

theorem resid_eq (c : Node) : resid c = prepend (headToks c.kind c.pre) (below c) := by
  cases c; rw [resid]; rfl

theorem headToks_static_ne_nil {pre : Str} (h : pre ≠ []) : ∃ c s, headToks .static pre = .lit c :: lits s ∧ pre = c :: s := by
  cases pre with
  | nil => exact absurd rfl h
  | cons c s => exact ⟨c, s, rfl, rfl⟩

/-- the residuals of a child never end at the parent: its first token is still to be read -/
theorem ends_resid_static (c : Node) (hk : c.kind = .static) (hp : c.pre ≠ []) : ends (resid c) = [] := by
  rw [resid_eq, hk]
  obtain ⟨ch, s, h, _⟩ := headToks_static_ne_nil hp
  rw [h]
  exact ends_prepend_cons _ _ _

theorem tiList_cons {D : Nat} {here : List Tok} {c : Node} {cs : List Node} (h : tiList D here (c :: cs) = true) :
    c.kind = .static ∧ c.pre ≠ [] ∧ tiNode D here c = true ∧ tiList D here cs = true := by
  simp only [tiList, Bool.and_eq_true, beq_iff_eq, Bool.not_eq_true', List.isEmpty_eq_false_iff] at h
  exact ⟨h.1.1.1, h.1.1.2, h.1.2, h.2⟩

theorem ends_belowList {D : Nat} {here : List Tok} : ∀ (st : List Node), tiList D here st = true →
    ends (belowList st) = [] := by
  intro st
  induction st with
  | nil => intro _; simp [ends]
  | cons c cs ih =>
    intro h
    obtain ⟨hk, hp, _, hcs⟩ := tiList_cons h
    simp only [belowList_cons, ends_append, ends_resid_static c hk hp, ih hcs, List.append_nil]

theorem tiOpt_some {D : Nat} {here : List Tok} {k : Kind} {c : Node} (h : tiOpt D here k (some c) = true) :
    c.kind = k ∧ tiNode D here c = true := by
  simpa [tiOpt] using h

theorem ends_belowOpt {D : Nat} {here : List Tok} {k : Kind} {t : Tok} (hk : ∀ pre, headToks k pre = [t])
    (o : Option Node) (h : tiOpt D here k o = true) : ends (belowOpt o) = [] := by
  cases o with
  | none => rw [belowOpt_none]; rfl
  | some c => rw [belowOpt_some, resid_eq, (tiOpt_some h).1, hk]; exact ends_prepend_cons _ _ _

/-- components of the invariant of a node -/
structure TIParts (D : Nat) (above : List Tok) (k : Kind) (pre : Str) (ms : List (Str × RouteMethod))
    (nf : Option RouteMethod) (pc : Nat) (st : List Node) (pa an : Option Node) : Prop where
  depth : arity (above ++ headToks k pre) ≤ D
  alive : (!ms.isEmpty || nf.isSome || !st.isEmpty || pa.isSome || an.isSome) = true
  kindParam : k = .param → pre = [':']
  kindAny : k = .any → pre = ['*'] ∧ st = [] ∧ pa = none ∧ an = none ∧ pc = arity (above ++ headToks k pre)
  noNf : NoNfKey ms
  recs : ∀ x ∈ ms, (norm x.2.ppath).1 = above ++ headToks k pre ∧ x.2.pnames.length = arity (above ++ headToks k pre)
  nfRec : ∀ rm, nf = some rm → (norm rm.ppath).1 = above ++ headToks k pre ∧ rm.pnames.length = arity (above ++ headToks k pre)
  distinct : labelsDistinct st = true
  kids : tiList D (above ++ headToks k pre) st = true
  kidP : tiOpt D (above ++ headToks k pre) .param pa = true
  kidA : tiOpt D (above ++ headToks k pre) .any an = true

theorem tiNode_parts {D : Nat} {above : List Tok} {k : Kind} {pre : Str} {ms nf op pc st pa an}
    (h : tiNode D above (.mk k pre ms nf op pc st pa an) = true) : TIParts D above k pre ms nf pc st pa an := by
  simp only [tiNode, Bool.and_eq_true, decide_eq_true_eq, List.all_eq_true, bne_iff_ne, ne_eq, beq_iff_eq] at h
  obtain ⟨⟨⟨⟨⟨⟨⟨⟨hd, hal⟩, hk⟩, hms⟩, hnf⟩, hdis⟩, hkids⟩, hp⟩, ha⟩ := h
  refine ⟨hd, by simpa using hal, ?_, ?_, ?_, ?_, ?_, hdis, hkids, hp, ha⟩
  · intro hkp; subst hkp; simpa using hk
  · intro hka; subst hka
    simp only [Bool.and_eq_true, beq_iff_eq, List.isEmpty_iff, Option.isNone_iff_eq_none] at hk
    exact ⟨hk.1.1.1.1, hk.1.1.1.2, hk.1.1.2, hk.1.2, hk.2⟩
  · intro x hx; exact (hms x hx).1.1
  · intro x hx; exact ⟨(hms x hx).1.2, (hms x hx).2⟩
  · intro rm hrm; subst hrm; simpa using hnf

theorem ends_below {D : Nat} {above : List Tok} {k pre ms nf op pc st pa an}
    (h : tiNode D above (.mk k pre ms nf op pc st pa an) = true) :
    ends (below (.mk k pre ms nf op pc st pa an)) = ownEntries ms nf := by
  have p := tiNode_parts h
  simp only [below_mk, ends_append, ends_own, ends_belowList st p.kids, ends_belowOpt (fun _ => rfl) pa p.kidP,
    ends_belowOpt (fun _ => rfl) an p.kidA, List.append_nil]

theorem deriv_resid_static_ne (t : Tok) (c : Node) (hk : c.kind = .static) (hp : c.pre ≠ [])
    (ht : ∀ ch, c.label = some ch → t ≠ .lit ch) : deriv t (resid c) = [] := by
  rw [resid_eq, hk]
  obtain ⟨ch, s, h, hpre⟩ := headToks_static_ne_nil hp
  rw [h]
  exact deriv_prepend_cons_ne _ _ _ _ fun heq => ht ch (by rw [Node.label, hpre]; rfl) heq.symm

theorem deriv_resid_static_same (c : Node) (ch : Char) (s : Str) (hk : c.kind = .static) (hp : c.pre = ch :: s) :
    deriv (.lit ch) (resid c) = residFrom s c := by
  rw [resid_eq, hk, hp]
  simp only [headToks, lits, List.map_cons]
  rw [deriv_prepend_cons_same]
  rfl

/-- the static child the Find loop would pick for byte `c` -/
def pick (c : Char) : List Node → Option Node
  | [] => none
  | n :: ns => if n.label = some c then some n else pick c ns

theorem deriv_belowList_none {D : Nat} {here : List Tok} (t : Tok) : ∀ (st : List Node),
    tiList D here st = true → (∀ n ∈ st, ∀ ch, n.label = some ch → t ≠ .lit ch) → deriv t (belowList st) = [] := by
  intro st
  induction st with
  | nil => intros; rw [belowList_nil]; rfl
  | cons n ns ih =>
    intro h hno
    obtain ⟨hk, hp, _, hcs⟩ := tiList_cons h
    rw [belowList_cons, deriv_append, ih hcs (fun x hx => hno x (List.mem_cons_of_mem _ hx)), List.append_nil]
    exact deriv_resid_static_ne t n hk hp (hno n List.mem_cons_self)

theorem deriv_lit_belowList {D : Nat} {here : List Tok} (c : Char) : ∀ (st : List Node),
    tiList D here st = true → labelsDistinct st = true →
    deriv (.lit c) (belowList st) =
      match pick c st with
      | some n => residFrom n.pre.tail n
      | none => [] := by
  intro st
  induction st with
  | nil => intros; simp [deriv, pick]
  | cons n ns ih =>
    intro h hd
    obtain ⟨hk, hp, _, hcs⟩ := tiList_cons h
    simp only [labelsDistinct, Bool.and_eq_true, List.all_eq_true, bne_iff_ne, ne_eq] at hd
    simp only [belowList_cons, deriv_append, pick]
    by_cases hl : n.label = some c
    · simp only [hl, if_true]
      obtain ⟨ch, s, _, hpre⟩ := headToks_static_ne_nil hp
      have hch : ch = c := by simpa [Node.label, hpre] using hl
      subst hch
      rw [deriv_resid_static_same n ch s hk hpre, hpre, List.tail_cons, List.append_right_eq_self]
      exact deriv_belowList_none _ ns hcs fun x hx ch' hx' heq =>
        hd.1 x hx (by rw [hx', hl, Tok.lit.inj heq])
    · simp only [hl, if_false]
      rw [ih hcs hd.2, List.append_left_eq_self]
      exact deriv_resid_static_ne _ n hk hp fun ch hch heq => hl (by rw [hch, Tok.lit.inj heq])

def belowOf : Option Node → R
  | some c => below c
  | none => []

theorem deriv_belowOpt {D : Nat} {here : List Tok} {k : Kind} {t' : Tok} (hk : ∀ pre, headToks k pre = [t'])
    (t : Tok) (o : Option Node) (h : tiOpt D here k o = true) :
    deriv t (belowOpt o) = if t' = t then belowOf o else [] := by
  cases o with
  | none => simp [deriv, belowOf]
  | some c =>
    rw [belowOpt_some, resid_eq, (tiOpt_some h).1, hk]
    split
    · next he => rw [he, deriv_prepend_cons_same]; exact prepend_nil _
    · next hne => exact deriv_prepend_cons_ne _ _ _ _ hne

/-- `deriv (.lit c)` of a well-formed node = the rest of the edge to the static child labelled `c` -/
theorem deriv_lit_below {D : Nat} {above : List Tok} {k pre ms nf op pc st pa an} (c : Char)
    (h : tiNode D above (.mk k pre ms nf op pc st pa an) = true) :
    deriv (.lit c) (below (.mk k pre ms nf op pc st pa an)) =
      match pick c st with
      | some n => residFrom n.pre.tail n
      | none => [] := by
  have p := tiNode_parts h
  simp only [below_mk, deriv_append, deriv_own, List.nil_append]
  rw [deriv_lit_belowList c st p.kids p.distinct, deriv_belowOpt (k := .param) (fun _ => rfl) _ pa p.kidP,
    deriv_belowOpt (k := .any) (fun _ => rfl) _ an p.kidA]
  simp

theorem deriv_param_below {D : Nat} {above : List Tok} {k pre ms nf op pc st pa an}
    (h : tiNode D above (.mk k pre ms nf op pc st pa an) = true) :
    deriv .param (below (.mk k pre ms nf op pc st pa an)) = belowOf pa := by
  have p := tiNode_parts h
  simp only [below_mk, deriv_append, deriv_own, List.nil_append]
  rw [deriv_belowList_none .param st p.kids (by intros; simp), deriv_belowOpt (k := .param) (fun _ => rfl) _ pa p.kidP,
    deriv_belowOpt (k := .any) (fun _ => rfl) _ an p.kidA]
  simp

theorem deriv_any_below {D : Nat} {above : List Tok} {k pre ms nf op pc st pa an}
    (h : tiNode D above (.mk k pre ms nf op pc st pa an) = true) :
    deriv .any (below (.mk k pre ms nf op pc st pa an)) = belowOf an := by
  have p := tiNode_parts h
  simp only [below_mk, deriv_append, deriv_own, List.nil_append]
  rw [deriv_belowList_none .any st p.kids (by intros; simp), deriv_belowOpt (k := .param) (fun _ => rfl) _ pa p.kidP,
    deriv_belowOpt (k := .any) (fun _ => rfl) _ an p.kidA]
  simp

/-! ### every well-formed subtree holds at least one record -/

theorem prepend_ne_nil {ts : List Tok} {r : R} (h : r ≠ []) : prepend ts r ≠ [] := by
  unfold prepend
  cases r with
  | nil => exact absurd rfl h
  | cons _ _ => simp

mutual
theorem below_ne_nil (D : Nat) (above : List Tok) : (n : Node) → tiNode D above n = true → below n ≠ []
  | .mk k pre ms nf op pc st pa an, h => by
    have p := tiNode_parts h
    rw [below_mk]
    have hal := p.alive
    simp only [Bool.or_eq_true, Bool.not_eq_true', List.isEmpty_eq_false_iff, Option.isSome_iff_ne_none] at hal
    intro hnil
    simp only [List.append_eq_nil_iff, List.map_eq_nil_iff] at hnil
    obtain ⟨⟨⟨hown, hl⟩, hpa⟩, han⟩ := hnil
    rcases hal with (((hms | hnf) | hst) | hpn) | han'
    · cases ms with
      | nil => exact hms rfl
      | cons _ _ => simp [ownEntries] at hown
    · cases nf with
      | none => exact hnf rfl
      | some _ => simp [ownEntries] at hown
    · exact belowList_ne_nil D _ st p.kids hst hl
    · exact belowOpt_ne_nil D _ .param pa p.kidP hpn hpa
    · exact belowOpt_ne_nil D _ .any an p.kidA han' han
theorem belowList_ne_nil (D : Nat) (here : List Tok) : (st : List Node) → tiList D here st = true → st ≠ [] →
    belowList st ≠ []
  | [], _, h => absurd rfl h
  | c :: cs, h, _ => by
    obtain ⟨_, _, hc, _⟩ := tiList_cons h
    rw [belowList_cons, resid_eq]
    intro hnil
    simp only [List.append_eq_nil_iff] at hnil
    exact prepend_ne_nil (below_ne_nil D here c hc) hnil.1
theorem belowOpt_ne_nil (D : Nat) (here : List Tok) (k : Kind) : (o : Option Node) → tiOpt D here k o = true →
    o ≠ none → belowOpt o ≠ []
  | none, _, h => absurd rfl h
  | some c, h, _ => by
    rw [belowOpt_some, resid_eq]
    exact prepend_ne_nil (below_ne_nil D here c (tiOpt_some h).2)
end

end Router.Tree
