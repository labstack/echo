import EchoProofs.Tree.Corollaries
import EchoProofs.Tree.Insert.Defs
/-!
# Frame lemma for the Find loop: spare value slots are never touched

For ARBITRARY trees (no invariant): a run of `findNode` that does not panic on the value slice
`pv` behaves identically on `pv ++ ext` and leaves `ext` untouched (`findNode_frame`).  The
same for `findStatic` / `findParam` and every state operation of the loop.

Consequences:

* `find_frame` / `find_replicate_frame` (Corollary A)  a non-panicking `find` does not depend on
  spare slots at the end of the slice
* `tree_length_irrelevant` (Corollary B)  for every table passing `tableInvariant`, the router
  model `C05.routerOf` is `C05.LengthIrrelevant`
* `C05_isolated_tree`, `C05_history_isolated_tree`  the C05 isolation theorems for the radix-tree
  model without router hypotheses other than the per-table check
-/
namespace Router

/-- the same state with spare slots `ext` appended to the value slice -/
def St.extend (st : St) (ext : List Str) : St := { st with pv := st.pv ++ ext }

@[simp] theorem St.extend_si (st : St) (ext : List Str) : (st.extend ext).si = st.si := rfl
@[simp] theorem St.extend_pi (st : St) (ext : List Str) : (st.extend ext).pi = st.pi := rfl
@[simp] theorem St.extend_pv (st : St) (ext : List Str) : (st.extend ext).pv = st.pv ++ ext := rfl
@[simp] theorem St.extend_best (st : St) (ext : List Str) : (st.extend ext).best = st.best := rfl
@[simp] theorem St.extend_panicked (st : St) (ext : List Str) : (st.extend ext).panicked = st.panicked := rfl

end Router

namespace Router.Tree
open Router

theorem getD_append_left (l ext : List Str) (i : Nat) (h : i < l.length) :
    (l ++ ext).getD i [] = l.getD i [] := by
  simp [List.getD, List.getElem?_append_left h]

theorem bool_of_not_true {b : Bool} (h : ¬ b = true) : b = false := by
  cases b <;> simp_all

/-- an operation that passes the out-of-range flag on (`a = true → b = true`) started without it if it ended
    without it -/
theorem np_of_mono {a b : Bool} (hm : a = true → b = true) (h : b = false) : a = false :=
  Bool.eq_false_iff.mpr fun ha => Bool.noConfusion ((hm ha).symm.trans h)

theorem setVal_mono (st : St) (i : Int) (v : Str) (h : st.panicked = true) :
    (setVal st i v).panicked = true := by
  unfold setVal
  split
  · rfl
  · exact h

theorem setVal_frame (st : St) (i : Int) (v : Str) (ext : List Str)
    (h : (setVal st i v).panicked = false) :
    setVal (st.extend ext) i v = (setVal st i v).extend ext := by
  unfold setVal at h ⊢
  by_cases hc : i < 0 ∨ i.toNat ≥ st.pv.length
  · simp [hc] at h
  · have hc' : ¬ (i < 0 ∨ i.toNat ≥ (st.extend ext).pv.length) := by
      simp only [St.extend_pv, List.length_append]
      omega
    rw [if_neg hc, if_neg hc']
    have hlt : i.toNat < st.pv.length := by omega
    simp only [St.extend, List.set_append_left _ _ hlt]

theorem leaveRestore_mono (k : Kind) (p : Nat) (st : St) (h : st.panicked = true) :
    (leaveRestore k p st).panicked = true := by
  by_cases hk : k = .static
  · subst hk; exact h
  · rw [leaveRestore_marker hk]
    split
    · rfl
    · exact h

theorem leaveRestore_frame (k : Kind) (p : Nat) (st : St) (ext : List Str)
    (h : (leaveRestore k p st).panicked = false) :
    leaveRestore k p (st.extend ext) = (leaveRestore k p st).extend ext := by
  by_cases hk : k = .static
  · subst hk; rfl
  · simp only [leaveRestore_marker hk, St.extend_pi, St.extend_pv, St.extend_si, List.length_append] at h ⊢
    by_cases hc : st.pi = 0 ∨ st.pi - 1 ≥ st.pv.length
    · simp [hc] at h
    · have hc' : ¬ (st.pi = 0 ∨ st.pi - 1 ≥ st.pv.length + ext.length) := by omega
      rw [if_neg hc, if_neg hc']
      have hlt : st.pi - 1 < st.pv.length := by omega
      simp only [St.extend, List.set_append_left _ _ hlt, getD_append_left _ _ _ hlt]

theorem leaveOut_mono (k : Kind) (p : Nat) (st : St) (h : st.panicked = true) :
    (leaveOut k p st).1.panicked = true := by
  unfold leaveOut
  simp [h]

theorem leaveOut_frame (k : Kind) (p : Nat) (st : St) (ext : List Str)
    (h : (leaveOut k p st).1.panicked = false) :
    leaveOut k p (st.extend ext) = ((leaveOut k p st).1.extend ext, (leaveOut k p st).2) := by
  unfold leaveOut at h ⊢
  by_cases hp : st.panicked = true
  · simp [hp] at h
  · simp only [St.extend_panicked, hp, if_false, Bool.false_eq_true] at h ⊢
    rw [leaveRestore_frame k p st ext h]

theorem enterParam_mono (path : Str) (leaf : Bool) (st : St) (h : st.panicked = true) :
    (enterParam path leaf st).panicked = true := by
  unfold enterParam
  exact setVal_mono _ _ _ h

theorem enterParam_frame (path : Str) (leaf : Bool) (st : St) (ext : List Str)
    (h : (enterParam path leaf st).panicked = false) :
    enterParam path leaf (st.extend ext) = (enterParam path leaf st).extend ext := by
  unfold enterParam at h ⊢
  simp only [St.extend_si, St.extend_pi] at h ⊢
  rw [setVal_frame _ _ _ ext h]
  rfl

theorem nodeEnd_panicked (m : Str) (ms : List (Str × RouteMethod)) (nf : Option RouteMethod) (op : Str)
    (atEnd : Bool) (st : St) : (nodeEnd m ms nf op atEnd st).1.panicked = st.panicked := rfl

theorem nodeEnd_si (m : Str) (ms : List (Str × RouteMethod)) (nf : Option RouteMethod) (op : Str)
    (atEnd : Bool) (st : St) : (nodeEnd m ms nf op atEnd st).1.si = st.si := rfl

theorem nodeEnd_frame (m : Str) (ms : List (Str × RouteMethod)) (nf : Option RouteMethod) (op : Str)
    (atEnd : Bool) (st : St) (ext : List Str) :
    nodeEnd m ms nf op atEnd (st.extend ext) =
      ((nodeEnd m ms nf op atEnd st).1.extend ext, (nodeEnd m ms nf op atEnd st).2) := rfl

/-- the Any block after the value was stored -/
def anyRest (m : Str) (c : Node) (len : Nat) (st : St) : St × Option RouteMethod :=
  let st := { st with pi := st.pi + 1, si := st.si + len }
  match findMethod c.methods m with
  | some h => (st, some h)
  | none =>
    let st := { st with best := if st.best.isNone then some (bestOf c) else st.best }
    match c.nf with
    | some h => (st, some h)
    | none => (leaveRestore c.kind c.pre.length st, none)

theorem anyBlock_some (path m : Str) (c : Node) (st : St) :
    anyBlock path m (some c) st =
      anyRest m c (path.drop st.si).length (setVal st ((c.paramsCount : Int) - 1) (path.drop st.si)) := rfl

theorem anyRest_mono (m : Str) (c : Node) (len : Nat) (st : St) (h : st.panicked = true) :
    (anyRest m c len st).1.panicked = true := by
  unfold anyRest
  cases findMethod c.methods m with
  | some r => exact h
  | none =>
    cases c.nf with
    | some r => exact h
    | none => exact leaveRestore_mono _ _ _ h

theorem anyRest_frame (m : Str) (c : Node) (len : Nat) (st : St) (ext : List Str)
    (h : (anyRest m c len st).1.panicked = false) :
    anyRest m c len (st.extend ext) = ((anyRest m c len st).1.extend ext, (anyRest m c len st).2) := by
  unfold anyRest at h ⊢
  revert h
  cases findMethod c.methods m with
  | some r => intro _; rfl
  | none =>
    cases c.nf with
    | some r => intro _; rfl
    | none =>
      intro h
      refine Prod.ext ?_ rfl
      exact leaveRestore_frame _ _ _ ext h

theorem anyBlock_mono (path m : Str) (an : Option Node) (st : St) (h : st.panicked = true) :
    (anyBlock path m an st).1.panicked = true := by
  cases an with
  | none => exact h
  | some c =>
    rw [anyBlock_some]
    exact anyRest_mono _ _ _ _ (setVal_mono _ _ _ h)

theorem anyBlock_frame (path m : Str) (an : Option Node) (st : St) (ext : List Str)
    (h : (anyBlock path m an st).1.panicked = false) :
    anyBlock path m an (st.extend ext) =
      ((anyBlock path m an st).1.extend ext, (anyBlock path m an st).2) := by
  cases an with
  | none => rfl
  | some c =>
    rw [anyBlock_some] at h ⊢
    rw [anyBlock_some]
    simp only [St.extend_si]
    have hs := np_of_mono (anyRest_mono _ _ _ _) h
    rw [setVal_frame _ _ _ ext hs]
    exact anyRest_frame _ _ _ _ ext h

/-- the Any block and the exit of the node: `finishNode` after `.param` or `.any` -/
def anyStage (path m : Str) (k : Kind) (p : Nat) (an : Option Node) (st : St) : St × Res :=
  match anyBlock path m an st with
  | (st', some rm) => (st', .hit rm)
  | (st', none) => leaveOut k p st'

theorem anyStage_mono (path m : Str) (k : Kind) (p : Nat) (an : Option Node) (st : St)
    (h : st.panicked = true) : (anyStage path m k p an st).1.panicked = true := by
  have ha := anyBlock_mono path m an st h
  unfold anyStage
  generalize anyBlock path m an st = x at ha
  obtain ⟨st', r⟩ := x
  cases r with
  | some rm => exact ha
  | none => exact leaveOut_mono _ _ _ ha

theorem anyStage_frame (path m : Str) (k : Kind) (p : Nat) (an : Option Node) (st : St)
    (ext : List Str) (h : (anyStage path m k p an st).1.panicked = false) :
    anyStage path m k p an (st.extend ext) =
      ((anyStage path m k p an st).1.extend ext, (anyStage path m k p an st).2) := by
  unfold anyStage at h ⊢
  have ha : (anyBlock path m an st).1.panicked = false := by
    refine np_of_mono (fun hc => ?_) h
    generalize anyBlock path m an st = x at hc
    obtain ⟨st', r⟩ := x
    cases r with
    | some rm => exact hc
    | none => exact leaveOut_mono _ _ _ hc
  rw [anyBlock_frame path m an st ext ha]
  generalize anyBlock path m an st = x at h
  obtain ⟨st', r⟩ := x
  cases r with
  | some rm => rfl
  | none => exact leaveOut_frame _ _ _ ext h

theorem finishNode_mono (path m : Str) (k : Kind) (p : Nat) (an : Option Node) (st : St) (nx : Next)
    (h : st.panicked = true) : (finishNode path m k p an st nx).1.panicked = true := by
  cases nx with
  | hit rm => exact h
  | leave => exact leaveOut_mono _ _ _ h
  | param => exact anyStage_mono path m k p an st h
  | any => exact anyStage_mono path m k p an st h

theorem finishNode_frame (path m : Str) (k : Kind) (p : Nat) (an : Option Node) (st : St) (nx : Next)
    (ext : List Str) (h : (finishNode path m k p an st nx).1.panicked = false) :
    finishNode path m k p an (st.extend ext) nx =
      ((finishNode path m k p an st nx).1.extend ext, (finishNode path m k p an st nx).2) := by
  cases nx with
  | hit rm => rfl
  | leave => exact leaveOut_frame _ _ _ ext h
  | param => exact anyStage_frame path m k p an st ext h
  | any => exact anyStage_frame path m k p an st ext h

theorem findNode_panicked (path m : Str) (n : Node) (st : St) (h : st.panicked = true) :
    findNode path m n st = (st, .leave) := by
  obtain ⟨k, pre, ms, nf, op, pc, sts, pa, an⟩ := n
  rw [findNode_unfold]
  simp [h]

theorem findNode_mono (path m : Str) (n : Node) (st : St) (h : st.panicked = true) :
    (findNode path m n st).1.panicked = true := by
  rw [findNode_panicked path m n st h]; exact h

def NodeFrame (path m : Str) (ext : List Str) (n : Node) : Prop :=
  ∀ st : St, (findNode path m n st).1.panicked = false →
    findNode path m n (st.extend ext) = ((findNode path m n st).1.extend ext, (findNode path m n st).2)

/-- the Static block of `findNode` -/
def sBlock (path m : Str) (sts : List Node) (st : St) : St × Next :=
  match path.drop st.si with
  | c :: _ => staticBlock (findStatic path m c sts st) st
  | [] => (st, Next.param)

theorem staticBlock_some_fst (ck : Kind) (x : St × Res) (st : St) :
    (staticBlock (some (ck, x.1, x.2)) st).1 = x.1 := by
  obtain ⟨s, r⟩ := x
  cases r <;> rfl

theorem sBlock_frame (path m : Str) (sts : List Node) (ext : List Str)
    (ih : ∀ n ∈ sts, NodeFrame path m ext n) (st : St)
    (h : (sBlock path m sts st).1.panicked = false) :
    sBlock path m sts (st.extend ext) =
      ((sBlock path m sts st).1.extend ext, (sBlock path m sts st).2) := by
  unfold sBlock at h ⊢
  simp only [St.extend_si] at h ⊢
  cases hd : path.drop st.si with
  | nil => rfl
  | cons c rest =>
    simp only [hd, findStatic_eq_pick] at h ⊢
    cases hp : pick c sts with
    | none => rfl
    | some n =>
      simp only [hp, Option.map_some] at h ⊢
      rw [staticBlock_some_fst n.kind (findNode path m n st) st] at h
      rw [ih n (pick_mem hp).1 st h]
      generalize findNode path m n st = x
      obtain ⟨s, r⟩ := x
      cases r <;> rfl

theorem paramBlock_some_fst (x : St × Res) (st : St) : (paramBlock (some x) st).1 = x.1 := by
  obtain ⟨s, r⟩ := x
  cases r <;> rfl

theorem pBlock_mono (path m : Str) (pa : Option Node) (st : St) (h : st.panicked = true) :
    (paramBlock (findParam path m pa st) st).1.panicked = true := by
  cases pa with
  | none => rw [findParam]; exact h
  | some c =>
    rw [findParam]
    simp only [paramBlock_some_fst]
    exact findNode_mono _ _ _ _ (enterParam_mono _ _ _ h)

theorem pBlock_frame (path m : Str) (pa : Option Node) (ext : List Str)
    (ih : ∀ n, pa = some n → NodeFrame path m ext n) (st : St)
    (h : (paramBlock (findParam path m pa st) st).1.panicked = false) :
    paramBlock (findParam path m pa (st.extend ext)) (st.extend ext) =
      ((paramBlock (findParam path m pa st) st).1.extend ext,
       (paramBlock (findParam path m pa st) st).2) := by
  cases pa with
  | none => rw [findParam, findParam]; rfl
  | some c =>
    rw [findParam] at h
    rw [findParam, findParam]
    simp only [paramBlock_some_fst] at h ⊢
    have he := np_of_mono (findNode_mono path m c _) h
    rw [enterParam_frame _ _ _ ext he, ih c rfl _ h]
    generalize findNode path m c (enterParam path (isLeafNode c) st) = x
    obtain ⟨s, r⟩ := x
    cases r <;> rfl

/-- the Param block and what follows it -/
def pStage (path m : Str) (k : Kind) (p : Nat) (pa an : Option Node) (st : St) : St × Res :=
  if (path.drop st.si).isEmpty then finishNode path m k p an st .any
  else
    match paramBlock (findParam path m pa st) st with
    | (st, nx) => finishNode path m k p an st nx

theorem pStage_mono (path m : Str) (k : Kind) (p : Nat) (pa an : Option Node) (st : St)
    (h : st.panicked = true) : (pStage path m k p pa an st).1.panicked = true := by
  unfold pStage
  split
  · exact finishNode_mono _ _ _ _ _ _ _ h
  · exact finishNode_mono _ _ _ _ _ _ _ (pBlock_mono path m pa st h)

theorem pStage_frame (path m : Str) (k : Kind) (p : Nat) (pa an : Option Node) (ext : List Str)
    (ih : ∀ n, pa = some n → NodeFrame path m ext n) (st : St)
    (h : (pStage path m k p pa an st).1.panicked = false) :
    pStage path m k p pa an (st.extend ext) =
      ((pStage path m k p pa an st).1.extend ext, (pStage path m k p pa an st).2) := by
  unfold pStage at h ⊢
  simp only [St.extend_si] at h ⊢
  by_cases he : (path.drop st.si).isEmpty = true
  · simp only [he, if_true] at h ⊢
    exact finishNode_frame _ _ _ _ _ _ _ ext h
  · simp only [he, if_false, Bool.false_eq_true] at h ⊢
    have hb := np_of_mono (finishNode_mono path m k p an _ _) h
    rw [pBlock_frame path m pa ext ih st hb]
    exact finishNode_frame _ _ _ _ _ _ _ ext h

/-- everything after the Static block -/
def afterS (path m : Str) (k : Kind) (p : Nat) (pa an : Option Node) : St × Next → St × Res
  | (st, .param) => pStage path m k p pa an st
  | (st, nx) => finishNode path m k p an st nx

theorem afterS_mono (path m : Str) (k : Kind) (p : Nat) (pa an : Option Node) (st : St) (nx : Next)
    (h : st.panicked = true) : (afterS path m k p pa an (st, nx)).1.panicked = true := by
  cases nx with
  | param => exact pStage_mono _ _ _ _ _ _ _ h
  | hit rm => exact finishNode_mono _ _ _ _ _ _ _ h
  | any => exact finishNode_mono _ _ _ _ _ _ _ h
  | leave => exact finishNode_mono _ _ _ _ _ _ _ h

theorem afterS_frame (path m : Str) (k : Kind) (p : Nat) (pa an : Option Node) (ext : List Str)
    (ih : ∀ n, pa = some n → NodeFrame path m ext n) (st : St) (nx : Next)
    (h : (afterS path m k p pa an (st, nx)).1.panicked = false) :
    afterS path m k p pa an (st.extend ext, nx) =
      ((afterS path m k p pa an (st, nx)).1.extend ext, (afterS path m k p pa an (st, nx)).2) := by
  cases nx with
  | param => exact pStage_frame path m k p pa an ext ih st h
  | hit rm => exact finishNode_frame _ _ _ _ _ _ _ ext h
  | any => exact finishNode_frame _ _ _ _ _ _ _ ext h
  | leave => exact finishNode_frame _ _ _ _ _ _ _ ext h

theorem bodyOf_eq (path m : Str) (k : Kind) (pre : Str) (ms : List (Str × RouteMethod))
    (nf : Option RouteMethod) (op : Str) (sts : List Node) (pa an : Option Node) (st : St) :
    bodyOf path m k pre ms nf op sts pa an st =
      match nodeEnd m ms nf op (path.drop st.si).isEmpty st with
      | (st, some rm) => (st, .hit rm)
      | (st, none) => afterS path m k pre.length pa an (sBlock path m sts st) := by
  rfl

theorem body_frame (path m : Str) (k : Kind) (pre : Str) (ms : List (Str × RouteMethod))
    (nf : Option RouteMethod) (op : Str) (sts : List Node) (pa an : Option Node) (ext : List Str)
    (ihS : ∀ n ∈ sts, NodeFrame path m ext n) (ihP : ∀ n, pa = some n → NodeFrame path m ext n)
    (st : St) (h : (bodyOf path m k pre ms nf op sts pa an st).1.panicked = false) :
    bodyOf path m k pre ms nf op sts pa an (st.extend ext) =
      ((bodyOf path m k pre ms nf op sts pa an st).1.extend ext,
       (bodyOf path m k pre ms nf op sts pa an st).2) := by
  rw [bodyOf_eq] at h ⊢
  rw [bodyOf_eq]
  simp only [St.extend_si, nodeEnd_frame] at h ⊢
  generalize nodeEnd m ms nf op (path.drop st.si).isEmpty st = x at h ⊢
  obtain ⟨st1, e⟩ := x
  cases e with
  | some rm => rfl
  | none =>
    simp only at h ⊢
    have hs := np_of_mono (afterS_mono path m k pre.length pa an _ _) h
    rw [sBlock_frame path m sts ext ihS st1 hs]
    generalize sBlock path m sts st1 = y at hs h ⊢
    obtain ⟨st2, nx⟩ := y
    exact afterS_frame path m k pre.length pa an ext ihP st2 nx h

theorem node_frame_step (path m : Str) (ext : List Str) (k : Kind) (pre : Str)
    (ms : List (Str × RouteMethod)) (nf : Option RouteMethod) (op : Str) (pc : Nat) (sts : List Node)
    (pa an : Option Node)
    (ihS : ∀ n ∈ sts, NodeFrame path m ext n) (ihP : ∀ n, pa = some n → NodeFrame path m ext n) :
    NodeFrame path m ext (.mk k pre ms nf op pc sts pa an) := by
  intro st h
  rw [findNode_unfold] at h ⊢
  rw [findNode_unfold]
  simp only [St.extend_panicked, St.extend_si] at h ⊢
  by_cases hp : st.panicked = true
  · simp [hp] at h
  · simp only [hp, if_false, Bool.false_eq_true] at h ⊢
    by_cases hl : (if k = .static then lcp (path.drop st.si) pre else 0) ≠ (if k = .static then pre.length else 0)
    · simp only [if_pos hl]
    · simp only [if_neg hl] at h ⊢
      exact body_frame path m k pre ms nf op sts pa an ext ihS ihP _ h

theorem node_frame (path m : Str) (ext : List Str) : (n : Node) → NodeFrame path m ext n :=
  node_induct fun k pre ms nf op pc sts pa an ihS ihP _ =>
    node_frame_step path m ext k pre ms nf op pc sts pa an ihS ihP

theorem list_frame (path m : Str) (ext : List Str) : (l : List Node) → ∀ n ∈ l, NodeFrame path m ext n :=
  list_induct fun k pre ms nf op pc sts pa an ihS ihP _ =>
    node_frame_step path m ext k pre ms nf op pc sts pa an ihS ihP

theorem opt_frame (path m : Str) (ext : List Str) : (o : Option Node) → ∀ n, o = some n → NodeFrame path m ext n :=
  opt_induct fun k pre ms nf op pc sts pa an ihS ihP _ =>
    node_frame_step path m ext k pre ms nf op pc sts pa an ihS ihP

/-- **Frame lemma** — a run of `findNode` that does not panic never touches spare slots at the end of
    the value slice: on `pv ++ ext` it does exactly the same and leaves `ext` in place.  No
    hypothesis on the tree. -/
theorem findNode_frame (path m : Str) (n : Node) (st : St) (ext : List Str)
    (h : (findNode path m n st).1.panicked = false) :
    findNode path m n (st.extend ext) = ((findNode path m n st).1.extend ext, (findNode path m n st).2) :=
  node_frame path m ext n st h

theorem findStatic_frame (path m : Str) (c : Char) (sts : List Node) (st : St) (ext : List Str)
    (h : ∀ r, findStatic path m c sts st = some r → r.2.1.panicked = false) :
    findStatic path m c sts (st.extend ext) =
      (findStatic path m c sts st).map fun r => (r.1, r.2.1.extend ext, r.2.2) := by
  simp only [findStatic_eq_pick] at h ⊢
  cases hp : pick c sts with
  | none => rfl
  | some n =>
    simp only [hp, Option.map_some] at h ⊢
    rw [findNode_frame path m n st ext (h _ rfl)]

theorem findParam_frame (path m : Str) (pa : Option Node) (st : St) (ext : List Str)
    (h : ∀ r, findParam path m pa st = some r → r.1.panicked = false) :
    findParam path m pa (st.extend ext) =
      (findParam path m pa st).map fun r => (r.1.extend ext, r.2) := by
  cases pa with
  | none => rw [findParam, findParam]; rfl
  | some c =>
    rw [findParam] at h
    rw [findParam, findParam]
    have h1 := h _ rfl
    have he := np_of_mono (findNode_mono path m c _) h1
    simp only [Option.map_some]
    rw [enterParam_frame _ _ _ ext he, findNode_frame path m c _ ext h1]

/-! ## Corollary A: `find` does not see spare slots -/

theorem find_of_panicked {t : Node} {m path : Str} {pv : List Str}
    (h : (findNode path m t ⟨0, 0, pv, none, false⟩).1.panicked = true) : find t m path pv = .panic := by
  unfold find
  generalize findNode path m t ⟨0, 0, pv, none, false⟩ = x at h
  obtain ⟨st, r⟩ := x
  simp only at h
  simp [h]

/-- a non-panicking `find` gives the same outcome (same record, same values) with any spare slots
    appended to the value slice -/
theorem find_frame (t : Node) (m path : Str) (pv ext : List Str) (h : find t m path pv ≠ .panic) :
    find t m path (pv ++ ext) = find t m path pv := by
  have hx : (findNode path m t ⟨0, 0, pv, none, false⟩).1.panicked = false :=
    Bool.eq_false_iff.mpr fun hc => h (find_of_panicked hc)
  unfold find at h ⊢
  have e : (⟨0, 0, pv ++ ext, none, false⟩ : St) = St.extend ⟨0, 0, pv, none, false⟩ ext := rfl
  rw [e, findNode_frame path m t _ ext hx]
  generalize findNode path m t ⟨0, 0, pv, none, false⟩ = x at hx h ⊢
  obtain ⟨st, r⟩ := x
  simp only at hx
  simp only [St.extend_panicked, St.extend_pv, St.extend_best, hx, Bool.false_eq_true, if_false,
    List.length_append] at h ⊢
  have key : ∀ rm : RouteMethod,
      (if rm.pnames.length > st.pv.length then Outcome.panic
        else .dispatch rm (st.pv.take rm.pnames.length)) ≠ .panic →
      (if rm.pnames.length > st.pv.length + ext.length then Outcome.panic
        else .dispatch rm ((st.pv ++ ext).take rm.pnames.length)) =
      (if rm.pnames.length > st.pv.length then Outcome.panic
        else .dispatch rm (st.pv.take rm.pnames.length)) := by
    intro rm hne
    by_cases hgt : rm.pnames.length > st.pv.length
    · simp [hgt] at hne
    · have hgt' : ¬ rm.pnames.length > st.pv.length + ext.length := by omega
      rw [if_neg hgt, if_neg hgt', List.take_append_of_le_length (by omega)]
  cases r with
  | hit rm => exact key rm h
  | leave =>
    simp only at h ⊢
    cases hb : st.best with
    | none => rfl
    | some b =>
      simp only [hb] at h ⊢
      cases hnf : b.nf with
      | none => rfl
      | some rm =>
        simp only [hnf] at h ⊢
        exact key rm h

/-- **Corollary A** -/
theorem find_replicate_frame (t : Node) (m path : Str) (n : Nat)
    (h : find t m path (List.replicate n []) ≠ .panic) :
    ∀ k, find t m path (List.replicate (n + k) []) = find t m path (List.replicate n []) := by
  intro k
  rw [← List.replicate_append_replicate, find_frame t m path _ _ h]

/-! ## Corollary B: the router model of a checked table is length-irrelevant -/

/-- C05: the router of a table whose tree represents some entry list does not see spare value slots -/
theorem Represents.lengthIrrelevant {rs : List Route} {es : List Spec.Entry}
    (h : Represents (build rs) (maxParam rs) es) : C05.LengthIrrelevant (C05.routerOf rs) (maxParam rs) := by
  intro m p n hn
  have := find_replicate_frame (build rs) m p (maxParam rs) (h.no_panic m p (Nat.le_refl _)) (n - maxParam rs)
  rwa [Nat.add_sub_of_le hn, ← routerOf_apply, ← routerOf_apply] at this

/-- **Corollary B** -/
theorem tree_length_irrelevant (rs : List Route) (hinv : tableInvariant rs = (true, true)) :
    C05.LengthIrrelevant (C05.routerOf rs) (maxParam rs) :=
  (represents_of_tableInvariant hinv).lengthIrrelevant

/-- **C05_isolated on the tree model**: for a table passing the per-table check, a request observes
    the same on any recycled context as on a fresh one -/
theorem C05_isolated_tree (rs : List Route) (hinv : tableInvariant rs = (true, true))
    (dirty : C05.Ctx) (r : C05.Request) :
    (C05.serveWith (C05.routerOf rs) (maxParam rs) (some dirty) r).1 =
      (C05.serveWith (C05.routerOf rs) (maxParam rs) none r).1 :=
  C05.C05_isolated _ _ (tree_length_irrelevant rs hinv) (C05.routerOf_valuesPerName rs) dirty r

/-- the route table in force at every request of a history satisfies `P` -/
def TablesOk (P : List Route → Prop) : List Route → List C05.Step → Prop
  | _, [] => True
  | routes, .register rt :: ss => TablesOk P (routes ++ [rt]) ss
  | routes, .request _ :: ss => P routes ∧ TablesOk P routes ss
  | routes, .borrow _ _ :: ss => TablesOk P routes ss

/-- isolation along a history needs length-irrelevance only of the routers of the tables in force at its
    requests: each request is served on the pooled context as on a fresh one (`C05.C05_isolated`) -/
theorem history_isolated {P : List Route → Prop}
    (hP : ∀ rs, P rs → C05.LengthIrrelevant (C05.routerOf rs) (maxParam rs)) :
    ∀ (steps : List C05.Step) (w : C05.World), TablesOk P w.routes steps →
      C05.runSteps w steps = C05.expected w.routes steps := by
  intro steps
  induction steps with
  | nil => intro w _; rfl
  | cons s ss ih =>
    intro w hok
    cases s with
    | register rt => exact ih _ hok
    | borrow id prog => exact ih _ hok
    | request r =>
      obtain ⟨w', e, hw⟩ :=
        C05.runSteps_request w r ss (hP _ hok.1) (C05.routerOf_valuesPerName _)
      rw [e, ih w' (hw ▸ hok.2), hw]
      rfl

/-- **C05_history_isolated on the tree model**: for every history of requests (handlers that dirty
    everything, panic or fail) interleaved with registrations, starting from any world (any pool
    content), in which the table in force at each request passes the per-table check: every request
    observes exactly what it would observe alone on a fresh instance with the routes registered so far. -/
theorem C05_history_isolated_tree :
    ∀ (steps : List C05.Step) (w : C05.World),
      TablesOk (fun routes => tableInvariant routes = (true, true)) w.routes steps →
      C05.runSteps w steps = C05.expected w.routes steps :=
  history_isolated tree_length_irrelevant

/-- the same with the invariant assumed for EVERY route list.  Note that this
    hypothesis is stronger than needed and not satisfiable (a table with a structural duplicate fails
    the check: `tableInvariant [⟨GET,/a,1⟩, ⟨GET,/a,2⟩] = (true, false)`), so this form is vacuous;
    `C05_history_isolated_tree` only needs the check for the tables in force at the requests
    of the history and is the statement to use. -/
theorem C05_history_isolated_tree_all (hinv : ∀ routes, tableInvariant routes = (true, true)) :
    ∀ (steps : List C05.Step) (w : C05.World), C05.runSteps w steps = C05.expected w.routes steps :=
  C05.C05_history_isolated (fun routes => tree_length_irrelevant routes (hinv routes))
    C05.routerOf_valuesPerName

end Router.Tree
