import EchoProofs.Tree.Dirty.Node
import EchoProofs.Tree.Complete
import EchoProofs.C03Method
import EchoProofs.Lit
/-!
# `Router.Find` does not depend on what the value slice held before

`Router.Find` is public: a handler may call it again on its own, already used context ("internal forward"),
and then the value slice still holds the values of the previous match.  This file shows that this content is
never observable (state-level statement (A): `findNode_content` in `Dirty/Node.lean`):

* `find_content` — on every tree satisfying the invariant `tiNode`, two value slices of the same length give
  the same outcome of `find`: the same record with the same values, the same 404 / 405 — or both runs index
  out of range.
* `find_content_eq` / `find_content_irrelevant` — **(B), in the strong form, without exception**: for every
  table of representable patterns (`okTable`; re-registrations allowed) and every slice `pv`,
  `find (build rs) m path pv = find (build rs) m path (List.replicate pv.length [])`.
  One might expect an exception for the best-node fallback (known finding F3: a `RouteNotFound` record reached
  through `previousBestMatchNode` gets `pvalues[:len(pnames)]` as they are at the end of the search).  There
  is none: the best node at depth `k` was entered through `k` parameter slots, and every slot that was
  entered is blanked by `backtrackToNextNodeKind` on the way out; so the fallback sees blank values also on
  a dirty slice (`example`s at the end).
  In the proof this is the relation `SimNf`: the two slices are required to agree below
  `max pi (number of names of the best node's not-found record)`, which is preserved because a best node is
  only remembered when that number is `≤ pi`.
* `tree_forward_sound` — an internal forward to a path matched by a route registered for the request's
  method leaves the context exactly as a fresh request for that path does.
* `tree_sound_forward`, `tree_no_panic_forward`, `tree_dispatch_method_forward` — the C01 / C05 / C03
  statements of the tree model for an arbitrary initial content of the value slice.
* the hypothesis `tiNode` cannot be dropped: `badTree` is a tree whose wildcard child has a wrong
  `paramsCount`, and there the old content of the slice IS dispatched as a parameter value.
-/
namespace Router.Tree
open Router Router.Spec

/-! ## `find` on trees satisfying the invariant -/

theorem take_eq_of_low {l l' : List Str} {n : Nat} (h : ∀ i, i < n → l[i]? = l'[i]?) :
    l.take n = l'.take n := by
  apply List.ext_getElem?
  intro i
  simp only [List.getElem?_take]
  split
  · exact h i (by assumption)
  · rfl

theorem sim_initial (pv pv' : List Str) (hlen : pv.length = pv'.length) :
    SimNf ⟨0, 0, pv, none, false⟩ ⟨0, 0, pv', none, false⟩ :=
  ⟨rfl, rfl, rfl, rfl, hlen, fun i hi => by
    have : i < 0 ∨ i < 0 := hi
    omega⟩

/-- **the outcome of `find` depends on the length of the value slice only**, on every tree satisfying the
    invariant: same record with the same values, same 404 / 405 — or both runs index out of range -/
theorem find_content (t : Node) (D : Nat) (hk : t.kind = .static) (hti : tiNode D [] t = true)
    (m path : Str) (pv pv' : List Str) (hlen : pv.length = pv'.length) :
    find t m path pv = find t m path pv' := by
  have hpi : (⟨0, 0, pv, none, false⟩ : St).pi = arity ([] ++ headToks t.kind t.pre) := by
    rw [hk, arity_static]; rfl
  obtain ⟨hpan, himp⟩ := findNode_content_nf path m D [] t hti _ _ (sim_initial pv pv' hlen) hpi
  cases hc : (findNode path m t ⟨0, 0, pv, none, false⟩).1.panicked with
  | true => rw [find_of_panicked hc, find_of_panicked (hpan ▸ hc)]
  | false =>
  obtain ⟨hres, hsim, hok⟩ := himp hc
  unfold find
  generalize findNode path m t ⟨0, 0, pv, none, false⟩ = x at hres hsim hok
  generalize findNode path m t ⟨0, 0, pv', none, false⟩ = y at hres hsim
  obtain ⟨sa, ra⟩ := x
  obtain ⟨sb, rb⟩ := y
  simp only at hres hsim
  subst hres
  simp only [← hsim.pan, ← hsim.len, ← hsim.best]
  have key : ∀ rm : RouteMethod, (∀ i, i < rm.pnames.length → sa.pv[i]? = sb.pv[i]?) →
      (if rm.pnames.length > sa.pv.length then Outcome.panic
        else .dispatch rm (sa.pv.take rm.pnames.length)) =
      (if rm.pnames.length > sa.pv.length then Outcome.panic
        else .dispatch rm (sb.pv.take rm.pnames.length)) := by
    intro rm hl
    rw [take_eq_of_low hl]
  cases ra with
  | hit rm =>
    have hp : rm.pnames.length = sa.pi := hok
    simp only
    rw [key rm (fun i hi => hsim.low i (Or.inl (by omega)))]
  | leave =>
    simp only
    cases hb : sa.best with
    | none => rfl
    | some bst =>
      simp only
      cases hnf : bst.nf with
      | none => rfl
      | some rm =>
        simp only
        rw [key rm (fun i hi => hsim.low i (Or.inr (by simp only [hb, nfLen, hnf]; exact hi)))]

theorem Represents.find_content {t : Node} {D : Nat} {es : List Entry} (h : Represents t D es)
    (m path : Str) {pv pv' : List Str} (hlen : pv.length = pv'.length) :
    find t m path pv = find t m path pv' := by
  cases h with
  | empty => rw [find_emptyTree, find_emptyTree]
  | tree hk hti _ _ => exact Tree.find_content t D hk hti m path pv pv' hlen

/-! ## tables of representable patterns -/

/-- **(B) the outcome of `Router.Find` does not depend on the content of the value slice**: for every
    table of representable patterns (re-registrations allowed) and two slices of the same length (if the
    slices are shorter than `maxParam`, both runs may fail — together).  No exception: also the
    `RouteNotFound` record reached through the best-node fallback (F3) gets the same values. -/
theorem find_content_eq (rs : List Route) (hok : okTable rs = true) (m path : Str) (pv pv' : List Str)
    (hsame : pv.length = pv'.length) :
    find (build rs) m path pv = find (build rs) m path pv' :=
  (represents_ok hok).find_content m path hsame

/-- **(B)** against a blank slice: a used context routes like a fresh one -/
theorem find_content_irrelevant (rs : List Route) (hok : okTable rs = true) (m path : Str) (pv : List Str)
    (_hlen : maxParam rs ≤ pv.length) :
    find (build rs) m path pv = find (build rs) m path (List.replicate pv.length []) :=
  find_content_eq rs hok m path pv _ (by simp)

/-- (B) with room for an exception (the `RouteNotFound` record reached through the
    best-node fallback getting whatever the slice holds): it holds because the first disjunct always does;
    the second disjunct never occurs with values different from the blank ones. -/
theorem find_content_irrelevant_or (rs : List Route) (hok : okTable rs = true) (m path : Str) (pv : List Str)
    (hlen : maxParam rs ≤ pv.length) :
    find (build rs) m path pv = find (build rs) m path (List.replicate pv.length [])
    ∨ (∃ rm vals vals', find (build rs) m path pv = .dispatch rm vals
          ∧ find (build rs) m path (List.replicate pv.length []) = .dispatch rm vals'
          ∧ (findNode path m (build rs) ⟨0, 0, List.replicate pv.length [], none, false⟩).2 = .leave
          ∧ ∃ b, (findNode path m (build rs) ⟨0, 0, List.replicate pv.length [], none, false⟩).1.best = some b
              ∧ b.nf = some rm) :=
  Or.inl (find_content_irrelevant rs hok m path pv hlen)

/-- routing never fails on a used context with at least `maxParam` value slots -/
theorem tree_no_panic_forward (rs : List Route) (hok : okTable rs = true) (m path : Str) (pv : List Str)
    (hlen : maxParam rs ≤ pv.length) : find (build rs) m path pv ≠ .panic := by
  rw [find_content_irrelevant rs hok m path pv hlen]
  exact find_table_no_panic_ok rs m path pv.length hlen hok

/-- **internal forward = fresh request**, for requests that hit a route registered for their method: if a
    registered route for method `m` matches the path, `Router.Find` on a context holding ANY old values
    dispatches to the same record with the same values as on a freshly reset context — and that record
    belongs to a registration in force. -/
theorem tree_forward_sound (rs : List Route) (hok : okTable rs = true) (m path : Str) (pv : List Str)
    (hlen : maxParam rs ≤ pv.length) (hm : m ≠ routeNotFound)
    (r : Route) (hr : r ∈ rs) (hmeth : r.method = m) (hmatch : C02.Matches (norm r.path).1 path) :
    ∃ rm vals, find (build rs) m path pv = .dispatch rm vals ∧
      find (build rs) m path (List.replicate pv.length []) = .dispatch rm vals ∧
      ∃ r' ∈ dedupLast rs, r'.hid = rm.hid := by
  subst hmeth
  obtain ⟨rm, vals, hf, hreg⟩ := tree_complete_ok rs hok r hr hm path hmatch pv.length hlen
  exact ⟨rm, vals, by rw [find_content_irrelevant rs hok _ path pv hlen]; exact hf, hf, hreg⟩

/-- the same with the match given by an instantiation of the pattern with valid values (a named
    parameter's value non-empty and without `/`), as in C20 -/
theorem tree_forward_sound_inst (rs : List Route) (hok : okTable rs = true) (m path : Str) (pv : List Str)
    (hlen : maxParam rs ≤ pv.length) (hm : m ≠ routeNotFound)
    (r : Route) (hr : r ∈ dedupLast rs) (hmeth : r.method = m) (w : List Str)
    (hvalid : C20.ValidVals (norm r.path).1 w) (hinst : inst (norm r.path).1 w = some path) :
    ∃ rm vals, find (build rs) m path pv = .dispatch rm vals ∧
      find (build rs) m path (List.replicate pv.length []) = .dispatch rm vals ∧
      ∃ r' ∈ dedupLast rs, r'.hid = rm.hid :=
  tree_forward_sound rs hok m path pv hlen hm r (dedupLast_subset rs r hr) hmeth
    (C20.matches_of_inst _ w _ (C20.normAux_paramThenSlash _ _) hvalid hinst)

/-- **C01 on the tree model, for a used context**: whatever `Router.Find` dispatches to on a context holding
    arbitrary old values, the observed values are those of the request path (the pattern instantiated with
    them rebuilds the path, one value per name, no `/` in a parameter followed by text) — or it is the F3
    fallback, and then the values are blank.  No text of an earlier request shows up in any value. -/
theorem tree_sound_forward (rs : List Route) (hok : okTable rs = true) (m path : Str) (pv : List Str)
    (hlen : maxParam rs ≤ pv.length) (rm : RouteMethod) (vals : List Str)
    (h : find (build rs) m path pv = .dispatch rm vals) :
    (inst (norm rm.ppath).1 vals = some path ∧ SlashFree (norm rm.ppath).1 vals
        ∧ vals.length = arity (norm rm.ppath).1)
    ∨ ((∃ w, inst (norm rm.ppath).1 w = some path) ∧ vals = rm.pnames.map (fun _ => [])) := by
  rw [find_content_irrelevant rs hok m path pv hlen] at h
  exact tree_sound_ok rs m path pv.length hlen hok rm vals h

/-- **C03 on the tree model, for a used context**: the record dispatched to belongs to a registration in
    force made for the request's method or as a RouteNotFound route -/
theorem tree_dispatch_method_forward (rs : List Route) (hok : okTable rs = true) (m path : Str) (pv : List Str)
    (hlen : maxParam rs ≤ pv.length) (rm : RouteMethod) (vals : List Str)
    (h : find (build rs) m path pv = .dispatch rm vals) :
    ∃ r ∈ dedupLast rs, r.hid = rm.hid ∧ normalizeSlash r.path = rm.ppath
      ∧ (r.method = m ∨ r.method = routeNotFound) := by
  rw [find_content_irrelevant rs hok m path pv hlen] at h
  exact tree_dispatch_method rs m path pv.length hlen hok rm vals h

/-! ## concrete instances -/

deriving instance DecidableEq for Router.Outcome

private def GET : Str := "GET".toList
private def POST : Str := "POST".toList

/-- a table with a split node (`/users`, `/usage`), parameters, an in-segment parameter and a wildcard -/
def demoForward : List Route :=
  [⟨GET, "/users".toList, 1⟩, ⟨GET, "/usage".toList, 2⟩, ⟨GET, "/users/:id".toList, 3⟩,
   ⟨POST, "/users/:id/files/*".toList, 4⟩, ⟨GET, "/users/:id/files/v:ver".toList, 5⟩,
   ⟨GET, "/*".toList, 6⟩]

example : okTable demoForward = true := by unfold demoForward; lit_chars; decide +kernel
example : maxParam demoForward = 2 := by unfold demoForward; lit_chars; decide +kernel

/-- (B) on a dirty slice: the values of the previous match (`"OLD-ID"`, `"old/file"`) are not seen; the
    request is routed through an abandoned branch first (`/users/:id/files/…` has no GET route for `x`) and
    ends at the wildcard with the whole rest of the path -/
example : find (build demoForward) GET "/users/42/files/x".toList ["OLD-ID".toList, "old/file".toList]
    = .dispatch ⟨"/*".toList, ["*".toList], 6⟩ ["users/42/files/x".toList] := by
  unfold demoForward GET; lit_chars; decide +kernel
example : find (build demoForward) GET "/users/42/files/x".toList ["OLD-ID".toList, "old/file".toList]
    = find (build demoForward) GET "/users/42/files/x".toList [[], []] := by
  unfold demoForward GET; lit_chars; decide +kernel
example : find (build demoForward) GET "/users/42/files/v7".toList ["OLD-ID".toList, "old/file".toList]
    = .dispatch ⟨"/users/:id/files/v:ver".toList, ["id".toList, "ver".toList], 5⟩ ["42".toList, "7".toList] := by
  unfold demoForward GET; lit_chars; decide +kernel
/-- a one-parameter route on a two-slot slice: the spare slot keeps its old content but is not handed out -/
example : find (build demoForward) GET "/users/42".toList ["OLD-ID".toList, "old/file".toList]
    = .dispatch ⟨"/users/:id".toList, ["id".toList], 3⟩ ["42".toList] := by
  unfold demoForward GET; lit_chars; decide +kernel

/-- the F3 shape: `GET /a/:id` and `RouteNotFound /a/:id`, request `POST /a/5` -/
def demoF3 : List Route := [⟨GET, "/a/:id".toList, 1⟩, ⟨routeNotFound, "/a/:id".toList, 2⟩]

example : okTable demoF3 = true := by unfold demoF3; lit_chars; decide +kernel

/-- the not-found record is reached through the best-node FALLBACK (the loop leaves the tree without a match) -/
example : (findNode "/a/5".toList POST (build demoF3) ⟨0, 0, ["SECRET".toList], none, false⟩).2 matches .leave := by
  unfold demoF3 POST; lit_chars; decide +kernel

/-- … and it gets a BLANK value, on the blank slice (F3) and on the dirty one alike: the slot was entered on
    the way to the best node and blanked on the way out.  The fallback is no exception. -/
example : find (build demoF3) POST "/a/5".toList ["SECRET".toList]
    = .dispatch ⟨"/a/:id".toList, ["id".toList], 2⟩ [[]] := by
  unfold demoF3 POST; lit_chars; decide +kernel
example : find (build demoF3) POST "/a/5".toList [[]]
    = .dispatch ⟨"/a/:id".toList, ["id".toList], 2⟩ [[]] := by
  unfold demoF3 POST; lit_chars; decide +kernel

/-- a deeper fallback: the best node is remembered two parameters deep, the search goes on through other
    branches (which store values in both slots again) and fails; the record gets two blank values -/
def demoF3deep : List Route :=
  [⟨GET, "/:a/:b".toList, 1⟩, ⟨routeNotFound, "/:a/:b".toList, 2⟩, ⟨GET, "/:a/x/:c".toList, 3⟩, ⟨GET, "/y/:b/z".toList, 4⟩]

example : okTable demoF3deep = true := by unfold demoF3deep; lit_chars; decide +kernel
example : find (build demoF3deep) POST "/y/x".toList ["S1".toList, "S2".toList, "S3".toList]
    = .dispatch ⟨"/:a/:b".toList, ["a".toList, "b".toList], 2⟩ [[], []] := by
  unfold demoF3deep POST; lit_chars; decide +kernel

/-! ## the tree invariant cannot be dropped in (A) -/

/-- a tree that does NOT satisfy the invariant: the wildcard child of the root claims slot 1
    (`paramsCount = 2`) although it sits at depth 0 -/
def badTree : Node :=
  .mk .static ['/'] [] none [] 0 []
    none (some (.mk .any ['*'] [(GET, ⟨"/*".toList, ["*".toList], 1⟩)] none "/*".toList 2 [] none none))

example : tiNode 2 [] badTree = false := by unfold badTree; lit_chars; decide +kernel

/-- on `badTree` the Any block stores the value in slot 1 and hands out slot 0: the OLD content of the
    slice is dispatched as the parameter value.  So (A) and (B) are false for arbitrary trees. -/
example : find badTree GET "/x".toList ["OLD".toList, []] = .dispatch ⟨"/*".toList, ["*".toList], 1⟩ ["OLD".toList] := by
  unfold badTree GET; lit_chars; decide +kernel
example : find badTree GET "/x".toList [[], []] = .dispatch ⟨"/*".toList, ["*".toList], 1⟩ [[]] := by
  unfold badTree GET; lit_chars; decide +kernel

end Router.Tree
