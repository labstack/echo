import EchoProofs.Tree.Frame
/-!
# The Find loop never changes the LENGTH of the value slice

`setVal` and `leaveRestore` only `set` (or flag the run as panicked), so for ARBITRARY trees, paths, methods and
start states `(findNode path m n st).1.pv.length = st.pv.length` (`findNode_pv_length`).  Same skeleton as the frame
lemma (`Frame.lean`): one lemma per state operation, then the structural induction over the nested inductive
`Node` (`node_induct`).
-/
namespace Router.Tree
open Router

theorem setVal_pv_length (st : St) (i : Int) (v : Str) : (setVal st i v).pv.length = st.pv.length := by
  unfold setVal
  split
  · rfl
  · simp

theorem leaveRestore_pv_length (k : Kind) (p : Nat) (st : St) :
    (leaveRestore k p st).pv.length = st.pv.length := by
  by_cases hk : k = .static
  · subst hk; rfl
  · rw [leaveRestore_marker hk]
    split
    · rfl
    · simp

theorem leaveOut_pv_length (k : Kind) (p : Nat) (st : St) : (leaveOut k p st).1.pv.length = st.pv.length := by
  unfold leaveOut
  split
  · rfl
  · exact leaveRestore_pv_length k p st

theorem enterParam_pv_length (path : Str) (leaf : Bool) (st : St) :
    (enterParam path leaf st).pv.length = st.pv.length := by
  unfold enterParam
  exact setVal_pv_length _ _ _

theorem nodeEnd_pv (m : Str) (ms : List (Str × RouteMethod)) (nf : Option RouteMethod) (op : Str)
    (atEnd : Bool) (st : St) : (nodeEnd m ms nf op atEnd st).1.pv = st.pv := rfl

theorem anyRest_pv_length (m : Str) (c : Node) (len : Nat) (st : St) :
    (anyRest m c len st).1.pv.length = st.pv.length := by
  unfold anyRest
  cases findMethod c.methods m with
  | some r => rfl
  | none =>
    cases c.nf with
    | some r => rfl
    | none => exact leaveRestore_pv_length _ _ _

theorem anyBlock_pv_length (path m : Str) (an : Option Node) (st : St) :
    (anyBlock path m an st).1.pv.length = st.pv.length := by
  cases an with
  | none => rfl
  | some c =>
    rw [anyBlock_some, anyRest_pv_length, setVal_pv_length]

theorem anyStage_pv_length (path m : Str) (k : Kind) (p : Nat) (an : Option Node) (st : St) :
    (anyStage path m k p an st).1.pv.length = st.pv.length := by
  have ha := anyBlock_pv_length path m an st
  unfold anyStage
  generalize anyBlock path m an st = x at ha
  obtain ⟨st', r⟩ := x
  cases r with
  | some rm => exact ha
  | none => exact (leaveOut_pv_length _ _ _).trans ha

theorem finishNode_pv_length (path m : Str) (k : Kind) (p : Nat) (an : Option Node) (st : St) (nx : Next) :
    (finishNode path m k p an st nx).1.pv.length = st.pv.length := by
  cases nx with
  | hit rm => rfl
  | leave => exact leaveOut_pv_length _ _ _
  | param => exact anyStage_pv_length path m k p an st
  | any => exact anyStage_pv_length path m k p an st

def NodeLen (path m : Str) (n : Node) : Prop :=
  ∀ st : St, (findNode path m n st).1.pv.length = st.pv.length

theorem sBlock_pv_length (path m : Str) (sts : List Node) (ih : ∀ n ∈ sts, NodeLen path m n) (st : St) :
    (sBlock path m sts st).1.pv.length = st.pv.length := by
  unfold sBlock
  cases hd : path.drop st.si with
  | nil => rfl
  | cons c rest =>
    simp only [findStatic_eq_pick]
    cases hp : pick c sts with
    | none => rfl
    | some n =>
      simp only [Option.map_some]
      rw [staticBlock_some_fst n.kind (findNode path m n st) st]
      exact ih n (pick_mem hp).1 st

theorem pBlock_pv_length (path m : Str) (pa : Option Node) (ih : ∀ n, pa = some n → NodeLen path m n) (st : St) :
    (paramBlock (findParam path m pa st) st).1.pv.length = st.pv.length := by
  cases pa with
  | none => rw [findParam]; rfl
  | some c =>
    rw [findParam]
    simp only [paramBlock_some_fst]
    rw [ih c rfl, enterParam_pv_length]

theorem pStage_pv_length (path m : Str) (k : Kind) (p : Nat) (pa an : Option Node)
    (ih : ∀ n, pa = some n → NodeLen path m n) (st : St) :
    (pStage path m k p pa an st).1.pv.length = st.pv.length := by
  unfold pStage
  split
  · exact finishNode_pv_length _ _ _ _ _ _ _
  · have hb := pBlock_pv_length path m pa ih st
    generalize paramBlock (findParam path m pa st) st = x at hb
    obtain ⟨st', nx⟩ := x
    exact (finishNode_pv_length _ _ _ _ _ _ _).trans hb

theorem afterS_pv_length (path m : Str) (k : Kind) (p : Nat) (pa an : Option Node)
    (ih : ∀ n, pa = some n → NodeLen path m n) (st : St) (nx : Next) :
    (afterS path m k p pa an (st, nx)).1.pv.length = st.pv.length := by
  cases nx with
  | param => exact pStage_pv_length path m k p pa an ih st
  | hit rm => exact finishNode_pv_length _ _ _ _ _ _ _
  | any => exact finishNode_pv_length _ _ _ _ _ _ _
  | leave => exact finishNode_pv_length _ _ _ _ _ _ _

theorem body_pv_length (path m : Str) (k : Kind) (pre : Str) (ms : List (Str × RouteMethod))
    (nf : Option RouteMethod) (op : Str) (sts : List Node) (pa an : Option Node)
    (ihS : ∀ n ∈ sts, NodeLen path m n) (ihP : ∀ n, pa = some n → NodeLen path m n) (st : St) :
    (bodyOf path m k pre ms nf op sts pa an st).1.pv.length = st.pv.length := by
  rw [bodyOf_eq]
  have he := nodeEnd_pv m ms nf op (path.drop st.si).isEmpty st
  generalize nodeEnd m ms nf op (path.drop st.si).isEmpty st = x at he
  obtain ⟨st1, e⟩ := x
  simp only at he
  cases e with
  | some rm => simp only [he]
  | none =>
    simp only
    have hs := sBlock_pv_length path m sts ihS st1
    generalize sBlock path m sts st1 = y at hs
    obtain ⟨st2, nx⟩ := y
    rw [afterS_pv_length path m k pre.length pa an ihP st2 nx, hs, he]

theorem node_len_step (path m : Str) (k : Kind) (pre : Str)
    (ms : List (Str × RouteMethod)) (nf : Option RouteMethod) (op : Str) (pc : Nat) (sts : List Node)
    (pa an : Option Node)
    (ihS : ∀ n ∈ sts, NodeLen path m n) (ihP : ∀ n, pa = some n → NodeLen path m n) :
    NodeLen path m (.mk k pre ms nf op pc sts pa an) := by
  intro st
  rw [findNode_unfold]
  by_cases hp : st.panicked = true
  · simp only [hp, if_true]
  · simp only [hp, if_false, Bool.false_eq_true]
    by_cases hl : (if k = .static then lcp (path.drop st.si) pre else 0) ≠ (if k = .static then pre.length else 0)
    · simp only [if_pos hl]
    · simp only [if_neg hl]
      rw [body_pv_length path m k pre ms nf op sts pa an ihS ihP]

theorem node_len (path m : Str) : (n : Node) → NodeLen path m n :=
  node_induct fun k pre ms nf op pc sts pa an ihS ihP _ => node_len_step path m k pre ms nf op pc sts pa an ihS ihP

theorem list_len (path m : Str) : (l : List Node) → ∀ n ∈ l, NodeLen path m n :=
  list_induct fun k pre ms nf op pc sts pa an ihS ihP _ => node_len_step path m k pre ms nf op pc sts pa an ihS ihP

theorem opt_len (path m : Str) : (o : Option Node) → ∀ n, o = some n → NodeLen path m n :=
  opt_induct fun k pre ms nf op pc sts pa an ihS ihP _ => node_len_step path m k pre ms nf op pc sts pa an ihS ihP

/-- **the Find loop keeps the length of the value slice** — on every tree (no invariant), for every path, method and
    start state: values are only overwritten in place (or the run is flagged as out of range). -/
theorem findNode_pv_length (path m : Str) (n : Node) (st : St) :
    (findNode path m n st).1.pv.length = st.pv.length :=
  node_len path m n st

end Router.Tree
