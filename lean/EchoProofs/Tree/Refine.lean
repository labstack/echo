import EchoProofs.Tree.Below
/-!
# The Find loop on a well-formed tree computes the reference search (L3 → L1)

`node_ok`: for every tree satisfying `tiNode`, one visit of a node by the model of
`Router.Find` (`findNode`, with its mutable value slice, running indices, restore-on-backtrack
and best-match bookkeeping) gives the same result as the reference search `Spec.search` on the
residual set the subtree represents: the same hit with the same parameter values, or a miss
after which the state is exactly restored; and the remembered best nodes correspond.
-/
namespace Router.Tree
open Router Router.Spec

def valsOf (st : St) : List Str := st.pv.take st.pi

/-- state invariant at a position whose token path is `toks` -/
structure Ok (D : Nat) (toks : List Tok) (st : St) : Prop where
  np : st.panicked = false
  pi : st.pi = arity toks
  len : D ≤ st.pv.length
  blank : ∀ i, st.pi ≤ i → st.pv.getD i [] = []

/-- the best node remembered by `Find` corresponds to the best entries of the reference search -/
def BRel (D : Nat) : Option Router.Best → Spec.Best → Prop
  | none, none => True
  | some b, some l => l = ownEntries b.methods b.nf ∧ NoNfKey b.methods ∧
      (∀ rm, b.nf = some rm → rm.pnames.length ≤ D)
  | _, _ => False

/-- result relation; `st0` is the state the visit logically started from (before the node was
    entered): a miss restores it exactly -/
def RRel (D : Nat) (st0 : St) (x : St × Router.Res) (y : Spec.Res × Spec.Best) : Prop :=
  BRel D x.1.best y.2 ∧
  match x.2 with
  | .hit rm => x.1.panicked = false ∧ x.1.pi = rm.pnames.length ∧ x.1.pi ≤ x.1.pv.length ∧
      ∃ mm, y.1 = .hit (entryOf mm rm) (valsOf x.1)
  | .leave => y.1 = .miss ∧ x.1.panicked = false ∧ x.1.si = st0.si ∧ x.1.pi = st0.pi ∧ x.1.pv = st0.pv

theorem findStatic_eq_pick (path m : Str) (c : Char) : ∀ (l : List Node) (st : St),
    findStatic path m c l st =
      (pick c l).map fun n => (n.kind, (findNode path m n st).1, (findNode path m n st).2) := by
  intro l
  induction l with
  | nil => intro st; rw [findStatic]; rfl
  | cons n ns ih =>
    intro st
    rw [findStatic]
    simp only [pick]
    split
    · rfl
    · exact ih st

theorem pick_mem {c : Char} : ∀ {l : List Node} {n : Node}, pick c l = some n → n ∈ l ∧ n.label = some c := by
  intro l
  induction l with
  | nil => intro n h; simp [pick] at h
  | cons x xs ih =>
    intro n h
    simp only [pick] at h
    split at h
    · simp only [Option.some.injEq] at h
      subst h
      exact ⟨List.mem_cons_self, by assumption⟩
    · obtain ⟨hm, hl⟩ := ih h
      exact ⟨List.mem_cons_of_mem _ hm, hl⟩

theorem tiList_mem {D : Nat} {here : List Tok} : ∀ {l : List Node} {n : Node}, tiList D here l = true → n ∈ l →
    n.kind = .static ∧ n.pre ≠ [] ∧ tiNode D here n = true := by
  intro l
  induction l with
  | nil => intro n _ h; simp at h
  | cons x xs ih =>
    intro n h hm
    obtain ⟨hk, hp, hn, hxs⟩ := tiList_cons h
    rcases List.mem_cons.mp hm with rfl | hm
    · exact ⟨hk, hp, hn⟩
    · exact ih hxs hm

theorem BRel.orElse {D : Nat} {b : Option Router.Best} {l : Spec.Best} (h : BRel D b l)
    {ms : List (Str × RouteMethod)} {nf : Option RouteMethod} {op : Str} (hno : NoNfKey ms)
    (hnfD : ∀ rm, nf = some rm → rm.pnames.length ≤ D) :
    BRel D (if b.isNone then some ⟨ms, nf, op⟩ else b) (if l.isNone then some (ownEntries ms nf) else l) :=
  match b, l, h with
  | none, none, _ => ⟨rfl, hno, hnfD⟩
  | some _, some _, h => h
  | none, some _, h => h.elim
  | some _, none, h => h.elim

theorem nodeEnd_rel (D : Nat) (m : Str) (ms : List (Str × RouteMethod)) (nf : Option RouteMethod) (op : Str)
    (rest : Str) (st : St) (bl : Spec.Best) (hno : NoNfKey ms)
    (hnfD : ∀ rm, nf = some rm → rm.pnames.length ≤ D) (hb : BRel D st.best bl) :
    BRel D (nodeEnd m ms nf op rest.isEmpty st).1.best (stepEnd m (ownEntries ms nf) rest bl).2 ∧
    (nodeEnd m ms nf op rest.isEmpty st).1 = { st with best := (nodeEnd m ms nf op rest.isEmpty st).1.best } ∧
    (stepEnd m (ownEntries ms nf) rest bl).1 =
      (nodeEnd m ms nf op rest.isEmpty st).2.map (entryOf (if ms.isEmpty then routeNotFound else m)) := by
  simp only [nodeEnd, stepEnd, isHandler_own ms nf hno, findM_own ms nf m hno, findNF_own ms nf hno]
  -- a node is remembered, on both sides, only at the end of the path and only if it has handlers
  cases rest.isEmpty <;> cases ms.isEmpty <;>
    simp only [Bool.false_eq_true, false_and, true_and, if_false, if_true, Bool.not_true, Bool.not_false, and_true]
  · exact ⟨hb, rfl⟩
  · exact ⟨hb, rfl⟩
  · exact hb.orElse hno hnfD
  · exact hb

theorem take_set_succ (l : List Str) (i : Nat) (v : Str) (h : i < l.length) :
    (l.set i v).take (i + 1) = l.take i ++ [v] := by
  induction l generalizing i with
  | nil => simp at h
  | cons x xs ih =>
    cases i with
    | zero => simp
    | succ j =>
      simp only [List.set_cons_succ, List.take_succ_cons, List.cons_append]
      rw [ih j (by simpa using h)]

theorem set_set_blank (l : List Str) (i : Nat) (v : Str) (hb : l.getD i [] = []) (h : i < l.length) :
    (l.set i v).set i [] = l := by
  induction l generalizing i with
  | nil => simp at h
  | cons x xs ih =>
    cases i with
    | zero => simp at hb; simp [hb]
    | succ j =>
      simp only [List.set_cons_succ]
      rw [ih j (by simpa using hb) (by simpa using h)]

theorem getD_set_self (l : List Str) (i : Nat) (v : Str) (h : i < l.length) : (l.set i v).getD i [] = v := by
  simp [List.getD, h]

theorem getD_set_ne (l : List Str) (i j : Nat) (v : Str) (h : i ≠ j) : (l.set i v).getD j [] = l.getD j [] := by
  simp [List.getD, List.getElem?_set_ne h]

theorem take_takeWhile_length (s : Str) (p : Char → Bool) : s.take (s.takeWhile p).length = s.takeWhile p := by
  induction s with
  | nil => rfl
  | cons c cs ih =>
    simp only [List.takeWhile_cons]
    split
    · simp [ih]
    · simp

/-- the value the Find loop stores for a parameter = the value of the reference search -/
theorem enterParam_value (leaf : Bool) (rest : Str) :
    rest.take (if leaf then rest.length else (rest.takeWhile (· ≠ '/')).length) = paramValue leaf rest := by
  unfold paramValue
  cases leaf with
  | true => simp
  | false => simp only [Bool.false_eq_true, if_false]; exact take_takeWhile_length _ _

theorem all_empty_own (es : List Entry) : (es.map fun e => (([] : List Tok), e)).all (·.1.isEmpty) = true := by
  simp

theorem not_all_empty {r : R} (he : ends r = []) (hr : r ≠ []) : r.all (·.1.isEmpty) = false := by
  cases r with
  | nil => exact absurd rfl hr
  | cons x xs =>
    obtain ⟨ts, e⟩ := x
    cases ts with
    | nil => simp [ends] at he
    | cons t ts => rfl

theorem leaf_iff {D : Nat} {above : List Tok} {k pre ms nf op pc st pa an}
    (h : tiNode D above (.mk k pre ms nf op pc st pa an) = true) :
    isLeafNode (.mk k pre ms nf op pc st pa an) = (below (.mk k pre ms nf op pc st pa an)).all (·.1.isEmpty) := by
  have p := tiNode_parts h
  simp only [isLeafNode, Node.statics, Node.param, Node.any, below_mk, List.all_append, all_empty_own,
    Bool.true_and]
  -- every child contributes a record, and none of a child's records ends at this node
  cases st with
  | cons c cs =>
    rw [not_all_empty (ends_belowList _ p.kids) (belowList_ne_nil D _ _ p.kids (List.cons_ne_nil _ _))]
    rfl
  | nil =>
    cases pa with
    | some c =>
      rw [not_all_empty (ends_belowOpt (fun _ => rfl) _ p.kidP)
        (belowOpt_ne_nil D _ _ _ p.kidP (Option.some_ne_none _))]
      simp
    | none =>
      cases an with
      | some c =>
        rw [not_all_empty (ends_belowOpt (fun _ => rfl) _ p.kidA)
          (belowOpt_ne_nil D _ _ _ p.kidA (Option.some_ne_none _))]
        simp
      | none => simp

/-! ### entering and leaving a node -/

/-- `st` is the state right after the Find loop moved from `st0` into a node of kind `k` -/
def Entered (k : Kind) (pre : Str) (st0 st : St) : Prop :=
  match k with
  | .static => st.si = st0.si + pre.length ∧ st.pi = st0.pi ∧ st.pv = st0.pv
  | _ => ∃ v, st0.pi < st0.pv.length ∧ st0.pv.getD st0.pi [] = [] ∧ st.pi = st0.pi + 1 ∧
      st.si = st0.si + v.length ∧ st.pv = st0.pv.set st0.pi v

theorem leaveRestore_marker {k : Kind} (hk : k ≠ .static) (p : Nat) (st : St) :
    leaveRestore k p st =
      if st.pi = 0 ∨ st.pi - 1 ≥ st.pv.length then { st with panicked := true }
      else { st with pi := st.pi - 1, si := st.si - (st.pv.getD (st.pi - 1) []).length,
                     pv := st.pv.set (st.pi - 1) [] } := by
  cases k with
  | static => exact absurd rfl hk
  | param => rfl
  | any => rfl

/-- backtracking out of a node undoes exactly what entering it did -/
theorem leave_back (k : Kind) (pre : Str) (st0 st : St) (hE : Entered k pre st0 st) (hnp : st.panicked = false) :
    (leaveOut k pre.length st).2 = .leave ∧ (leaveOut k pre.length st).1.panicked = false ∧
    (leaveOut k pre.length st).1.si = st0.si ∧ (leaveOut k pre.length st).1.pi = st0.pi ∧
    (leaveOut k pre.length st).1.pv = st0.pv ∧ (leaveOut k pre.length st).1.best = st.best := by
  unfold leaveOut
  simp only [hnp, Bool.false_eq_true, if_false]
  by_cases hk : k = .static
  · subst hk
    obtain ⟨hsi, hpi, hpv⟩ := hE
    simp [leaveRestore, hnp, hsi, hpi, hpv]
  · have hE' : ∃ v, st0.pi < st0.pv.length ∧ st0.pv.getD st0.pi [] = [] ∧ st.pi = st0.pi + 1 ∧
        st.si = st0.si + v.length ∧ st.pv = st0.pv.set st0.pi v := by
      cases k with
      | static => exact absurd rfl hk
      | param => exact hE
      | any => exact hE
    obtain ⟨v, hlt, hbl, hpi, hsi, hpv⟩ := hE'
    have h1 : ¬ (st.pi = 0 ∨ st.pi - 1 ≥ st.pv.length) := by
      rw [hpi, hpv]; simp; omega
    rw [leaveRestore_marker hk, if_neg h1]
    have hg : (st.pv.getD (st.pi - 1) []) = v := by
      rw [hpi, hpv]; simpa using getD_set_self _ _ v hlt
    refine ⟨trivial, hnp, ?_, ?_, ?_, rfl⟩
    · show st.si - (st.pv.getD (st.pi - 1) []).length = st0.si
      rw [hg, hsi]; omega
    · show st.pi - 1 = st0.pi
      omega
    · show st.pv.set (st.pi - 1) [] = st0.pv
      rw [hpi, hpv]; simpa using set_set_blank _ _ v hbl hlt

theorem findMethod_mem {ms : List (Str × RouteMethod)} {m : Str} {rm : RouteMethod}
    (h : findMethod ms m = some rm) : (m, rm) ∈ ms := by
  unfold findMethod at h
  cases hf : ms.find? (·.1 = m) with
  | none => simp [hf] at h
  | some x =>
    simp only [hf, Option.map_some, Option.some.injEq] at h
    have hm := List.mem_of_find?_eq_some hf
    have hp := List.find?_some hf
    simp only [decide_eq_true_eq] at hp
    obtain ⟨a, b⟩ := x
    simp only at hp h
    subst hp h
    exact hm

/-- the part of `RRel` for a hit -/
def HitRel (x : St) (rm : RouteMethod) (y : Spec.Res) : Prop :=
  x.panicked = false ∧ x.pi = rm.pnames.length ∧ x.pi ≤ x.pv.length ∧ ∃ mm, y = .hit (entryOf mm rm) (valsOf x)

theorem arity_append (a b : List Tok) : arity (a ++ b) = arity a + arity b := by
  induction a with
  | nil => simp [arity]
  | cons t ts ih => cases t <;> simp [arity, ih] <;> omega

theorem arity_lits (s : Str) : arity (lits s) = 0 := by
  induction s with
  | nil => rfl
  | cons c cs ih => simpa [lits, arity] using ih

/-- the state after the Find loop stored value `v` in the current slot and moved on -/
def entered (st : St) (v : Str) (b : Option Router.Best) : St :=
  ⟨st.si + v.length, st.pi + 1, st.pv.set st.pi v, b, false⟩

theorem valsOf_entered (st : St) (v : Str) (b : Option Router.Best) (hlt : st.pi < st.pv.length) :
    valsOf (entered st v b) = valsOf st ++ [v] := by
  simp [valsOf, entered, take_set_succ _ _ _ hlt]

theorem hitRel_entered (st : St) (v : Str) (b : Option Router.Best) (mm : Str) {rm : RouteMethod}
    (hlt : st.pi < st.pv.length) (hrm : rm.pnames.length = st.pi + 1) :
    HitRel (entered st v b) rm (.hit (entryOf mm rm) (valsOf st ++ [v])) := by
  refine ⟨rfl, hrm.symm, ?_, mm, by rw [valsOf_entered _ _ _ hlt]⟩
  show st.pi + 1 ≤ (st.pv.set st.pi v).length
  rw [List.length_set]
  exact hlt

theorem Ok.slot {D : Nat} {toks t : List Tok} {st : St} (hok : Ok D toks st) (ht : arity t = 1)
    (hd : arity (toks ++ t) ≤ D) : arity (toks ++ t) = st.pi + 1 ∧ st.pi < st.pv.length := by
  have har : arity (toks ++ t) = st.pi + 1 := by rw [arity_append, ht, hok.pi]
  have := hok.len
  exact ⟨har, by omega⟩

theorem Ok.entered {D : Nat} {toks t : List Tok} {st : St} (hok : Ok D toks st)
    (har : arity (toks ++ t) = st.pi + 1) (v : Str) : Ok D (toks ++ t) (entered st v st.best) := by
  refine ⟨rfl, har.symm, ?_, fun i hi => ?_⟩
  · show D ≤ (st.pv.set st.pi v).length
    simpa using hok.len
  · have hi' : st.pi + 1 ≤ i := hi
    show (st.pv.set st.pi v).getD i [] = []
    rw [getD_set_ne _ _ _ _ (by omega)]
    exact hok.blank i (by omega)

theorem setVal_cur (st : St) (n : Nat) (v : Str) (hn : n = st.pi + 1) (hlt : st.pi < st.pv.length) :
    setVal st ((n : Int) - 1) v = { st with pv := st.pv.set st.pi v } := by
  have hidx : ((n : Int) - 1) = (st.pi : Int) := by omega
  unfold setVal
  rw [hidx]
  simp only [Int.toNat_natCast]
  rw [if_neg (by omega)]

def withBest (st : St) (nb : Router.Best) : St :=
  { st with best := if st.best.isNone then some nb else st.best }

theorem anyBlock_entered (path m : Str) (c : Node) (st : St) (hpc : c.paramsCount = st.pi + 1)
    (hlt : st.pi < st.pv.length) (hnp : st.panicked = false) :
    anyBlock path m (some c) st =
      match findMethod c.methods m with
      | some h => (entered st (path.drop st.si) st.best, some h)
      | none =>
        match c.nf with
        | some h => (withBest (entered st (path.drop st.si) st.best) (bestOf c), some h)
        | none => (leaveRestore c.kind c.pre.length
                    (withBest (entered st (path.drop st.si) st.best) (bestOf c)), none) := by
  simp only [anyBlock, setVal_cur st c.paramsCount _ hpc hlt]
  cases findMethod c.methods m with
  | some h => simp [entered, hnp]
  | none =>
    simp only
    cases c.nf with
    | some h => simp [entered, withBest, hnp]
    | none => simp [entered, withBest, hnp]

theorem any_rel (path m : Str) {D : Nat} {above : List Tok} {k pre ms nf op pc sts pa an}
    (h : tiNode D above (.mk k pre ms nf op pc sts pa an) = true)
    (st : St) (bl : Spec.Best) (hok : Ok D (above ++ headToks k pre) st) (hb : BRel D st.best bl) :
    BRel D (anyBlock path m an st).1.best
      (anyStep m (below (.mk k pre ms nf op pc sts pa an)) (path.drop st.si) (valsOf st) bl).2 ∧
    match (anyBlock path m an st).2 with
    | some rm => HitRel (anyBlock path m an st).1 rm
        (anyStep m (below (.mk k pre ms nf op pc sts pa an)) (path.drop st.si) (valsOf st) bl).1
    | none => (anyStep m (below (.mk k pre ms nf op pc sts pa an)) (path.drop st.si) (valsOf st) bl).1 = .miss ∧
        (anyBlock path m an st).1.panicked = false ∧ (anyBlock path m an st).1.si = st.si ∧
        (anyBlock path m an st).1.pi = st.pi ∧ (anyBlock path m an st).1.pv = st.pv := by
  have p := tiNode_parts h
  simp only [anyStep, deriv_any_below h]
  cases an with
  | none =>
    simp only [anyBlock, belowOf, List.isEmpty_nil, if_true]
    exact ⟨hb, by simp, hok.np, by simp, by simp, by simp⟩
  | some ac =>
    obtain ⟨hka, hac⟩ := tiOpt_some p.kidA
    obtain ⟨ak, apre, ams, anf, aop, apc, asts, apa, aan⟩ := ac
    simp only [Node.kind] at hka
    subst hka
    have q := tiNode_parts hac
    obtain ⟨hapre, _, _, _, hapc⟩ := q.kindAny rfl
    have hnee := List.isEmpty_eq_false_iff.mpr (below_ne_nil D _ _ hac)
    obtain ⟨harity, hlt⟩ := hok.slot (t := headToks .any apre) rfl q.depth
    have hb2 := hb.orElse (op := aop) q.noNf fun rm hrm => by rw [(q.nfRec rm hrm).2]; exact q.depth
    rw [anyBlock_entered path m _ st (by rw [hapc, harity]; rfl) hlt hok.np]
    simp only [belowOf, hnee, Bool.false_eq_true, if_false, ends_below hac, stepAny,
      findM_own ams anf m q.noNf, findNF_own ams anf q.noNf, Node.methods, Node.nf, Node.kind, Node.pre]
    cases hfm : findMethod ams m with
    | some rm =>
      simp only [Option.map_some]
      exact ⟨hb, hitRel_entered st _ _ m hlt (by rw [(q.recs _ (findMethod_mem hfm)).2, harity])⟩
    | none =>
      simp only [Option.map_none]
      cases anf with
      | some rm =>
        simp only [Option.map_some]
        exact ⟨hb2, hitRel_entered st _ _ routeNotFound hlt (by rw [(q.nfRec rm rfl).2, harity])⟩
      | none =>
        simp only [Option.map_none]
        -- the wildcard child is left again: its slot is given back
        obtain ⟨_, h2, h3, h4, h5, h6⟩ := leave_back .any apre st
          (withBest (entered st (path.drop st.si) st.best) (bestOf (.mk .any apre ams none aop apc asts apa aan)))
          ⟨_, hlt, hok.blank st.pi (Nat.le_refl _), rfl, rfl, rfl⟩ rfl
        exact ⟨h6 ▸ hb2, trivial, h2, h3, h4, h5⟩

/-! ### states that differ only in the remembered best node -/

def Same (a b : St) : Prop := a.si = b.si ∧ a.pi = b.pi ∧ a.pv = b.pv ∧ a.panicked = b.panicked

theorem Same.refl (a : St) : Same a a := ⟨rfl, rfl, rfl, rfl⟩
theorem Same.trans {a b c : St} (h1 : Same a b) (h2 : Same b c) : Same a c :=
  ⟨h1.1.trans h2.1, h1.2.1.trans h2.2.1, h1.2.2.1.trans h2.2.2.1, h1.2.2.2.trans h2.2.2.2⟩

theorem Same.ok {D : Nat} {toks : List Tok} {a b : St} (h : Same a b) (hb : Ok D toks b) : Ok D toks a :=
  ⟨h.2.2.2.trans hb.np, h.2.1.trans hb.pi, by rw [h.2.2.1]; exact hb.len,
   by intro i hi; rw [h.2.2.1]; exact hb.blank i (by rw [← h.2.1]; exact hi)⟩

theorem Same.vals {a b : St} (h : Same a b) : valsOf a = valsOf b := by
  simp [valsOf, h.2.1, h.2.2.1]

theorem Same.entered {k : Kind} {pre : Str} {st0 a b : St} (h : Same a b) (hE : Entered k pre st0 b) :
    Entered k pre st0 a := by
  cases k with
  | static => exact ⟨h.1.trans hE.1, h.2.1.trans hE.2.1, h.2.2.1.trans hE.2.2⟩
  | param =>
    obtain ⟨v, h1, h2, h3, h4, h5⟩ := hE
    exact ⟨v, h1, h2, h.2.1.trans h3, h.1.trans h4, h.2.2.1.trans h5⟩
  | any =>
    obtain ⟨v, h1, h2, h3, h4, h5⟩ := hE
    exact ⟨v, h1, h2, h.2.1.trans h3, h.1.trans h4, h.2.2.1.trans h5⟩

/-- the Any block followed by the exit of the node, against `anyStep`; `st'` is the state after the blocks
    before it, which all missed -/
theorem finish_any_rel (path m : Str) {D : Nat} {above : List Tok} {k pre ms nf op pc sts pa an}
    (h : tiNode D above (.mk k pre ms nf op pc sts pa an) = true)
    {st0 st st' : St} {bl : Spec.Best} (hE : Entered k pre st0 st)
    (hok : Ok D (above ++ headToks k pre) st) (hs : Same st' st) (hb : BRel D st'.best bl) :
    RRel D st0 (finishNode path m k pre.length an st' .any)
      (anyStep m (below (.mk k pre ms nf op pc sts pa an)) (path.drop st.si) (valsOf st) bl) := by
  have ha := any_rel path m h st' bl (hs.ok hok) hb
  rw [hs.1, hs.vals] at ha
  simp only [finishNode]
  generalize anyBlock path m an st' = x at ha
  obtain ⟨st'', r⟩ := x
  obtain ⟨hbr, hm⟩ := ha
  cases r with
  | some rm => exact ⟨hbr, hm⟩
  | none =>
    simp only at hm ⊢
    obtain ⟨hmiss, hnp, hsi, hpi, hpv⟩ := hm
    have hs' : Same st'' st := ⟨hsi, hpi.trans hs.2.1, hpv.trans hs.2.2.1, hnp.trans hok.np.symm⟩
    obtain ⟨h1, h2, h3, h4, h5, h6⟩ := leave_back k pre st0 st'' (hs'.entered hE) hnp
    generalize leaveOut k pre.length st'' = y at h1 h2 h3 h4 h5 h6
    obtain ⟨st3, r3⟩ := y
    simp only at h1 h2 h3 h4 h5 h6
    subst h1
    exact ⟨h6 ▸ hbr, hmiss, h2, h3, h4, h5⟩

/-! ### the statements carried by the structural induction -/

/-- a static child: its prefix is compared first -/
def StaticStmt (path m : Str) (D : Nat) (toks : List Tok) (ch : Node) : Prop :=
  ∀ (st : St) (bl : Spec.Best) (d F : Nat), Ok D toks st → BRel D st.best bl → DepthLe (below ch) d → d < F →
    if ch.pre.isPrefixOf (path.drop st.si) = true then
      RRel D st (findNode path m ch st)
        (search m F (below ch) ((path.drop st.si).drop ch.pre.length) (valsOf st) bl)
    else findNode path m ch st = (st, .leave)

/-- the param child: entered after the value was stored -/
def ParamStmt (path m : Str) (D : Nat) (toks : List Tok) (ch : Node) : Prop :=
  ∀ (st0 st : St) (bl : Spec.Best) (d F : Nat), Entered .param ch.pre st0 st → Ok D (toks ++ [.param]) st →
    BRel D st.best bl → DepthLe (below ch) d → d < F →
    RRel D st0 (findNode path m ch st) (search m F (below ch) (path.drop st.si) (valsOf st) bl)

theorem depthLe_prepend {ts : List Tok} {r : R} {d : Nat} (h : DepthLe (prepend ts r) d) :
    DepthLe r (d - ts.length) := by
  intro x hx
  have : (ts ++ x.1, x.2) ∈ prepend ts r := List.mem_map.mpr ⟨x, hx, rfl⟩
  have := h _ this
  simp at this
  omega

theorem prepend_length_le {ts : List Tok} {r : R} {d : Nat} (h : DepthLe (prepend ts r) d) (hr : r ≠ []) :
    ts.length ≤ d := by
  cases r with
  | nil => exact absurd rfl hr
  | cons x xs =>
    have : (ts ++ x.1, x.2) ∈ prepend ts (x :: xs) := List.mem_map.mpr ⟨x, List.mem_cons_self, rfl⟩
    have := h _ this
    simp at this
    omega

theorem search_edge_depth {m : Str} {s : Str} {n : Node} {d F : Nat} (hd : DepthLe (residFrom s n) d)
    (hne : below n ≠ []) (hF : d < F) (path : Str) (vals : List Str) (best : Spec.Best) :
    DepthLe (below n) (d - s.length) ∧ d - s.length < F - s.length ∧
    search m F (residFrom s n) path vals best =
      if s.isPrefixOf path then search m (F - s.length) (below n) (path.drop s.length) vals best
      else (Spec.Res.miss, best) := by
  have hl : s.length ≤ d := by simpa [lits] using prepend_length_le (ts := lits s) hd hne
  refine ⟨by simpa [lits] using depthLe_prepend (ts := lits s) hd, by omega, ?_⟩
  rw [← search_residFrom, Nat.sub_add_cancel (by omega)]

/-! ### one block of the node against one step of the search -/

/-- what a block makes of the visit of a child: a hit ends the loop, after a miss it goes on at `nx` -/
def passOn (nx : Next) (x : St × Router.Res) : St × Next :=
  (x.1, match x.2 with
        | .hit rm => .hit rm
        | .leave => nx)

theorem staticBlock_some (k : Kind) (x : St × Router.Res) (st : St) :
    staticBlock (some (k, x.1, x.2)) st = passOn (nextAfter k) x := by
  obtain ⟨st', r⟩ := x
  cases r <;> rfl

theorem paramBlock_some (x : St × Router.Res) (st : St) : paramBlock (some x) st = passOn .any x := by
  obtain ⟨st', r⟩ := x
  cases r <;> rfl

/-- the outcome `S` of a block entered in state `st` against the outcome `L` of the corresponding step of the
    search: both hit, or the search misses and the loop goes on at `nx` in the state the block started
    from, up to the remembered best node -/
def BlockRel (D : Nat) (st : St) (nx : Next) (S : St × Next) (L : Spec.Res × Spec.Best) : Prop :=
  BRel D S.1.best L.2 ∧ ((∃ rm, S.2 = .hit rm ∧ HitRel S.1 rm L.1) ∨ (S.2 = nx ∧ L.1 = .miss ∧ Same S.1 st))

theorem BlockRel.skip {D : Nat} {st : St} {bl : Spec.Best} (hb : BRel D st.best bl) (nx : Next) :
    BlockRel D st nx (st, nx) (.miss, bl) :=
  ⟨hb, Or.inr ⟨rfl, rfl, Same.refl st⟩⟩

theorem RRel.passOn {D : Nat} {st : St} {x : St × Router.Res} {y : Spec.Res × Spec.Best} (h : RRel D st x y)
    (hnp : st.panicked = false) (nx : Next) : BlockRel D st nx (passOn nx x) y := by
  obtain ⟨st', r⟩ := x
  obtain ⟨hb, hm⟩ := h
  cases r with
  | hit rm => exact ⟨hb, Or.inl ⟨rm, rfl, hm⟩⟩
  | leave =>
    obtain ⟨hmiss, hnp', hsi, hpi, hpv⟩ := hm
    exact ⟨hb, Or.inr ⟨rfl, hmiss, hsi, hpi, hpv, hnp'.trans hnp.symm⟩⟩

/-- sequencing: `f` is the rest of the node after the block, `k` the rest of the search step -/
theorem BlockRel.orElse {D : Nat} {st0 st : St} {nx : Next} {S : St × Next} {L : Spec.Res × Spec.Best}
    (h : BlockRel D st nx S L) {f : St × Next → St × Router.Res} {k : Spec.Best → Spec.Res × Spec.Best}
    (hhit : ∀ st' rm, f (st', .hit rm) = (st', .hit rm))
    (hk : ∀ st' b, Same st' st → BRel D st'.best b → RRel D st0 (f (st', nx)) (k b)) :
    RRel D st0 (f S) (Spec.orElse L k) := by
  obtain ⟨st', nx'⟩ := S
  obtain ⟨res, b⟩ := L
  obtain ⟨hb, ⟨rm, hnx, h1, h2, h3, mm, h4⟩ | ⟨hnx, hmiss, hs⟩⟩ := h
  · simp only at hnx h4
    subst hnx h4
    rw [hhit]
    exact ⟨hb, h1, h2, h3, mm, rfl⟩
  · simp only at hnx hmiss
    subst hnx hmiss
    exact hk st' b hs hb

theorem static_rel (path m : Str) {D : Nat} {above : List Tok} {k pre ms nf op pc sts pa an}
    (h : tiNode D above (.mk k pre ms nf op pc sts pa an) = true)
    (st : St) (bl : Spec.Best) (d F : Nat) (hok : Ok D (above ++ headToks k pre) st) (hb : BRel D st.best bl)
    (hd : DepthLe (below (.mk k pre ms nf op pc sts pa an)) (d + 1)) (hF : d < F)
    (ih : ∀ ch ∈ sts, StaticStmt path m D (above ++ headToks k pre) ch) :
    let S := (match path.drop st.si with
              | c :: _ => staticBlock (findStatic path m c sts st) st
              | [] => (st, Next.param))
    let L := litStep (fun r' rest' b => search m F r' rest' (valsOf st) b)
              (below (.mk k pre ms nf op pc sts pa an)) (path.drop st.si) bl
    BRel D S.1.best L.2 ∧
      ((∃ rm, S.2 = .hit rm ∧ HitRel S.1 rm L.1) ∨ (S.2 = .param ∧ L.1 = .miss ∧ Same S.1 st)) := by
  have p := tiNode_parts h
  cases hrest : path.drop st.si with
  | nil => exact BlockRel.skip hb _
  | cons c rest' =>
    simp only [litStep, deriv_lit_below c h, findStatic_eq_pick]
    cases hpick : pick c sts with
    | none =>
      exact BlockRel.skip hb _
    | some ch =>
      obtain ⟨hmem, hlabel⟩ := pick_mem hpick
      obtain ⟨hk, hpne, hch⟩ := tiList_mem p.kids hmem
      obtain ⟨c0, tail, _, hpre⟩ := headToks_static_ne_nil hpne
      have hc0 : c0 = c := by simpa [Node.label, hpre] using hlabel
      subst hc0
      have hbne : below ch ≠ [] := below_ne_nil D _ ch hch
      have hdd : DepthLe (residFrom tail ch) d := by
        simpa only [deriv_lit_below c0 h, hpick, hpre, List.tail_cons] using depthLe_deriv (.lit c0) hd
      -- the rest of the child's edge is read by the search byte by byte, by the Find loop in one comparison
      obtain ⟨hdch, hF', hedge⟩ := search_edge_depth (m := m) hdd hbne hF rest' (valsOf st) bl
      have hst := ih ch hmem st bl _ _ hok hb hdch hF'
      rw [hrest, hpre] at hst
      simp only [List.isPrefixOf, beq_self_eq_true, Bool.true_and, List.length_cons, List.drop_succ_cons] at hst
      simp only [Option.map_some, hpre, List.tail_cons, search_unless_empty, staticBlock_some, hk]
      rw [hedge]
      by_cases hpfx : tail.isPrefixOf rest' = true
      · rw [if_pos hpfx] at hst ⊢
        exact hst.passOn hok.np _
      · rw [if_neg hpfx] at hst ⊢
        rw [hst]
        exact BlockRel.skip hb _

theorem paramValue_length (leaf : Bool) (rest : Str) :
    (paramValue leaf rest).length = (if leaf then rest.length else (rest.takeWhile (· ≠ '/')).length) := by
  unfold paramValue
  cases leaf <;> simp

theorem enterParam_eq (path : Str) (leaf : Bool) (st : St) (hlt : st.pi < st.pv.length)
    (hnp : st.panicked = false) :
    enterParam path leaf st = entered st (paramValue leaf (path.drop st.si)) st.best := by
  have hset : ∀ v, setVal st (st.pi : Int) v = { st with pv := st.pv.set st.pi v } := by
    intro v
    unfold setVal
    simp only [Int.toNat_natCast]
    rw [if_neg (by omega)]
  have htake : (path.drop st.si).take (paramValue leaf (path.drop st.si)).length
      = paramValue leaf (path.drop st.si) := by
    rw [paramValue_length]; exact enterParam_value leaf _
  unfold enterParam
  simp only [hset, ← paramValue_length]
  simp [entered, hnp, htake]

theorem param_rel (path m : Str) {D : Nat} {above : List Tok} {k pre ms nf op pc sts pa an}
    (h : tiNode D above (.mk k pre ms nf op pc sts pa an) = true)
    (st : St) (bl : Spec.Best) (d F : Nat) (hok : Ok D (above ++ headToks k pre) st) (hb : BRel D st.best bl)
    (hd : DepthLe (below (.mk k pre ms nf op pc sts pa an)) (d + 1)) (hF : d < F)
    (hne : (path.drop st.si).isEmpty = false)
    (ih : ∀ ch, pa = some ch → ParamStmt path m D (above ++ headToks k pre) ch) :
    let S := paramBlock (findParam path m pa st) st
    let L := paramStep (fun r' rest' vals' b => search m F r' rest' vals' b)
              (below (.mk k pre ms nf op pc sts pa an)) (path.drop st.si) (valsOf st) bl
    BRel D S.1.best L.2 ∧
      ((∃ rm, S.2 = .hit rm ∧ HitRel S.1 rm L.1) ∨ (S.2 = .any ∧ L.1 = .miss ∧ Same S.1 st)) := by
  have p := tiNode_parts h
  simp only [paramStep, deriv_param_below h, hne, Bool.false_eq_true, false_or]
  cases pa with
  | none =>
    rw [findParam]
    exact BlockRel.skip hb _
  | some ch =>
    obtain ⟨hkp, hch⟩ := tiOpt_some p.kidP
    obtain ⟨ck, cpre, cms, cnf, cop, cpc, csts, cpa, can⟩ := ch
    simp only [Node.kind] at hkp
    subst hkp
    have q := tiNode_parts hch
    have hbe := List.isEmpty_eq_false_iff.mpr (below_ne_nil D _ _ hch)
    obtain ⟨harity, hlt⟩ := hok.slot (t := [Tok.param]) rfl q.depth
    rw [findParam, paramBlock_some, enterParam_eq path _ st hlt hok.np]
    simp only [belowOf, hbe, Bool.false_eq_true, if_false, ← leaf_iff hch]
    generalize paramValue (isLeafNode (.mk .param cpre cms cnf cop cpc csts cpa can)) (path.drop st.si) = v
    have hdch : DepthLe (below (.mk .param cpre cms cnf cop cpc csts cpa can)) d := by
      have := depthLe_deriv .param hd
      rwa [deriv_param_below h] at this
    have hst := ih _ rfl st (entered st v st.best) bl d F ⟨v, hlt, hok.blank st.pi (Nat.le_refl _), rfl, rfl, rfl⟩
      (hok.entered harity v) hb hdch hF
    have hdrop : path.drop (entered st v st.best).si = (path.drop st.si).drop v.length := by
      simp [entered, List.drop_drop]
    rw [hdrop, valsOf_entered _ _ _ hlt] at hst
    exact hst.passOn hok.np _

/-! ### one node -/

/-- the part of `findNode` after the prefix comparison -/
def bodyOf (path m : Str) (k : Kind) (pre : Str) (ms : List (Str × RouteMethod)) (nf : Option RouteMethod)
    (op : Str) (sts : List Node) (pa an : Option Node) (st : St) : St × Router.Res :=
  match nodeEnd m ms nf op (path.drop st.si).isEmpty st with
  | (st, some rm) => (st, .hit rm)
  | (st, none) =>
    match (match path.drop st.si with
           | c :: _ => staticBlock (findStatic path m c sts st) st
           | [] => (st, Next.param)) with
    | (st, .param) =>
      if (path.drop st.si).isEmpty then finishNode path m k pre.length an st .any
      else
        match paramBlock (findParam path m pa st) st with
        | (st, nx) => finishNode path m k pre.length an st nx
    | (st, nx) => finishNode path m k pre.length an st nx

theorem findNode_unfold (path m : Str) (k pre ms nf op pc sts pa an) (st : St) :
    findNode path m (.mk k pre ms nf op pc sts pa an) st =
      if st.panicked then (st, .leave) else
      if (if k = .static then lcp (path.drop st.si) pre else 0) ≠ (if k = .static then pre.length else 0)
      then (st, .leave)
      else bodyOf path m k pre ms nf op sts pa an
        { st with si := st.si + (if k = .static then lcp (path.drop st.si) pre else 0) } := by
  rw [findNode]
  rfl

theorem nodeEnd_some {m : Str} {ms : List (Str × RouteMethod)} {nf : Option RouteMethod} {op : Str}
    {atEnd : Bool} {st : St} {rm : RouteMethod} (h : (nodeEnd m ms nf op atEnd st).2 = some rm) :
    (m, rm) ∈ ms ∨ nf = some rm := by
  simp only [nodeEnd] at h
  split at h
  · split at h
    · exact Or.inl (findMethod_mem h)
    · exact Or.inr h
  · simp at h

theorem orElse_hit_eq (e : Entry) (v : List Str) (b : Spec.Best) (k : Spec.Best → Spec.Res × Spec.Best) :
    orElse (Spec.Res.hit e v, b) k = (Spec.Res.hit e v, b) := rfl
theorem orElse_miss_eq (b : Spec.Best) (k : Spec.Best → Spec.Res × Spec.Best) :
    orElse (Spec.Res.miss, b) k = k b := rfl

theorem search_succ (m : Str) (fuel : Nat) (r : R) (path : Str) (vals : List Str) (best : Spec.Best) :
    search m (fuel + 1) r path vals best =
      match stepEnd m (ends r) path best with
      | (some e, best) => (.hit e vals, best)
      | (none, best) =>
        orElse (litStep (fun r' rest b => search m fuel r' rest vals b) r path best) fun best =>
        orElse (paramStep (fun r' rest vals' b => search m fuel r' rest vals' b) r path vals best) fun best =>
        anyStep m r path vals best := by
  rw [search]
  rfl

/-- **one node**: the body of `findNode` against one step of the reference search -/
theorem body_rel (path m : Str) {D : Nat} {above : List Tok} {k pre ms nf op pc sts pa an}
    (h : tiNode D above (.mk k pre ms nf op pc sts pa an) = true)
    (st0 st : St) (bl : Spec.Best) (d F : Nat) (hE : Entered k pre st0 st)
    (hok : Ok D (above ++ headToks k pre) st) (hb : BRel D st.best bl)
    (hd : DepthLe (below (.mk k pre ms nf op pc sts pa an)) d) (hF : d < F)
    (ihS : ∀ ch ∈ sts, StaticStmt path m D (above ++ headToks k pre) ch)
    (ihP : ∀ ch, pa = some ch → ParamStmt path m D (above ++ headToks k pre) ch) :
    RRel D st0 (bodyOf path m k pre ms nf op sts pa an st)
      (search m F (below (.mk k pre ms nf op pc sts pa an)) (path.drop st.si) (valsOf st) bl) := by
  have p := tiNode_parts h
  rw [search_fuel m d F (d + 2) _ _ _ _ hd hF (by omega)]
  have hd1 : DepthLe (below (.mk k pre ms nf op pc sts pa an)) (d + 1) := depthLe_mono hd (by omega)
  rw [show d + 2 = (d + 1) + 1 from rfl, search_succ, ends_below h]
  have hne := nodeEnd_rel D m ms nf op (path.drop st.si) st bl p.noNf
    (fun rm hrm => by rw [(p.nfRec rm hrm).2]; exact p.depth) hb
  have hsome := @nodeEnd_some m ms nf op (path.drop st.si).isEmpty st
  unfold bodyOf
  generalize nodeEnd m ms nf op (path.drop st.si).isEmpty st = X at hne hsome ⊢
  generalize stepEnd m (ownEntries ms nf) (path.drop st.si) bl = Y at hne ⊢
  obtain ⟨st1, e3⟩ := X
  obtain ⟨e1, b1⟩ := Y
  simp only at hne hsome
  obtain ⟨hb1, hst1, he1⟩ := hne
  have hs1 : Same st1 st := by rw [hst1]; exact ⟨rfl, rfl, rfl, rfl⟩
  have hok1 : Ok D (above ++ headToks k pre) st1 := hs1.ok hok
  cases e3 with
  | some rm =>
    simp only [Option.map_some] at he1
    subst he1
    simp only
    refine ⟨hb1, hok1.np, ?_, ?_, (if ms.isEmpty then routeNotFound else m), ?_⟩
    · rw [hok1.pi]
      rcases hsome rfl with hm | hn
      · exact ((p.recs _ hm).2).symm
      · exact ((p.nfRec rm hn).2).symm
    · have h1 := p.depth
      have h2 := hok1.len
      show st1.pi ≤ st1.pv.length
      rw [hok1.pi]; omega
    · rw [hs1.vals]
  | none =>
    simp only [Option.map_none] at he1
    subst he1
    simp only
    have hS := static_rel path m h st1 b1 d (d + 1) hok1 hb1 hd1 (by omega) ihS
    simp only [hs1.vals, hs1.1] at hS
    rw [hs1.1]
    generalize (match path.drop st.si with
              | c :: _ => staticBlock (findStatic path m c sts st1) st1
              | [] => (st1, Next.param)) = S at hS ⊢
    generalize litStep (fun r' rest' b => search m (d + 1) r' rest' (valsOf st) b)
      (below (.mk k pre ms nf op pc sts pa an)) (path.drop st.si) b1 = L at hS ⊢
    -- a hit ends the node on both sides; after a miss of the Static block: the Param block, if there is path left
    apply BlockRel.orElse hS fun _ _ => rfl
    intro st2 b2 hs2 hb2
    have hs2' : Same st2 st := hs2.trans hs1
    simp only [hs2'.1]
    by_cases hemp : (path.drop st.si).isEmpty = true
    · simp only [hemp, if_true, paramStep, true_or, orElse_miss_eq]
      exact finish_any_rel path m h hE hok hs2' hb2
    · have hemp' : (path.drop st.si).isEmpty = false := by simpa using hemp
      simp only [hemp', Bool.false_eq_true, if_false]
      have hP := param_rel path m h st2 b2 d (d + 1) (hs2'.ok hok) hb2 hd1 (by omega)
        (by rw [hs2'.1]; exact hemp') ihP
      simp only [hs2'.vals, hs2'.1] at hP
      generalize paramBlock (findParam path m pa st2) st2 = P at hP ⊢
      generalize paramStep (fun r' rest' vals' b => search m (d + 1) r' rest' vals' b)
        (below (.mk k pre ms nf op pc sts pa an)) (path.drop st.si) (valsOf st) b2 = Q at hP ⊢
      -- the Param block missed as well: the Any block
      apply BlockRel.orElse hP fun _ _ => rfl
      exact fun st3 b3 hs3 hb3 => finish_any_rel path m h hE hok (hs3.trans hs2') hb3

theorem arity_static (toks : List Tok) (pre : Str) : arity (toks ++ headToks .static pre) = arity toks := by
  simp [headToks, arity_append, arity_lits]

mutual
theorem node_ok (path m : Str) (D : Nat) : (n : Node) → (toks : List Tok) → tiNode D toks n = true →
    (n.kind = .static → StaticStmt path m D toks n) ∧ (n.kind = .param → ParamStmt path m D toks n)
  | .mk k pre ms nf op pc sts pa an, toks, h => by
    have p := tiNode_parts h
    have ihS : ∀ ch ∈ sts, StaticStmt path m D (toks ++ headToks k pre) ch :=
      list_ok path m D sts (toks ++ headToks k pre) p.kids
    have ihP : ∀ ch, pa = some ch → ParamStmt path m D (toks ++ headToks k pre) ch :=
      opt_ok path m D pa (toks ++ headToks k pre) p.kidP
    constructor
    · intro hk
      simp only [Node.kind] at hk
      subst hk
      intro st bl d F hok hb hd hF
      rw [findNode_unfold]
      simp only [hok.np, Bool.false_eq_true, if_false, if_true, Node.pre, ne_eq]
      by_cases hpfx : pre.isPrefixOf (path.drop st.si) = true
      · have hl : lcp (path.drop st.si) pre = pre.length := (lcp_eq_length_iff _ _).mpr hpfx
        simp only [hpfx, if_true, hl, not_true_eq_false, if_false]
        have hE : Entered .static pre st { st with si := st.si + pre.length } := ⟨rfl, rfl, rfl⟩
        have hok' : Ok D (toks ++ headToks .static pre) { st with si := st.si + pre.length } :=
          ⟨hok.np, by rw [arity_static]; exact hok.pi, hok.len, hok.blank⟩
        have := body_rel path m h st { st with si := st.si + pre.length } bl d F hE hok' hb hd hF ihS ihP
        have hdrop : path.drop (st.si + pre.length) = (path.drop st.si).drop pre.length := by
          rw [List.drop_drop]
        simp only [hdrop, hok.np] at this
        exact this
      · have hl : lcp (path.drop st.si) pre ≠ pre.length := fun h => hpfx ((lcp_eq_length_iff _ _).mp h)
        simp only [hpfx, Bool.false_eq_true, if_false, hl, not_false_eq_true, if_true]
    · intro hk
      simp only [Node.kind] at hk
      subst hk
      intro st0 st bl d F hE hok hb hd hF
      rw [findNode_unfold]
      simp only [hok.np, Bool.false_eq_true, if_false, reduceCtorEq, ne_eq, not_true_eq_false, Nat.add_zero]
      have hst : ({ si := st.si, pi := st.pi, pv := st.pv, best := st.best } : St) = st := by
        have := hok.np
        cases st
        simp_all
      rw [hst]
      exact body_rel path m h st0 st bl d F hE hok hb hd hF ihS ihP
theorem list_ok (path m : Str) (D : Nat) : (l : List Node) → (toks : List Tok) → tiList D toks l = true →
    ∀ ch ∈ l, StaticStmt path m D toks ch
  | [], _, _ => by intro ch hm; simp at hm
  | c :: cs, toks, h => by
    obtain ⟨hk, _, hc, hcs⟩ := tiList_cons h
    intro ch hm
    rcases List.mem_cons.mp hm with heq | hm'
    · rw [heq]; exact (node_ok path m D c toks hc).1 hk
    · exact list_ok path m D cs toks hcs ch hm'
theorem opt_ok (path m : Str) (D : Nat) : (o : Option Node) → (toks : List Tok) → tiOpt D toks .param o = true →
    ∀ ch, o = some ch → ParamStmt path m D toks ch
  | none, _, _ => by intro ch he; simp at he
  | some c, toks, h => by
    obtain ⟨hk, hc⟩ := tiOpt_some h
    intro ch he
    simp only [Option.some.injEq] at he
    rw [← he]
    exact (node_ok path m D c toks hc).2 hk
end

end Router.Tree
