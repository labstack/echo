import EchoProofs.Tree.Dirty.Sim
/-!
# Two runs of the Find loop on value slices with different content — the tree

`findNode_content` **(A)**: on every tree satisfying the invariant `tiNode`, two visits of a node by the Find
loop that start in states agreeing on `si`, `pi`, the remembered best node, the panic flag, the length of the
value slice and its slots below `pi` (`SimPi`) index out of range together, and otherwise end in states that
agree in the same sense, with the same result.  `findNode_content_nf` is the same for the slightly finer
relation `SimNf` that `find` needs for its best-node fallback, and adds that a matched record takes exactly
the `pi` values collected on the way and that a miss gives the parameter index back (`ResOk`).  Both are
instances of `findNode_content_gen`.

Structural induction over `Node` / `List Node` / `Option Node` along the invariant, as in `Refine.lean`
(`node_ok'` / `list_ok'` / `opt_ok'`); the invariant is used for exactly three facts: the kinds of the
children (so that leaving a child gives back the slot entering it took), `paramsCount = pi + 1` at the
wildcard child, and `pnames.length = arity` for every record (so that a match hands out exactly the slots
below `pi`, and the best node's not-found record never reaches above `pi` when it is remembered).
The hypothesis cannot be dropped: see `badTree` in `Dirty.lean`.
-/
namespace Router.Tree
open Router Router.Spec

variable {w : Option Best → Nat}

/-- the statement carried by the structural induction; `d` is the parameter index inside the node -/
def NodeOK (w : Option Best → Nat) (path m : Str) (d : Nat) (n : Node) : Prop :=
  ∀ a b : St, Sim w a b → a.pi = d → (findNode path m n a).1.panicked = false →
    Agree w (findNode path m n a) (findNode path m n b) ∧ ResOk d n.kind (findNode path m n a)

/-- what a block makes of two agreeing visits of a child of kind `k`: the results agree, and a miss has
    given back the slot the child took -/
theorem passOn_ok {k : Kind} {d : Nat} {x y : St × Res} (hag : Agree w x y) (hok : ResOk (d + back k) k x) :
    Agree w (passOn (nextAfter k) x) (passOn (nextAfter k) y) ∧ NextOk d (passOn (nextAfter k) x) := by
  obtain ⟨sa, ra⟩ := x
  obtain ⟨sb, rb⟩ := y
  obtain ⟨hres, hsim⟩ := hag
  simp only at hres hsim
  subst hres
  cases ra with
  | hit rm => exact ⟨⟨rfl, hsim⟩, hok⟩
  | leave =>
    refine ⟨⟨rfl, hsim⟩, ?_⟩
    -- `nextAfter k` is not a hit, whatever `k`
    cases k <;> exact Nat.add_right_cancel hok

theorem sBlock_ok (path m : Str) (sts : List Node) (d : Nat)
    (ih : ∀ n ∈ sts, n.kind = .static ∧ NodeOK w path m d n) {a b : St} (h : Sim w a b) (hpi : a.pi = d)
    (hnp : (sBlock path m sts a).1.panicked = false) :
    Agree w (sBlock path m sts a) (sBlock path m sts b) ∧ NextOk d (sBlock path m sts a) := by
  unfold sBlock at hnp ⊢
  rw [← h.si]
  cases hd : path.drop a.si with
  | nil => exact ⟨⟨rfl, h⟩, hpi⟩
  | cons c rest =>
    simp only [hd, findStatic_eq_pick] at hnp ⊢
    cases hp : pick c sts with
    | none => exact ⟨⟨rfl, h⟩, hpi⟩
    | some n =>
      simp only [hp, Option.map_some] at hnp ⊢
      obtain ⟨hk, ihn⟩ := ih n (pick_mem hp).1
      simp only [staticBlock_some] at hnp ⊢
      obtain ⟨hag, hok⟩ := ihn a b h hpi hnp
      rw [hk] at hok ⊢
      exact passOn_ok hag hok

theorem pBlock_ok (path m : Str) (pa : Option Node) (d : Nat)
    (ih : ∀ n, pa = some n → n.kind = .param ∧ NodeOK w path m (d + 1) n) {a b : St} (h : Sim w a b)
    (hpi : a.pi = d) (hnp : (paramBlock (findParam path m pa a) a).1.panicked = false) :
    Agree w (paramBlock (findParam path m pa a) a) (paramBlock (findParam path m pa b) b) ∧
      NextOk d (paramBlock (findParam path m pa a) a) := by
  cases pa with
  | none => rw [findParam, findParam]; exact ⟨⟨rfl, h⟩, hpi⟩
  | some c =>
    simp only [findParam, paramBlock_some] at hnp ⊢
    have he := np_of_mono (findNode_mono path m c _) hnp
    obtain ⟨hse, hpe⟩ := enterParam_sim path (isLeafNode c) h he
    obtain ⟨hk, ihc⟩ := ih c rfl
    obtain ⟨hag, hok⟩ := ihc _ _ hse (by rw [hpe, hpi]) hnp
    rw [hk] at hok
    exact passOn_ok hag hok

theorem pStage_ok (hw : ∀ o, w o ≤ nfLen o) (path m : Str) (k : Kind) (p : Nat) (pa an : Option Node) (d : Nat)
    (ih : ∀ n, pa = some n → n.kind = .param ∧ NodeOK w path m (d + 1) n) (hf : AnyFacts d an)
    {a b : St} (h : Sim w a b) (hpi : a.pi = d) (hnp : (pStage path m k p pa an a).1.panicked = false) :
    Agree w (pStage path m k p pa an a) (pStage path m k p pa an b) ∧
      ResOk d k (pStage path m k p pa an a) := by
  unfold pStage at hnp ⊢
  rw [← h.si]
  by_cases he : (path.drop a.si).isEmpty = true
  · simp only [he, if_true] at hnp ⊢
    exact finishNode_ok path m k p an d hw h .any hpi hf hnp
  · simp only [he, if_false, Bool.false_eq_true] at hnp ⊢
    have hb := np_of_mono (finishNode_mono path m k p an _ _) hnp
    obtain ⟨hag, hok⟩ := pBlock_ok path m pa d ih h hpi hb
    generalize paramBlock (findParam path m pa a) a = x at hag hok hnp
    generalize paramBlock (findParam path m pa b) b = y at hag
    obtain ⟨sa, na⟩ := x
    obtain ⟨sb, nb⟩ := y
    obtain ⟨hres, hsim⟩ := hag
    simp only at hres hsim
    subst hres
    exact finishNode_ok path m k p an d hw hsim na hok hf hnp

theorem afterS_ok (hw : ∀ o, w o ≤ nfLen o) (path m : Str) (k : Kind) (p : Nat) (pa an : Option Node) (d : Nat)
    (ih : ∀ n, pa = some n → n.kind = .param ∧ NodeOK w path m (d + 1) n) (hf : AnyFacts d an)
    {a b : St} (h : Sim w a b) (nx : Next) (hnx : NextOk d (a, nx))
    (hnp : (afterS path m k p pa an (a, nx)).1.panicked = false) :
    Agree w (afterS path m k p pa an (a, nx)) (afterS path m k p pa an (b, nx)) ∧
      ResOk d k (afterS path m k p pa an (a, nx)) := by
  cases nx with
  | param => exact pStage_ok hw path m k p pa an d ih hf h hnx hnp
  | hit rm => exact finishNode_ok path m k p an d hw h _ hnx hf hnp
  | any => exact finishNode_ok path m k p an d hw h _ hnx hf hnp
  | leave => exact finishNode_ok path m k p an d hw h _ hnx hf hnp

theorem body_ok (hw : ∀ o, w o ≤ nfLen o) (path m : Str) (k : Kind) (pre : Str) (ms : List (Str × RouteMethod))
    (nf : Option RouteMethod) (op : Str) (sts : List Node) (pa an : Option Node) (d : Nat)
    (ihS : ∀ n ∈ sts, n.kind = .static ∧ NodeOK w path m d n)
    (ihP : ∀ n, pa = some n → n.kind = .param ∧ NodeOK w path m (d + 1) n) (hf : AnyFacts d an)
    (hms : ∀ x ∈ ms, x.2.pnames.length = d) (hnf : ∀ rm, nf = some rm → rm.pnames.length = d)
    {a b : St} (h : Sim w a b) (hpi : a.pi = d)
    (hnp : (bodyOf path m k pre ms nf op sts pa an a).1.panicked = false) :
    Agree w (bodyOf path m k pre ms nf op sts pa an a) (bodyOf path m k pre ms nf op sts pa an b) ∧
      ResOk d k (bodyOf path m k pre ms nf op sts pa an a) := by
  rw [bodyOf_eq] at hnp ⊢
  rw [bodyOf_eq, ← h.si]
  obtain ⟨hag, hpi1⟩ := nodeEnd_sim m ms nf op (path.drop a.si).isEmpty hw h
    (fun rm hrm => by rw [hnf rm hrm, hpi]; exact Nat.le_refl _)
  have hsome := @nodeEnd_some m ms nf op (path.drop a.si).isEmpty a
  generalize nodeEnd m ms nf op (path.drop a.si).isEmpty a = x at hag hpi1 hsome hnp
  generalize nodeEnd m ms nf op (path.drop a.si).isEmpty b = y at hag
  obtain ⟨sa, ea⟩ := x
  obtain ⟨sb, eb⟩ := y
  obtain ⟨hres, hsim⟩ := hag
  simp only at hres hsim hpi1 hsome
  subst hres
  cases ea with
  | some rm =>
    refine ⟨⟨rfl, hsim⟩, ?_⟩
    show rm.pnames.length = sa.pi
    rw [hpi1, hpi]
    rcases hsome rfl with hm | hn
    · exact hms _ hm
    · exact hnf rm hn
  | none =>
    simp only at hnp ⊢
    have hpi2 : sa.pi = d := by rw [hpi1, hpi]
    have hs := np_of_mono (afterS_mono path m k pre.length pa an _ _) hnp
    obtain ⟨hag2, hok2⟩ := sBlock_ok path m sts d ihS hsim hpi2 hs
    generalize sBlock path m sts sa = x at hag2 hok2 hnp
    generalize sBlock path m sts sb = y at hag2
    obtain ⟨sa2, na⟩ := x
    obtain ⟨sb2, nb⟩ := y
    obtain ⟨hres2, hsim2⟩ := hag2
    simp only at hres2 hsim2
    subst hres2
    exact afterS_ok hw path m k pre.length pa an d ihP hf hsim2 na hok2 hnp

theorem node_ok_step (hw : ∀ o, w o ≤ nfLen o) (path m : Str) (D : Nat) (toks : List Tok) (k : Kind) (pre : Str)
    (ms : List (Str × RouteMethod)) (nf : Option RouteMethod) (op : Str) (pc : Nat) (sts : List Node)
    (pa an : Option Node) (hti : tiNode D toks (.mk k pre ms nf op pc sts pa an) = true)
    (ihS : ∀ n ∈ sts, n.kind = .static ∧ NodeOK w path m (arity (toks ++ headToks k pre)) n)
    (ihP : ∀ n, pa = some n → n.kind = .param ∧ NodeOK w path m (arity (toks ++ headToks k pre) + 1) n) :
    NodeOK w path m (arity (toks ++ headToks k pre)) (.mk k pre ms nf op pc sts pa an) := by
  have p := tiNode_parts hti
  have hf : AnyFacts (arity (toks ++ headToks k pre)) an := by
    intro c hc
    subst hc
    obtain ⟨hka, hac⟩ := tiOpt_some p.kidA
    obtain ⟨ak, apre, ams, anf, aop, apc, asts, apa, aan⟩ := c
    simp only [Node.kind] at hka
    subst hka
    have q := tiNode_parts hac
    have har : arity ((toks ++ headToks k pre) ++ headToks .any apre) = arity (toks ++ headToks k pre) + 1 := by
      rw [arity_append]; simp [headToks, arity]
    refine ⟨rfl, ?_, ?_, ?_⟩
    · show apc = _
      rw [(q.kindAny rfl).2.2.2.2, har]
    · intro x hx
      rw [(q.recs x hx).2, har]
    · intro rm hrm
      rw [(q.nfRec rm hrm).2, har]
  intro a b h hpi hnp
  rw [findNode_unfold] at hnp ⊢
  rw [findNode_unfold, ← h.pan, ← h.si]
  by_cases hp : a.panicked = true
  · simp [hp] at hnp
  · simp only [hp, if_false, Bool.false_eq_true] at hnp ⊢
    by_cases hl : (if k = .static then lcp (path.drop a.si) pre else 0) ≠ (if k = .static then pre.length else 0)
    · simp only [if_pos hl]
      refine ⟨⟨rfl, h⟩, ?_⟩
      show a.pi + back k = _
      cases k with
      | static => simpa [back] using hpi
      | param => simp at hl
      | any => simp at hl
    · simp only [if_neg hl] at hnp ⊢
      refine body_ok hw path m k pre ms nf op sts pa an _ ihS ihP hf (fun x hx => (p.recs x hx).2)
        (fun rm hrm => (p.nfRec rm hrm).2) ?_ hpi hnp
      exact ⟨rfl, h.pi, h.best, rfl, h.len, h.low⟩

mutual
theorem node_ok' (hw : ∀ o, w o ≤ nfLen o) (path m : Str) (D : Nat) : (n : Node) → (toks : List Tok) → tiNode D toks n = true →
    NodeOK w path m (arity (toks ++ headToks n.kind n.pre)) n
  | .mk k pre ms nf op pc sts pa an, toks, h => by
    have p := tiNode_parts h
    exact node_ok_step hw path m D toks k pre ms nf op pc sts pa an h
      (list_ok' hw path m D sts (toks ++ headToks k pre) p.kids)
      (opt_ok' hw path m D pa (toks ++ headToks k pre) p.kidP)
theorem list_ok' (hw : ∀ o, w o ≤ nfLen o) (path m : Str) (D : Nat) : (l : List Node) → (toks : List Tok) → tiList D toks l = true →
    ∀ c ∈ l, c.kind = .static ∧ NodeOK w path m (arity toks) c
  | [], _, _ => by intro c hc; simp at hc
  | x :: xs, toks, h => by
    obtain ⟨hk, _, hx, hxs⟩ := tiList_cons h
    intro c hc
    rcases List.mem_cons.mp hc with heq | hm
    · rw [heq]
      refine ⟨hk, ?_⟩
      have := node_ok' hw path m D x toks hx
      rw [hk, arity_static] at this
      exact this
    · exact list_ok' hw path m D xs toks hxs c hm
theorem opt_ok' (hw : ∀ o, w o ≤ nfLen o) (path m : Str) (D : Nat) : (o : Option Node) → (toks : List Tok) →
    tiOpt D toks .param o = true → ∀ c, o = some c → c.kind = .param ∧ NodeOK w path m (arity toks + 1) c
  | none, _, _ => by intro c hc; simp at hc
  | some x, toks, h => by
    obtain ⟨hk, hx⟩ := tiOpt_some h
    intro c hc
    simp only [Option.some.injEq] at hc
    rw [← hc]
    refine ⟨hk, ?_⟩
    have := node_ok' hw path m D x toks hx
    rw [hk] at this
    have har : arity (toks ++ headToks .param x.pre) = arity toks + 1 := by
      rw [arity_append]; simp [headToks, arity]
    rw [har] at this
    exact this
end

/-- **(A), general form.**  `w` says how many slots beyond `pi` the two slices are required to agree on,
    as a function of the remembered best node; any `w` below `nfLen` (the number of values the best node's
    not-found record takes) will do.  On every tree satisfying the invariant: two visits of a node from
    `Sim w`-related states, the first of which does not index out of range, give the same result and end in
    `Sim w`-related states; a matched record takes exactly the `pi` values collected so far, and a miss gives
    the node's slot back (`ResOk`). -/
theorem findNode_content_gen (hw : ∀ o, w o ≤ nfLen o) (path m : Str) (D : Nat) (toks : List Tok) (n : Node)
    (hti : tiNode D toks n = true) (a b : St) (h : Sim w a b)
    (hpi : a.pi = arity (toks ++ headToks n.kind n.pre))
    (hnp : (findNode path m n a).1.panicked = false) :
    (findNode path m n a).2 = (findNode path m n b).2 ∧ Sim w (findNode path m n a).1 (findNode path m n b).1 ∧
      ResOk a.pi n.kind (findNode path m n a) := by
  obtain ⟨hag, hok⟩ := node_ok' hw path m D n toks hti a b h hpi hnp
  rw [hpi]
  exact ⟨hag.res, hag.sim, hok⟩

theorem findNode_content_panic (hw : ∀ o, w o ≤ nfLen o) (path m : Str) (D : Nat) (toks : List Tok) (n : Node)
    (hti : tiNode D toks n = true) (a b : St) (h : Sim w a b)
    (hpi : a.pi = arity (toks ++ headToks n.kind n.pre)) :
    (findNode path m n a).1.panicked = (findNode path m n b).1.panicked := by
  cases ha : (findNode path m n a).1.panicked with
  | false => exact ((findNode_content_gen hw path m D toks n hti a b h hpi ha).2.1.pan).symm.trans ha |>.symm
  | true =>
    cases hb : (findNode path m n b).1.panicked with
    | true => rfl
    | false =>
      have := (findNode_content_gen hw path m D toks n hti b a h.symm (by rw [← h.pi]; exact hpi) hb).2.1.pan
      rw [hb, ha] at this
      cases this

/-- agreement on everything but the content of the value slice, and on the slots below `pi` -/
abbrev SimPi : St → St → Prop := Sim (fun _ => 0)

/-- agreement on everything but the content of the value slice, on the slots below `pi`, and on the slots
    the custom not-found record of the remembered best node (if any) would take -/
abbrev SimNf : St → St → Prop := Sim nfLen

/-- **(A) the Find loop does not see the content of the value slice above `pi`** — on every tree satisfying
    the invariant `tiNode`: two visits of a node from states that agree on `si`, `pi`, the remembered best
    node, the panic flag, the length of the value slice and its slots BELOW `pi`, index out of range together,
    and if they do not, they give the same result and end in states that agree in the same sense. -/
theorem findNode_content (path m : Str) (D : Nat) (toks : List Tok) (n : Node)
    (hti : tiNode D toks n = true) (a b : St) (h : SimPi a b)
    (hpi : a.pi = arity (toks ++ headToks n.kind n.pre)) :
    (findNode path m n a).1.panicked = (findNode path m n b).1.panicked ∧
    ((findNode path m n a).1.panicked = false →
      (findNode path m n a).2 = (findNode path m n b).2 ∧ SimPi (findNode path m n a).1 (findNode path m n b).1) := by
  have hw : ∀ o : Option Best, (fun _ => 0) o ≤ nfLen o := fun _ => Nat.zero_le _
  refine ⟨findNode_content_panic hw path m D toks n hti a b h hpi, fun hnp => ?_⟩
  obtain ⟨h1, h2, _⟩ := findNode_content_gen hw path m D toks n hti a b h hpi hnp
  exact ⟨h1, h2⟩

/-- **(A), the form used for `find`**: the same for `SimNf`; in addition a matched record takes exactly the
    `pi` values collected so far and a miss gives the node's slot back -/
theorem findNode_content_nf (path m : Str) (D : Nat) (toks : List Tok) (n : Node)
    (hti : tiNode D toks n = true) (a b : St) (h : SimNf a b)
    (hpi : a.pi = arity (toks ++ headToks n.kind n.pre)) :
    (findNode path m n a).1.panicked = (findNode path m n b).1.panicked ∧
    ((findNode path m n a).1.panicked = false →
      (findNode path m n a).2 = (findNode path m n b).2 ∧ SimNf (findNode path m n a).1 (findNode path m n b).1 ∧
        ResOk a.pi n.kind (findNode path m n a)) :=
  ⟨findNode_content_panic (fun _ => Nat.le_refl _) path m D toks n hti a b h hpi,
   findNode_content_gen (fun _ => Nat.le_refl _) path m D toks n hti a b h hpi⟩

end Router.Tree
