import EchoProofs.Tree.Frame
/-!
# Two runs of the Find loop on value slices with different content — the state operations

`Sim w a b`: two states of the Find loop that agree on everything except the CONTENT of the value slice
(`si`, `pi`, remembered best node, panic flag, length of the slice), and whose slices agree on every slot
below `pi` (the values stored on the way to the current node — the only slots `backtrackToNextNodeKind`
and a match read) and on every slot below `w best`.  Two instances are used:

* `w = fun _ => 0` (`SimPi`): agreement below `pi` only — the relation of statement (A);
* `w = nfLen` (`SimNf`): in addition agreement on the slots the custom not-found record of the remembered
  best node would take.  `nfLen best` is `0` as long as no best node is remembered and is `≤ pi` at the
  moment a best node is remembered (its record takes exactly the values collected on the way to it), so the
  additional requirement is vacuous when it is introduced; later `pi` only falls below it by blanking slots
  in BOTH runs.  This is what makes the best-node fallback of `find` independent of the old content.

This file shows that every state operation of the loop (`enterParam`, `leaveRestore`, `leaveOut`,
`nodeEnd`, the Any block, `finishNode`) maps `Sim w`-related states to `Sim w`-related states with equal
results (for every `w ≤ nfLen`), and tracks the parameter index.  No hypothesis on the tree except, for the
Any block, that the wildcard child knows its slot (`paramsCount = pi + 1`, `AnyFacts`) — which is what the
tree invariant gives (`Dirty/Node.lean`).  As in `Frame.lean` the lemmas assume that the first run does not
index out of range; `findNode_content_panic` (`Node.lean`) shows that the two runs do so together.
-/
namespace Router

/-- number of values the custom not-found record of the remembered best node takes (0 if there is none) -/
def nfLen : Option Best → Nat
  | some b =>
    match b.nf with
    | some rm => rm.pnames.length
    | none => 0
  | none => 0

/-- two states of the Find loop that differ at most in the content of the value slice, and only in slots
    at or above `pi` and at or above `w best` — slots the loop does not read before writing them -/
structure Sim (w : Option Best → Nat) (a b : St) : Prop where
  si : a.si = b.si
  pi : a.pi = b.pi
  best : a.best = b.best
  pan : a.panicked = b.panicked
  len : a.pv.length = b.pv.length
  low : ∀ i, i < a.pi ∨ i < w a.best → a.pv[i]? = b.pv[i]?

theorem Sim.refl (w : Option Best → Nat) (a : St) : Sim w a a := ⟨rfl, rfl, rfl, rfl, rfl, fun _ _ => rfl⟩

theorem Sim.symm {w : Option Best → Nat} {a b : St} (h : Sim w a b) : Sim w b a :=
  ⟨h.si.symm, h.pi.symm, h.best.symm, h.pan.symm, h.len.symm,
   fun i hi => (h.low i (by rw [h.pi, h.best]; exact hi)).symm⟩

theorem Sim.trans {w : Option Best → Nat} {a b c : St} (h1 : Sim w a b) (h2 : Sim w b c) : Sim w a c :=
  ⟨h1.si.trans h2.si, h1.pi.trans h2.pi, h1.best.trans h2.best, h1.pan.trans h2.pan, h1.len.trans h2.len,
   fun i hi => (h1.low i hi).trans (h2.low i (by rw [← h1.pi, ← h1.best]; exact hi))⟩

structure Agree (w : Option Best → Nat) {ρ : Type} (x y : St × ρ) : Prop where
  res : x.2 = y.2
  sim : Sim w x.1 y.1

end Router

namespace Router.Tree
open Router

variable {w : Option Best → Nat}

theorem _root_.Router.Sim.addSi {a b : St} (h : Sim w a b) (n : Nat) :
    Sim w { a with si := a.si + n } { b with si := b.si + n } :=
  ⟨by show a.si + n = b.si + n; rw [h.si], h.pi, h.best, h.pan, h.len, h.low⟩

theorem getElem?_set_congr {l l' : List Str} (hlen : l.length = l'.length) (j i : Nat) (v : Str)
    (h : j ≠ i → l[i]? = l'[i]?) : (l.set j v)[i]? = (l'.set j v)[i]? := by
  simp only [List.getElem?_set, ← hlen]
  by_cases hc : j = i
  · simp only [hc, if_true]
  · simp only [hc, if_false]
    exact h hc

theorem _root_.Router.Sim.entered {a b : St} (h : Sim w a b) (v : Str) :
    Sim w (entered a v a.best) (entered b v b.best) := by
  refine ⟨?_, ?_, h.best, rfl, ?_, ?_⟩
  · show a.si + v.length = b.si + v.length
    rw [h.si]
  · show a.pi + 1 = b.pi + 1
    rw [h.pi]
  · show (a.pv.set a.pi v).length = (b.pv.set b.pi v).length
    simp only [List.length_set, h.len]
  · intro i hi
    have hi' : i < a.pi + 1 ∨ i < w a.best := hi
    show (a.pv.set a.pi v)[i]? = (b.pv.set b.pi v)[i]?
    rw [← h.pi]
    exact getElem?_set_congr h.len _ _ _ fun hc => h.low i (hi'.imp_left (by omega))

theorem _root_.Router.Sim.withBest {a b : St} (h : Sim w a b) (nb : Best) (hle : w (some nb) ≤ a.pi) :
    Sim w (withBest a nb) (withBest b nb) := by
  unfold Tree.withBest
  rw [← h.best]
  cases hb : a.best with
  | some x =>
    refine ⟨h.si, h.pi, ?_, h.pan, h.len, ?_⟩
    · rfl
    · intro i hi
      apply h.low
      rw [hb]
      exact hi
  | none =>
    refine ⟨h.si, h.pi, ?_, h.pan, h.len, ?_⟩
    · rfl
    · intro i hi
      have hi' : i < a.pi ∨ i < w (some nb) := hi
      apply h.low
      left
      omega

/-- what leaving a node does to the parameter index -/
def back (k : Kind) : Nat := if k = .static then 0 else 1

theorem leaveRestore_sim (k : Kind) (p : Nat) {a b : St} (h : Sim w a b)
    (hnp : (leaveRestore k p a).panicked = false) :
    Sim w (leaveRestore k p a) (leaveRestore k p b) ∧ (leaveRestore k p a).pi + back k = a.pi := by
  by_cases hk : k = .static
  · subst hk
    exact ⟨⟨by show a.si - p = b.si - p; rw [h.si], h.pi, h.best, h.pan, h.len, h.low⟩, rfl⟩
  · simp only [leaveRestore_marker hk, back, hk, if_false] at hnp ⊢
    by_cases hc : a.pi = 0 ∨ a.pi - 1 ≥ a.pv.length
    · simp [hc] at hnp
    · have hc' : ¬ (b.pi = 0 ∨ b.pi - 1 ≥ b.pv.length) := by rw [← h.pi, ← h.len]; exact hc
      rw [if_neg hc, if_neg hc']
      -- the slot given back was entered, so the two runs read the same value from it
      have hget : a.pv.getD (a.pi - 1) [] = b.pv.getD (b.pi - 1) [] := by
        rw [List.getD_eq_getElem?_getD, List.getD_eq_getElem?_getD, ← h.pi, h.low (a.pi - 1) (Or.inl (by omega))]
      refine ⟨⟨?_, ?_, h.best, h.pan, ?_, ?_⟩, ?_⟩
      · show a.si - (a.pv.getD (a.pi - 1) []).length = b.si - (b.pv.getD (b.pi - 1) []).length
        rw [hget, h.si]
      · show a.pi - 1 = b.pi - 1
        rw [h.pi]
      · show (a.pv.set (a.pi - 1) []).length = (b.pv.set (b.pi - 1) []).length
        simp only [List.length_set, h.len]
      · intro i hi
        have hi' : i < a.pi - 1 ∨ i < w a.best := hi
        show (a.pv.set (a.pi - 1) [])[i]? = (b.pv.set (b.pi - 1) [])[i]?
        rw [← h.pi]
        exact getElem?_set_congr h.len _ _ _ fun _ =>
          h.low i (hi'.imp_left fun h1 => Nat.lt_of_lt_of_le h1 (Nat.sub_le _ _))
      · show a.pi - 1 + 1 = a.pi
        omega

theorem leaveOut_sim (k : Kind) (p : Nat) {a b : St} (h : Sim w a b)
    (hnp : (leaveOut k p a).1.panicked = false) :
    Agree w (leaveOut k p a) (leaveOut k p b) ∧ (leaveOut k p a).2 = .leave ∧
      (leaveOut k p a).1.pi + back k = a.pi := by
  unfold leaveOut at hnp ⊢
  rw [← h.pan]
  by_cases hp : a.panicked = true
  · simp [hp] at hnp
  · simp only [hp, if_false, Bool.false_eq_true] at hnp ⊢
    obtain ⟨h1, h2⟩ := leaveRestore_sim k p h hnp
    exact ⟨⟨rfl, h1⟩, trivial, h2⟩

theorem setVal_bad (st : St) (n : Nat) (v : Str) (h : ¬ n < st.pv.length) :
    (setVal st (n : Int) v).panicked = true := by
  unfold setVal
  rw [if_pos (by right; simp only [Int.toNat_natCast]; omega)]

theorem np_of_enterParam {path : Str} {leaf : Bool} {st : St}
    (h : (enterParam path leaf st).panicked = false) : st.panicked = false ∧ st.pi < st.pv.length :=
  ⟨np_of_mono (enterParam_mono path leaf st) h,
   Decidable.byContradiction fun hc => Bool.noConfusion ((setVal_bad st st.pi _ hc).symm.trans h)⟩

theorem enterParam_sim (path : Str) (leaf : Bool) {a b : St} (h : Sim w a b)
    (hnp : (enterParam path leaf a).panicked = false) :
    Sim w (enterParam path leaf a) (enterParam path leaf b) ∧ (enterParam path leaf a).pi = a.pi + 1 := by
  obtain ⟨hpa, hlt⟩ := np_of_enterParam hnp
  have hpb : b.panicked = false := h.pan ▸ hpa
  have hltb : b.pi < b.pv.length := by rw [← h.pi, ← h.len]; exact hlt
  rw [enterParam_eq path leaf a hlt hpa, enterParam_eq path leaf b hltb hpb, ← h.si]
  exact ⟨h.entered _, rfl⟩

theorem nodeEnd_sim (m : Str) (ms : List (Str × RouteMethod)) (nf : Option RouteMethod) (op : Str)
    (atEnd : Bool) {a b : St} (hw : ∀ o, w o ≤ nfLen o) (h : Sim w a b)
    (hnf : ∀ rm, nf = some rm → rm.pnames.length ≤ a.pi) :
    Agree w (nodeEnd m ms nf op atEnd a) (nodeEnd m ms nf op atEnd b) ∧
      (nodeEnd m ms nf op atEnd a).1.pi = a.pi := by
  refine ⟨⟨rfl, ?_⟩, rfl⟩
  simp only [nodeEnd]
  rw [← h.best]
  by_cases hc : atEnd = true ∧ (!ms.isEmpty) = true ∧ a.best.isNone = true
  · rw [if_pos hc]
    refine ⟨h.si, h.pi, rfl, h.pan, h.len, ?_⟩
    intro i hi
    have hi' : i < a.pi ∨ i < w (some ⟨ms, nf, op⟩) := hi
    apply h.low
    left
    rcases hi' with h1 | h2
    · exact h1
    · have h2 := Nat.lt_of_lt_of_le h2 (hw _)
      simp only [nfLen] at h2
      cases nf with
      | none => simp at h2
      | some rm => have := hnf rm rfl; simp only at h2; omega
  · rw [if_neg hc]
    exact ⟨h.si, h.pi, rfl, h.pan, h.len, h.low⟩

/-- what the Find loop relies on about the wildcard child when the parameter index is `d`: it is a
    wildcard node, it knows its slot, and its records take `d + 1` values -/
def AnyFacts (d : Nat) (an : Option Node) : Prop :=
  ∀ c, an = some c → c.kind = .any ∧ c.paramsCount = d + 1 ∧
    (∀ x ∈ c.methods, x.2.pnames.length = d + 1) ∧ (∀ rm, c.nf = some rm → rm.pnames.length = d + 1)

/-- a matched record takes exactly the values collected so far / a miss leaves the index at `d` -/
def OptOk (d : Nat) (x : St × Option RouteMethod) : Prop :=
  match x.2 with
  | some rm => rm.pnames.length = x.1.pi
  | none => x.1.pi = d

def NextOk (d : Nat) (x : St × Next) : Prop :=
  match x.2 with
  | .hit rm => rm.pnames.length = x.1.pi
  | _ => x.1.pi = d

/-- `d` is the parameter index inside the node of kind `k`; leaving the node gives back the slot the
    node took -/
def ResOk (d : Nat) (k : Kind) (x : St × Res) : Prop :=
  match x.2 with
  | .hit rm => rm.pnames.length = x.1.pi
  | .leave => x.1.pi + back k = d

theorem np_of_anyBlock {path m : Str} {c : Node} {st : St} (hpc : c.paramsCount = st.pi + 1)
    (h : (anyBlock path m (some c) st).1.panicked = false) :
    st.panicked = false ∧ st.pi < st.pv.length := by
  refine ⟨np_of_mono (anyBlock_mono path m (some c) st) h, ?_⟩
  · apply Decidable.byContradiction
    intro hc
    rw [anyBlock_some] at h
    have hidx : ((c.paramsCount : Int) - 1) = (st.pi : Int) := by omega
    rw [hidx, anyRest_mono _ _ _ _ (setVal_bad _ _ _ hc)] at h
    cases h

theorem anyBlock_sim (path m : Str) (an : Option Node) (d : Nat) {a b : St} (hw : ∀ o, w o ≤ nfLen o)
    (h : Sim w a b) (hpi : a.pi = d) (hf : AnyFacts d an)
    (hnp : (anyBlock path m an a).1.panicked = false) :
    Agree w (anyBlock path m an a) (anyBlock path m an b) ∧ OptOk d (anyBlock path m an a) := by
  cases an with
  | none => exact ⟨⟨rfl, h⟩, hpi⟩
  | some c =>
    obtain ⟨hk, hpc, hms, hnf⟩ := hf c rfl
    have hpca : c.paramsCount = a.pi + 1 := by rw [hpi]; exact hpc
    have hpcb : c.paramsCount = b.pi + 1 := by rw [← h.pi]; exact hpca
    obtain ⟨hpa, hlt⟩ := np_of_anyBlock hpca hnp
    have hpb : b.panicked = false := h.pan ▸ hpa
    have hltb : b.pi < b.pv.length := by rw [← h.pi, ← h.len]; exact hlt
    rw [anyBlock_entered path m c a hpca hlt hpa] at hnp ⊢
    rw [anyBlock_entered path m c b hpcb hltb hpb, ← h.si]
    have he := h.entered (path.drop a.si)
    cases hfm : findMethod c.methods m with
    | some rm =>
      refine ⟨⟨rfl, he⟩, ?_⟩
      show rm.pnames.length = a.pi + 1
      rw [hms _ (findMethod_mem hfm), hpi]
    | none =>
      simp only [hfm] at hnp ⊢
      have hle : w (some (bestOf c)) ≤ (entered a (path.drop a.si) a.best).pi := by
        refine Nat.le_trans (hw _) ?_
        show nfLen (some (bestOf c)) ≤ a.pi + 1
        simp only [nfLen, bestOf]
        cases hn : c.nf with
        | none => simp
        | some rm => simp only; rw [hnf rm hn, hpi]; exact Nat.le_refl _
      have hw := he.withBest (bestOf c) hle
      cases hn : c.nf with
      | some rm =>
        refine ⟨⟨rfl, hw⟩, ?_⟩
        show rm.pnames.length = a.pi + 1
        rw [hnf rm hn, hpi]
      | none =>
        simp only [hn] at hnp ⊢
        obtain ⟨h1, h2⟩ := leaveRestore_sim c.kind c.pre.length hw hnp
        refine ⟨⟨rfl, h1⟩, ?_⟩
        show (leaveRestore c.kind c.pre.length _).pi = d
        rw [hk] at h2 ⊢
        have h3 : (Tree.withBest (entered a (path.drop a.si) a.best) (bestOf c)).pi = a.pi + 1 := rfl
        rw [h3] at h2
        simp only [back, reduceCtorEq, if_false] at h2
        omega

theorem leaveOut_ok (k : Kind) (p : Nat) (d : Nat) {a b : St} (h : Sim w a b) (hpi : a.pi = d)
    (hnp : (leaveOut k p a).1.panicked = false) :
    Agree w (leaveOut k p a) (leaveOut k p b) ∧ ResOk d k (leaveOut k p a) := by
  obtain ⟨h1, h2, h3⟩ := leaveOut_sim k p h hnp
  refine ⟨h1, ?_⟩
  unfold ResOk
  rw [h2]
  show (leaveOut k p a).1.pi + back k = d
  rw [h3, hpi]

theorem anyStage_ok (path m : Str) (k : Kind) (p : Nat) (an : Option Node) (d : Nat) {a b : St}
    (hw : ∀ o, w o ≤ nfLen o) (h : Sim w a b) (hpi : a.pi = d) (hf : AnyFacts d an)
    (hnp : (anyStage path m k p an a).1.panicked = false) :
    Agree w (anyStage path m k p an a) (anyStage path m k p an b) ∧ ResOk d k (anyStage path m k p an a) := by
  unfold anyStage at hnp ⊢
  have ha : (anyBlock path m an a).1.panicked = false := by
    refine np_of_mono (fun hc => ?_) hnp
    generalize anyBlock path m an a = x at hc
    obtain ⟨st', r⟩ := x
    cases r with
    | some rm => exact hc
    | none => exact leaveOut_mono _ _ _ hc
  obtain ⟨hag, hok⟩ := anyBlock_sim path m an d hw h hpi hf ha
  generalize anyBlock path m an a = x at hag hok hnp
  generalize anyBlock path m an b = y at hag
  obtain ⟨sa, ra⟩ := x
  obtain ⟨sb, rb⟩ := y
  obtain ⟨hres, hsim⟩ := hag
  simp only at hres hsim
  subst hres
  cases ra with
  | some rm => exact ⟨⟨rfl, hsim⟩, hok⟩
  | none => exact leaveOut_ok k p d hsim hok hnp

theorem finishNode_ok (path m : Str) (k : Kind) (p : Nat) (an : Option Node) (d : Nat) {a b : St}
    (hw : ∀ o, w o ≤ nfLen o) (h : Sim w a b) (nx : Next) (hnx : NextOk d (a, nx)) (hf : AnyFacts d an)
    (hnp : (finishNode path m k p an a nx).1.panicked = false) :
    Agree w (finishNode path m k p an a nx) (finishNode path m k p an b nx) ∧
      ResOk d k (finishNode path m k p an a nx) := by
  cases nx with
  | hit rm => exact ⟨⟨rfl, h⟩, hnx⟩
  | leave => exact leaveOut_ok k p d h hnx hnp
  | param => exact anyStage_ok path m k p an d hw h hnx hf hnp
  | any => exact anyStage_ok path m k p an d hw h hnx hf hnp

end Router.Tree
