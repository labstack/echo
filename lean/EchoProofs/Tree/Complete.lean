import EchoProofs.Tree.Covered
import EchoProofs.C20Tree
import EchoProofs.C03Method
/-!
# Completeness of the priority search on the tree model (C02), and its use for C20

`tree_complete_ok`: in every table of representable patterns (re-registrations allowed), if a registered
route for the request's method matches the request path, the model of `Router.Find` on the built tree
dispatches the request to a registered handler — never the router's own 404 or 405, also when deeper
wildcard or parameter routes exist only for other methods (full backtracking).
-/
namespace Router.Tree
open Router Router.Spec

/-- C03: the record a tree dispatches to belongs to a route of the represented table that was registered for
    the request's method or as a RouteNotFound route -/
theorem Represents.dispatch_method {t : Node} {D : Nat} {l : List Route} {m path : Str} {n : Nat}
    (h : Represents t D (l.map mkEntry)) (hn : D ≤ n) {rm : RouteMethod} {vals : List Str}
    (hf : find t m path (List.replicate n []) = .dispatch rm vals) :
    ∃ r ∈ l, r.hid = rm.hid ∧ normalizeSlash r.path = rm.ppath
      ∧ (r.method = m ∨ r.method = routeNotFound) := by
  obtain ⟨mm, hr⟩ := h.route_of_dispatch hn hf
  obtain ⟨r, hrl, hre⟩ := List.mem_map.mp (mem_of_route_dispatch hr)
  obtain ⟨hhid, hpp, hmeth, _⟩ := mkEntry_eq_entryOf hre
  exact ⟨r, hrl, hhid, hpp, hmeth ▸ C03.C03_dispatch_method _ _ _ _ _ hr⟩

/-- C02, completeness, on a tree that represents the table in force, all of whose patterns have `*` last: a
    request matched by a registered route for its method is dispatched (`C02.C02_complete` on the
    registration in force with the same method and pattern) -/
theorem complete_in_force {rs : List Route}
    (h : Represents (build rs) (maxParam rs) ((dedupLast rs).map mkEntry))
    (hal : ∀ a ∈ rs, anyLast (norm a.path).1 = true) {r : Route} (hr : r ∈ rs)
    (hne : r.method ≠ routeNotFound) {path : Str} (hmatch : C02.Matches (norm r.path).1 path)
    {n : Nat} (hn : maxParam rs ≤ n) :
    ∃ rm vals, find (build rs) r.method path (List.replicate n []) = .dispatch rm vals
      ∧ ∃ r' ∈ dedupLast rs, r'.hid = rm.hid := by
  obtain ⟨r', hr', hkey⟩ := dedupLast_key rs r hr
  simp only [sameKey, Bool.and_eq_true, beq_iff_eq] at hkey
  have hal' : ∀ e ∈ (dedupLast rs).map mkEntry, anyLast e.toks = true := by
    intro e he
    obtain ⟨a, ha, rfl⟩ := List.mem_map.mp he
    exact hal a (dedupLast_subset rs a ha)
  have hne' : r'.method ≠ routeNotFound := hkey.1 ▸ hne
  have hmatch' : C02.Matches (norm r'.path).1 path := hkey.2 ▸ hmatch
  obtain ⟨e', vals, hroute⟩ := C02.C02_complete _ hal' (mkEntry r') (List.mem_map_of_mem hr') hne' path hmatch'
  obtain ⟨rm, mm, hf, _⟩ := h.dispatch_of_route hn hroute
  have hf' : find (build rs) r.method path (List.replicate n []) = .dispatch rm vals := by
    rw [hkey.1]; exact hf
  obtain ⟨rt, hrt, hhid, _⟩ := h.dispatch_registered hn hf'
  exact ⟨rm, vals, hf', rt, hrt, hhid⟩

theorem tree_complete_ok (rs : List Route) (hok : okTable rs = true) (r : Route) (hr : r ∈ rs)
    (hne : r.method ≠ routeNotFound) (path : Str) (hmatch : C02.Matches (norm r.path).1 path)
    (n : Nat) (hn : maxParam rs ≤ n) :
    ∃ rm vals, find (build rs) r.method path (List.replicate n []) = .dispatch rm vals
      ∧ ∃ r' ∈ dedupLast rs, r'.hid = rm.hid :=
  complete_in_force (represents_ok hok)
    (fun _ _ => normAux_anyLast _ _) hr hne hmatch hn

end Router.Tree

namespace C20
open Router Router.Spec Router.Tree

/-- **C20 on the tree model, every table of representable patterns**: the URL reversed from a registered route with valid values,
    requested with the route's method, is always dispatched to a registered handler (the route itself
    unless another registered route takes priority for that URL) — never answered 404/405. -/
theorem C20_reversed_dispatched_tree (rs : List Route) (hok : okTable rs = true) (r : Route) (hr : r ∈ rs)
    (hne : r.method ≠ routeNotFound) (vs : List Str)
    (hstar : starLast (normalizeSlash r.path) = true) (hvalid : ValidVals (norm r.path).1 vs)
    (n : Nat) (hn : maxParam rs ≤ n) :
    ∃ rm vals, find (build rs) r.method (reverse r.path vs) (List.replicate n []) = .dispatch rm vals
      ∧ ∃ r' ∈ dedupLast rs, r'.hid = rm.hid := by
  have hinst := C20_reverse_eq_inst r.path vs hstar (validVals_length hvalid)
  exact tree_complete_ok rs hok r hr hne _
    (matches_of_inst _ vs _ (normAux_paramThenSlash _ _) hvalid hinst) n hn

end C20
