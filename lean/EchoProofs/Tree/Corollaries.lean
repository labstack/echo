import EchoProofs.Tree.Chain
import EchoProofs.C01
import EchoProofs.C05
import EchoProofs.C03
/-!
# The router properties, transported to the radix-tree model (L3)

Each property is stated once for a tree that represents an entry list (`Represents.sound`, `.order_free`,
`.allow_truthful`, `.notFound`, `.dispatch_registered`, `.noPanic`), through four lemmas that carry an outcome
of the tree model to the reference search and back (`route_of_dispatch`, `route_of_mna`, `dispatch_of_route`,
`notFound_of_route`).  For every route table that passes the executable per-table check `tableInvariant`:

* `tree_sound`       (C01) what the tree model dispatches to matches the path: the pattern with the
                     observed values rebuilds it, one value per name, no `/` in a parameter followed by
                     text — or it is the F3 fallback (custom not-found route, blank values)
* `tree_order_free`  (C02) two registration orders of the same table give the same outcome
* `tree_no_panic` / `C05_no_fail_after_registration_tree`  (C05) routing never fails on a value
                     slice of at least maxParam slots, whatever context the pool hands out
* `tree_allow_truthful`, `tree_404`  (C03) a method advertised in Allow is dispatched; a path no pattern can be
                     instantiated to gets 404
-/
namespace Router.Tree
open Router Router.Spec

/-! ### outcomes related by `OutRel` and `OutEquiv` -/

theorem outRel_dispatch_inv {rm : RouteMethod} {vals : List Str} {o : Spec.Outcome}
    (h : OutRel (.dispatch rm vals) o) : ∃ mm, o = .dispatch (entryOf mm rm) vals := by
  cases h with
  | dispatch _ mm _ => exact ⟨mm, rfl⟩

theorem outRel_mna_inv {p : Str} {a : List Str} {o : Spec.Outcome}
    (h : OutRel (.methodNotAllowed p a) o) : o = .methodNotAllowed a := by
  cases h; rfl

theorem outRel_notFound_inv {p : Str} {o : Spec.Outcome} (h : OutRel (.notFound p) o) : o = .notFound := by
  cases h; rfl

theorem outRel_dispatch_right {f : Router.Outcome} {e : Entry} {v : List Str}
    (h : OutRel f (.dispatch e v)) : ∃ rm mm, f = .dispatch rm v ∧ entryOf mm rm = e := by
  cases h with
  | dispatch rm mm _ => exact ⟨rm, mm, rfl, rfl⟩

theorem outRel_notFound_right {f : Router.Outcome} (h : OutRel f .notFound) : ∃ p, f = .notFound p := by
  cases h with
  | notFound p => exact ⟨p, rfl⟩

theorem outEquiv_dispatch_left {e : Entry} {v : List Str} {o : Spec.Outcome}
    (h : C02.OutEquiv (.dispatch e v) o) : o = .dispatch e v := by
  cases o with
  | dispatch e' v' => obtain ⟨rfl, rfl⟩ := h; rfl
  | notFound => exact False.elim h
  | methodNotAllowed a => exact False.elim h

theorem outEquiv_dispatch_right {e : Entry} {v : List Str} {o : Spec.Outcome}
    (h : C02.OutEquiv o (.dispatch e v)) : o = .dispatch e v := by
  cases o with
  | dispatch e' v' => obtain ⟨rfl, rfl⟩ := h; rfl
  | notFound => exact False.elim h
  | methodNotAllowed a => exact False.elim h

theorem outEquiv_notFound_right {o : Spec.Outcome} (h : C02.OutEquiv o .notFound) : o = .notFound := by
  cases o with
  | notFound => rfl
  | dispatch e v => exact False.elim h
  | methodNotAllowed a => exact False.elim h

theorem outEquiv_notFound_left {o : Spec.Outcome} (h : C02.OutEquiv .notFound o) : o = .notFound := by
  cases o with
  | notFound => rfl
  | dispatch e v => exact False.elim h
  | methodNotAllowed a => exact False.elim h

theorem outEquiv_mna_left {a : List Str} {o : Spec.Outcome} (h : C02.OutEquiv (.methodNotAllowed a) o) :
    ∃ al, o = .methodNotAllowed al ∧ a.Perm al := by
  cases o with
  | methodNotAllowed al => exact ⟨al, rfl, h⟩
  | dispatch e v => exact False.elim h
  | notFound => exact False.elim h

theorem outEquiv_mna_right {a : List Str} {o : Spec.Outcome} (h : C02.OutEquiv o (.methodNotAllowed a)) :
    ∃ al, o = .methodNotAllowed al ∧ al.Perm a := by
  cases o with
  | methodNotAllowed al => exact ⟨al, rfl, h⟩
  | dispatch e v => exact False.elim h
  | notFound => exact False.elim h

/-- what is observable of an outcome of the tree model: the handler and its values, the Allow set, or 404 -/
def Observably (a b : Router.Outcome) : Prop :=
  match a, b with
  | .dispatch rm v, .dispatch rm' v' => rm.hid = rm'.hid ∧ rm.ppath = rm'.ppath ∧ rm.pnames = rm'.pnames ∧ v = v'
  | .notFound _, .notFound _ => True
  | .methodNotAllowed _ al, .methodNotAllowed _ al' => al.Perm al'
  | _, _ => False

theorem observably_of_routes {f f' : Router.Outcome} {o o' r r' : Spec.Outcome}
    (ho : OutRel f o) (he : C02.OutEquiv o r) (ho' : OutRel f' o') (he' : C02.OutEquiv o' r')
    (hperm : C02.OutEquiv r r') : Observably f f' := by
  cases ho with
  | dispatch rm mm vals =>
    obtain rfl := outEquiv_dispatch_left he
    obtain rfl := outEquiv_dispatch_left hperm
    obtain rfl := outEquiv_dispatch_right he'
    obtain ⟨rm', mm', rfl, he1⟩ := outRel_dispatch_right ho'
    simp only [entryOf, Entry.mk.injEq] at he1
    exact ⟨he1.2.2.2.2.symm, he1.2.2.1.symm, he1.2.2.2.1.symm, rfl⟩
  | notFound p =>
    obtain rfl := outEquiv_notFound_left he
    obtain rfl := outEquiv_notFound_left hperm
    obtain rfl := outEquiv_notFound_right he'
    obtain ⟨p', rfl⟩ := outRel_notFound_right ho'
    trivial
  | mna p a =>
    obtain ⟨al, rfl, h1⟩ := outEquiv_mna_left he
    obtain ⟨al', rfl, h2⟩ := outEquiv_mna_left hperm
    obtain ⟨a', rfl, h3⟩ := outEquiv_mna_right he'
    cases ho' with
    | mna p' _ => exact (h1.trans h2).trans h3.symm

theorem mem_of_route_dispatch {es : List Entry} {m path : Str} {e : Entry} {vals : List Str}
    (h : route es m path = .dispatch e vals) : e ∈ es := by
  rcases C01.C01_sound_partial _ _ _ _ _ h with ⟨hm, _⟩ | ⟨_, hm, _⟩ <;> exact hm

theorem mkEntry_eq_entryOf {r : Route} {mm : Str} {rm : RouteMethod} (h : mkEntry r = entryOf mm rm) :
    r.hid = rm.hid ∧ normalizeSlash r.path = rm.ppath ∧ r.method = mm ∧ (norm r.path).1 = (norm rm.ppath).1 :=
  ⟨congrArg Entry.hid h, congrArg Entry.ppath h, congrArg Entry.method h, congrArg Entry.toks h⟩

theorem routerOf_apply (rs : List Route) (m p : Str) (n : Nat) :
    C05.routerOf rs m p n = find (build rs) m p (List.replicate n []) := by
  simp only [C05.routerOf, C05.blank, Nat.max_zero]

/-! ### a tree that represents an entry list -/

section
variable {t : Node} {D : Nat} {es : List Entry} {m path : Str} {n : Nat}

theorem Represents.uniq (h : Represents t D es) : C02.NoDup es := by
  cases h with
  | empty => exact List.Pairwise.nil
  | tree _ _ _ hu => exact hu

theorem Represents.route_of_dispatch (h : Represents t D es) (hn : D ≤ n) {rm : RouteMethod} {vals : List Str}
    (hf : find t m path (List.replicate n []) = .dispatch rm vals) :
    ∃ mm, route es m path = .dispatch (entryOf mm rm) vals := by
  obtain ⟨o, ho, he⟩ := h.find_eq_route m path hn
  rw [hf] at ho
  obtain ⟨mm, rfl⟩ := outRel_dispatch_inv ho
  exact ⟨mm, outEquiv_dispatch_left he⟩

theorem Represents.route_of_mna (h : Represents t D es) (hn : D ≤ n) {p : Str} {allow : List Str}
    (hf : find t m path (List.replicate n []) = .methodNotAllowed p allow) :
    ∃ al, route es m path = .methodNotAllowed al ∧ allow.Perm al := by
  obtain ⟨o, ho, he⟩ := h.find_eq_route m path hn
  rw [hf] at ho
  rw [outRel_mna_inv ho] at he
  exact outEquiv_mna_left he

theorem Represents.dispatch_of_route (h : Represents t D es) (hn : D ≤ n) {e : Entry} {vals : List Str}
    (hr : route es m path = .dispatch e vals) :
    ∃ rm mm, find t m path (List.replicate n []) = .dispatch rm vals ∧ entryOf mm rm = e := by
  obtain ⟨o, ho, he⟩ := h.find_eq_route m path hn
  rw [hr] at he
  rw [outEquiv_dispatch_right he] at ho
  exact outRel_dispatch_right ho

theorem Represents.notFound_of_route (h : Represents t D es) (hn : D ≤ n) (hr : route es m path = .notFound) :
    ∃ p, find t m path (List.replicate n []) = .notFound p := by
  obtain ⟨o, ho, he⟩ := h.find_eq_route m path hn
  rw [hr] at he
  rw [outEquiv_notFound_right he] at ho
  exact outRel_notFound_right ho

/-- C01: what the tree dispatches to matches the path, or it is the F3 fallback with blank values -/
theorem Represents.sound (h : Represents t D es) (hn : D ≤ n) {rm : RouteMethod} {vals : List Str}
    (hf : find t m path (List.replicate n []) = .dispatch rm vals) :
    (inst (norm rm.ppath).1 vals = some path ∧ SlashFree (norm rm.ppath).1 vals
        ∧ vals.length = arity (norm rm.ppath).1)
    ∨ ((∃ w, inst (norm rm.ppath).1 w = some path) ∧ vals = rm.pnames.map (fun _ => [])) := by
  obtain ⟨mm, hr⟩ := h.route_of_dispatch hn hf
  rcases C01.C01_sound_partial _ _ _ _ _ hr with ⟨_, hi, hs, hl⟩ | ⟨_, _, hw, hv⟩
  · exact Or.inl ⟨hi, hs, hl⟩
  · exact Or.inr ⟨hw, hv⟩

/-- C02: trees that represent the same entries up to order route alike -/
theorem Represents.order_free {t' : Node} {D' : Nat} {es' : List Entry} (h : Represents t D es)
    (h' : Represents t' D' es') (hp : es.Perm es') (hn : D ≤ n) (hn' : D' ≤ n) :
    Observably (find t m path (List.replicate n [])) (find t' m path (List.replicate n [])) := by
  obtain ⟨o, ho, he⟩ := h.find_eq_route m path hn
  obtain ⟨o', ho', he'⟩ := h'.find_eq_route m path hn'
  exact observably_of_routes ho he ho' he' (C02.C02_perm es es' hp h.uniq m path)

/-- C03: a method advertised in Allow (besides OPTIONS) is dispatched, to an entry registered for it -/
theorem Represents.allow_truthful (h : Represents t D es) (hn : D ≤ n) {p : Str} {allow : List Str}
    (hf : find t m path (List.replicate n []) = .methodNotAllowed p allow)
    {m' : Str} (hm' : m' ∈ allow) (hopt : m' ≠ methodOptions) :
    ∃ rm vals, find t m' path (List.replicate n []) = .dispatch rm vals ∧
      ∃ e, e ∈ es ∧ e.method = m' ∧ e.hid = rm.hid := by
  obtain ⟨al, hr, hperm⟩ := h.route_of_mna hn hf
  obtain ⟨e, v, hd, hmeth, _⟩ := C03.C03_allow_truthful _ _ _ _ hr m' (hperm.mem_iff.mp hm') hopt
  obtain ⟨rm, mm, hf', rfl⟩ := h.dispatch_of_route hn hd
  exact ⟨rm, v, hf', _, mem_of_route_dispatch hd, hmeth, rfl⟩

/-- C03: a path no entry can be instantiated to gets 404 -/
theorem Represents.notFound (h : Represents t D es) (hn : D ≤ n)
    (hno : ∀ e ∈ es, ∀ w, inst e.toks w ≠ some path) :
    ∃ p, find t m path (List.replicate n []) = .notFound p :=
  h.notFound_of_route hn (C03.C03_404 _ m path hno)

/-- a dispatched record is that of a route of the represented table whose pattern matches the path -/
theorem Represents.dispatch_registered {l : List Route} (h : Represents t D (l.map mkEntry)) (hn : D ≤ n)
    {rm : RouteMethod} {vals : List Str} (hf : find t m path (List.replicate n []) = .dispatch rm vals) :
    ∃ r ∈ l, r.hid = rm.hid ∧ normalizeSlash r.path = rm.ppath
      ∧ ∃ w, inst (norm r.path).1 w = some path := by
  obtain ⟨mm, hr⟩ := h.route_of_dispatch hn hf
  obtain ⟨r, hrl, hre⟩ := List.mem_map.mp (mem_of_route_dispatch hr)
  obtain ⟨hhid, hpp, _, htoks⟩ := mkEntry_eq_entryOf hre
  refine ⟨r, hrl, hhid, hpp, ?_⟩
  rw [htoks]
  rcases C01.C01_sound_partial _ _ _ _ _ hr with ⟨_, hi, _⟩ | ⟨_, _, hw, _⟩
  · exact ⟨_, hi⟩
  · exact hw

end

/-- C05: the router of a table whose tree represents some entry list never fails -/
theorem Represents.noPanic {rs : List Route} {es : List Entry} (h : Represents (build rs) (maxParam rs) es) :
    C05.NoPanic (C05.routerOf rs) (maxParam rs) := by
  intro m p n hn
  rw [routerOf_apply]
  exact h.no_panic m p hn

/-! ### tables that pass the per-table check -/

/-- **C01 on the tree model** -/
theorem tree_sound (rs : List Route) (m path : Str) (n : Nat) (hn : maxParam rs ≤ n)
    (hinv : tableInvariant rs = (true, true)) (rm : RouteMethod) (vals : List Str)
    (h : find (build rs) m path (List.replicate n []) = .dispatch rm vals) :
    (inst (norm rm.ppath).1 vals = some path ∧ SlashFree (norm rm.ppath).1 vals
        ∧ vals.length = arity (norm rm.ppath).1)
    ∨ ((∃ w, inst (norm rm.ppath).1 w = some path) ∧ vals = rm.pnames.map (fun _ => [])) :=
  (represents_of_tableInvariant hinv).sound hn h

/-- **C02 on the tree model**: the outcome does not depend on the registration order -/
theorem tree_order_free (rs rs' : List Route) (hp : rs.Perm rs') (m path : Str) (n : Nat)
    (hn : maxParam rs ≤ n) (hn' : maxParam rs' ≤ n)
    (hinv : tableInvariant rs = (true, true)) (hinv' : tableInvariant rs' = (true, true)) :
    Observably (find (build rs) m path (List.replicate n [])) (find (build rs') m path (List.replicate n [])) :=
  (represents_of_tableInvariant hinv).order_free (represents_of_tableInvariant hinv') (hp.map _) hn hn'

/-- **C05**: with the repaired `Reset` (value slice of at least maxParam slots) routing never fails,
    for every table that passes the per-table check -/
theorem tree_no_panic (rs : List Route) (hinv : tableInvariant rs = (true, true)) :
    C05.NoPanic (C05.routerOf rs) (maxParam rs) :=
  (represents_of_tableInvariant hinv).noPanic

theorem C05_no_fail_after_registration_tree (rs : List Route) (hinv : tableInvariant rs = (true, true))
    (pooled : Option C05.Ctx) (r : C05.Request) :
    (C05.serveWith (C05.routerOf rs) (maxParam rs) pooled r).1.kind ≠ 3 :=
  C05.C05_no_fail_after_registration _ _ (tree_no_panic rs hinv) pooled r

/-- **C03 on the tree model**: every method advertised in Allow (besides OPTIONS), sent to the same
    path, is dispatched by the tree model to a handler registered for that method. -/
theorem tree_allow_truthful (rs : List Route) (m path : Str) (n : Nat) (hn : maxParam rs ≤ n)
    (hinv : tableInvariant rs = (true, true)) (p : Str) (allow : List Str)
    (h : find (build rs) m path (List.replicate n []) = .methodNotAllowed p allow)
    (m' : Str) (hm' : m' ∈ allow) (hopt : m' ≠ methodOptions) :
    ∃ rm vals, find (build rs) m' path (List.replicate n []) = .dispatch rm vals ∧
      ∃ e, e ∈ rs.map mkEntry ∧ e.method = m' ∧ e.hid = rm.hid :=
  (represents_of_tableInvariant hinv).allow_truthful hn h hm' hopt

/-- **C03 on the tree model**: a path no registered pattern can be instantiated to gets 404. -/
theorem tree_404 (rs : List Route) (m path : Str) (n : Nat) (hn : maxParam rs ≤ n)
    (hinv : tableInvariant rs = (true, true))
    (hno : ∀ e ∈ rs.map mkEntry, ∀ w, inst e.toks w ≠ some path) :
    ∃ p, find (build rs) m path (List.replicate n []) = .notFound p :=
  (represents_of_tableInvariant hinv).notFound hn hno

end Router.Tree
