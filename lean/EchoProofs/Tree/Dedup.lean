import EchoProofs.Tree.WF
import EchoProofs.Tree.Frame
import EchoProofs.Lit
/-!
# Tables with re-registered routes

Registering a route again (same method, same normalised pattern — possibly with renamed parameters)
replaces the earlier record (`addMethod` overwrites).  So for ANY table whose patterns are representable
(`okTable`), the tree built by `Router.build` satisfies the invariant and represents the table *in force*,
`dedupLast rs` (the last registration of every route): `build_tableInvariantD`.  `dedupLast rs` is always
well formed (`wfTable_dedupLast`), and the tree represents it (`represents_ok`), so the router theorems follow
with `okTable` only (`find_eq_route_ok`, `find_table_no_panic_ok`, `tree_sound_ok`, `tree_length_irrelevant_ok`,
`tree_no_panic_ok`).
-/
namespace Router.Tree
open Router Router.Spec

theorem foldl_regStep_perm : ∀ (rs : List Route) {X Y : R}, X.Perm Y →
    (rs.foldl regStep X).Perm (rs.foldl regStep Y) := by
  intro rs
  induction rs with
  | nil => intro X Y h; exact h
  | cons r rs ih => intro X Y h; exact ih (regStep_perm h r)

/-! ### the table in force is well formed -/

theorem dedupLast_subset : ∀ (rs : List Route), ∀ r ∈ dedupLast rs, r ∈ rs := by
  intro rs
  induction rs with
  | nil => intro r hr; simp [dedupLast] at hr
  | cons a rs ih =>
    intro r hr
    simp only [dedupLast] at hr
    split at hr
    · exact List.mem_cons_of_mem _ (ih r hr)
    · rcases List.mem_cons.mp hr with h | h
      · rw [h]; exact List.mem_cons_self
      · exact List.mem_cons_of_mem _ (ih r h)

theorem uniqB_dedupLast : ∀ (rs : List Route), uniqB (initial ((dedupLast rs).map mkEntry)) = true := by
  intro rs
  induction rs with
  | nil => rfl
  | cons a rs ih =>
    simp only [dedupLast]
    by_cases hany : rs.any (sameKey a) = true
    · rw [if_pos hany]; exact ih
    · rw [if_neg hany]
      have hcons : initial ((a :: dedupLast rs).map mkEntry)
          = ((norm a.path).1, mkEntry a) :: initial ((dedupLast rs).map mkEntry) := by
        simp [initial, mkEntry]
      rw [hcons]
      simp only [uniqB, Bool.and_eq_true, ih, and_true, List.all_eq_true]
      intro y hy
      simp only [initial, List.map_map, List.mem_map, Function.comp_apply] at hy
      obtain ⟨b, hb, rfl⟩ := hy
      have hb' := dedupLast_subset rs b hb
      have hns : sameKey a b = false := by
        cases h : sameKey a b with
        | false => rfl
        | true => exact absurd (List.any_eq_true.mpr ⟨b, hb', h⟩) hany
      simp only [sameKey] at hns
      have htoks : (mkEntry b).toks = (norm b.path).1 := rfl
      simp only [mkEntry_method, htoks]
      rw [Bool.and_comm]
      simp [hns]

theorem wfTable_dedupLast (rs : List Route) (h : okTable rs = true) : wfTable (dedupLast rs) = true := by
  simp only [wfTable, Bool.and_eq_true, uniqB_dedupLast, and_true, List.all_eq_true]
  simp only [okTable, List.all_eq_true] at h
  intro r hr
  exact h r (dedupLast_subset rs r hr)

/-- **`Router.build` yields a tree satisfying the invariant and representing the table in force**, for
    every non-empty table of representable patterns — routes may be registered several times -/
theorem build_tableInvariantD (rs : List Route) (hne : rs ≠ []) (h : okTable rs = true) :
    tableInvariantD rs = (true, true) :=
  build_tableInvariantE rs hne (okTableE_of_ok h)

/-- the residual set, also for the empty table -/
theorem build_RS_ok (rs : List Route) (h : okTable rs = true) :
    (resid (build rs)).Perm (initial ((dedupLast rs).map mkEntry)) :=
  build_RS_okE rs (okTableE_of_ok h)

/-- **L3 on a tree = L1 on the entry list the tree represents**, for any tree satisfying the invariant and any
    duplicate-free entry list it represents -/
theorem find_eq_route_of_repr (t : Node) (D : Nat) (es : List Entry) (m path : Str) (n : Nat) (hn : D ≤ n)
    (hk : t.kind = .static) (hti : tiNode D [] t = true) (hp : (resid t).Perm (initial es))
    (huI : Uniq (initial es)) :
    ∃ o, OutRel (find t m path (List.replicate n [])) o ∧ C02.OutEquiv o (route es m path) :=
  (Represents.tree hk hti hp huI).find_eq_route m path hn

theorem uniq_dedupLast (rs : List Route) : Uniq (initial ((dedupLast rs).map mkEntry)) :=
  uniqB_iff _ (uniqB_dedupLast rs)

/-- a table whose tree passes the check `tableInvariantD` unless it is empty: the tree represents the table
    in force -/
theorem represents_dedup {rs : List Route} (h : rs ≠ [] → tableInvariantD rs = (true, true)) :
    Represents (build rs) (maxParam rs) ((dedupLast rs).map mkEntry) := by
  cases rs with
  | nil => exact represents_nil _
  | cons r rs =>
    have hinv := h (List.cons_ne_nil _ _)
    simp only [tableInvariantD, Prod.mk.injEq, Bool.and_eq_true, decide_eq_true_eq, List.isPerm_iff] at hinv
    exact .tree hinv.1.2 hinv.1.1 hinv.2 (uniq_dedupLast _)

theorem represents_ok {rs : List Route} (h : okTable rs = true) :
    Represents (build rs) (maxParam rs) ((dedupLast rs).map mkEntry) :=
  represents_dedup fun hne => build_tableInvariantD rs hne h

/-- **L3 on the built tree = L1 on the table in force**, for every table of representable patterns -/
theorem find_eq_route_ok (rs : List Route) (m path : Str) (n : Nat) (hn : maxParam rs ≤ n)
    (h : okTable rs = true) :
    ∃ o, OutRel (find (build rs) m path (List.replicate n [])) o ∧
      C02.OutEquiv o (route ((dedupLast rs).map mkEntry) m path) :=
  (represents_ok h).find_eq_route m path hn

/-- the tree model never fails on a value slice of at least `maxParam` slots -/
theorem find_table_no_panic_ok (rs : List Route) (m path : Str) (n : Nat) (hn : maxParam rs ≤ n)
    (h : okTable rs = true) : find (build rs) m path (List.replicate n []) ≠ .panic :=
  (represents_ok h).no_panic m path hn

/-- **C01 on the tree model**, for every table of representable patterns -/
theorem tree_sound_ok (rs : List Route) (m path : Str) (n : Nat) (hn : maxParam rs ≤ n)
    (hok : okTable rs = true) (rm : RouteMethod) (vals : List Str)
    (h : find (build rs) m path (List.replicate n []) = .dispatch rm vals) :
    (inst (norm rm.ppath).1 vals = some path ∧ SlashFree (norm rm.ppath).1 vals
        ∧ vals.length = arity (norm rm.ppath).1)
    ∨ ((∃ w, inst (norm rm.ppath).1 w = some path) ∧ vals = rm.pnames.map (fun _ => [])) :=
  (represents_ok hok).sound hn h

/-- **C05**: routing never fails, for every table of representable patterns -/
theorem tree_no_panic_ok (rs : List Route) (hok : okTable rs = true) :
    C05.NoPanic (C05.routerOf rs) (maxParam rs) :=
  (represents_ok hok).noPanic

/-- **C05**: routing does not depend on the number of spare value slots -/
theorem tree_length_irrelevant_ok (rs : List Route) (hok : okTable rs = true) :
    C05.LengthIrrelevant (C05.routerOf rs) (maxParam rs) :=
  (represents_ok hok).lengthIrrelevant

/-- on tables without re-registrations the two per-table checks agree -/
theorem tableInvariantD_of_wf (rs : List Route) (hne : rs ≠ []) (h : wfTable rs = true) :
    tableInvariantD rs = (true, true) :=
  build_tableInvariantD rs hne (okTable_of_wf h)

/-! ### the hypothesis is not vacuous -/

/-- `GET /a/:x` is registered again as `GET /a/:y` (renamed parameter, other handler) -/
def demoDup : List Route :=
  [⟨['G','E','T'], "/a/:x".toList, 1⟩,
   ⟨['G','E','T'], "/b".toList, 2⟩,
   ⟨['G','E','T'], "/a/:y".toList, 3⟩,
   ⟨['P','O','S','T'], "/a/:x".toList, 4⟩]

/-- the patterns of `demoDup` spelled as character lists, so that the closed evaluations below need not
    decode string literals -/
theorem demoDup_chars : demoDup =
    [⟨['G','E','T'], ['/','a','/',':','x'], 1⟩, ⟨['G','E','T'], ['/','b'], 2⟩,
     ⟨['G','E','T'], ['/','a','/',':','y'], 3⟩, ⟨['P','O','S','T'], ['/','a','/',':','x'], 4⟩] := by
  unfold demoDup; lit_chars

example : okTable demoDup = true := by rw [demoDup_chars]; decide +kernel
example : wfTable demoDup = false := by rw [demoDup_chars]; decide +kernel
example : dedupLast demoDup =
    [⟨['G','E','T'], "/b".toList, 2⟩, ⟨['G','E','T'], "/a/:y".toList, 3⟩,
     ⟨['P','O','S','T'], "/a/:x".toList, 4⟩] := by rw [demoDup_chars]; lit_chars; decide +kernel

theorem demoDup_invariant : tableInvariantD demoDup = (true, true) :=
  build_tableInvariantD demoDup (by simp [demoDup]) (by rw [demoDup_chars]; decide +kernel)

example : maxParam demoDup = 1 := by rw [demoDup_chars]; decide +kernel

/-- executable test "the outcome is this dispatch" (`Router.Outcome` has no `DecidableEq`) -/
def isDispatch (o : Router.Outcome) (rm : RouteMethod) (vals : List Str) : Bool :=
  match o with
  | .dispatch r v => r == rm && v == vals
  | _ => false

theorem eq_of_isDispatch {o : Router.Outcome} {rm : RouteMethod} {vals : List Str}
    (h : isDispatch o rm vals = true) : o = .dispatch rm vals := by
  cases o with
  | dispatch r v =>
    simp only [isDispatch, Bool.and_eq_true, beq_iff_eq] at h
    rw [h.1, h.2]
  | notFound _ => simp [isDispatch] at h
  | methodNotAllowed _ _ => simp [isDispatch] at h
  | panic => simp [isDispatch] at h

/-- the later registration wins, with its own parameter name -/
example : find (build demoDup) ['G','E','T'] "/a/7".toList [[]]
    = .dispatch ⟨"/a/:y".toList, ["y".toList], 3⟩ ["7".toList] :=
  eq_of_isDispatch (by rw [demoDup_chars]; lit_chars; decide +kernel)

example : find (build demoDup) ['P','O','S','T'] "/a/7".toList [[]]
    = .dispatch ⟨"/a/:x".toList, ["x".toList], 4⟩ ["7".toList] :=
  eq_of_isDispatch (by rw [demoDup_chars]; lit_chars; decide +kernel)

end Router.Tree
