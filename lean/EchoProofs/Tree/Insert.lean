import EchoProofs.Tree.Insert.Final
/-!
# `Router.build` produces a tree that satisfies the invariant and represents the table

The headline theorem `build_tableInvariant` (`Insert/Final.lean`) says: for
every NON-EMPTY route table that is well formed (`wfTable`: no escaped colon, no text after `*`, no two
routes with the same method and the same normalised pattern), the model of echo's radix-tree insertion
yields a tree with

* (TI) `tiNode (maxParam rs) [] (build rs) = true` and `(build rs).kind = .static`,
* (RS) `resid (build rs)` is a permutation of `initial (rs.map mkEntry)` (and `uniqB` of it),

i.e. `tableInvariant rs = (true, true)`.

**Finding.**  The statement without `rs ≠ []` is false: `build [] = emptyTree` is a node without record and
without child, which the "no dead leaves" conjunct of `tiNode` rejects (`tableInvariant_nil`,
`wfTable_nil`).  The total statement is `build_tableInvariant_all`:
`wfTable rs = true → tableInvariant rs = (!rs.isEmpty, true)`.  The corollaries about `find`
(`EchoProofs/Tree/WF.lean`) hold for every well-formed table including the empty one.

The theorems about `insertAt`, the scan loop and `build` are proved once, for tables that may contain escaped
colons (`Esc/*.lean`, see `Esc.lean`).  `Insert/Defs.lean` … `Insert/Route.lean` hold what does not depend on how
the text of the tree is read as tokens (the case principle `insertAt_cases`, node boundaries and dead leaves,
`expected`, the equations of the scan loop, `normAux` with canonical fuel) and the definitions of the reading
without escaped colon (`textToks`, `tiR D above`, `Fit`, `Top`, `TreeSt`); `Insert/Final.lean` derives the
statements about that reading from those of `Esc/*.lean`.
-/
namespace Router.Tree
open Router Router.Spec

theorem wfTable_nil : wfTable [] = true := by
  simp [wfTable, initial, uniqB]

/-- the empty table is well formed but its tree (a single dead leaf) fails the invariant -/
theorem tableInvariant_nil : tableInvariant [] = (false, true) := by
  have hb : build [] = emptyTree := rfl
  unfold tableInvariant
  simp only [hb, resid_emptyTree]
  simp [emptyTree, tiNode, initial, uniqB, List.isPerm]

/-- for ALL tables: the first component fails exactly for the empty one -/
theorem build_tableInvariant_all (rs : List Route) (h : wfTable rs = true) :
    tableInvariant rs = (!rs.isEmpty, true) := by
  cases rs with
  | nil => exact tableInvariant_nil
  | cons r rs => exact build_tableInvariant (r :: rs) (by simp) h

/-- the two parts of the invariant, spelled out -/
theorem build_TI (rs : List Route) (hne : rs ≠ []) (h : wfTable rs = true) :
    tiNode (maxParam rs) [] (build rs) = true ∧ (build rs).kind = .static := by
  have := build_tableInvariant rs hne h
  simp only [tableInvariant, Prod.mk.injEq, Bool.and_eq_true, decide_eq_true_eq] at this
  exact this.1

theorem build_RS (rs : List Route) (h : wfTable rs = true) :
    (resid (build rs)).Perm (initial (rs.map mkEntry)) := by
  cases rs with
  | nil =>
    have hb : build [] = emptyTree := rfl
    rw [hb, resid_emptyTree]; exact List.Perm.refl _
  | cons r rs =>
    have := build_tableInvariant (r :: rs) (by simp) h
    simp only [tableInvariant, Prod.mk.injEq, Bool.and_eq_true, decide_eq_true_eq, List.isPerm_iff] at this
    exact this.2.1

end Router.Tree
