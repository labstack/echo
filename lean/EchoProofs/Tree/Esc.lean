import EchoProofs.Tree.Esc.Corollaries
import EchoProofs.Tree.Esc.More
import EchoProofs.Tree.Esc.Sharp
/-!
# Insert correctness of the router model for tables WITH escaped colons

`okTable` excludes every pattern with an escaped colon `\:` (a literal colon and a `:param` at the same tree
position share the child label `':'`; findings F2/F3).  This directory proves that `Router.build` yields a tree
satisfying the invariant and representing the table in force under the weaker, decidable hypothesis `okTableE`
(`EchoModel/RouterEsc.lean`); the statements for `okTable` (`build_tableInvariantD`, `Tree/Dedup.lean`) and for
`wfTable` (`build_tableInvariant`, `Tree/Insert/Final.lean`) are special cases by `okTableE_of_ok`:

    okTableE rs = rs.all (okPatternE ·.path) && escFree rs

* `okPatternE p`  no text after `*` (escaped colons allowed);
* `escFree rs`    no two routes whose token lists (`norm`) agree up to a position and continue there with `.lit ':'`
                  in one and `.param` in the other (`conflict`; `escFree_iff` gives the formulation with positions).

Headline (`Esc/Final.lean`):

    build_tableInvariantE : rs ≠ [] → okTableE rs = true → tableInvariantD rs = (true, true)
    build_okE             : the same as three facts about `build rs`
    okTableE_of_ok        : okTable rs = true → okTableE rs = true

`Esc/Corollaries.lean` and `Esc/More.lean` restate the router properties of the tree model (C01, C02, C03, C05,
C20 and the statements about a used context) under `okTableE`; `Esc/Sharp.lean` shows that the hypothesis is met
by the documented use case of escaped colons and that `escFree` cannot be dropped (the F2 tables).
-/
