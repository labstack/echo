import EchoProofs.Tree.Top
import EchoProofs.C02
/-!
# The radix tree built from a route table implements the reference search

`find_eq_route`: for a route table whose tree passes the executable check `tableInvariant`
(the tree built by `Router.build` satisfies the invariant, represents exactly the registered
entries, and the table has no structural duplicates), the model of `Router.Find` on that tree
gives, for every method and path, the outcome of the order-free reference search
`Spec.route` on the table (up to the order of the Allow set).

`tableInvariant` is evaluated by the model driver for every table of every C01 run
(translation validation of `Router.build`/`Router.insert`); for well-formed tables it is a theorem
(`build_tableInvariant`, `Insert/Final.lean`).

What the proof uses of the table is named `Represents t D es`: the tree `t` can be searched with `D` value
slots and holds exactly the entries `es`.  Every statement about `find (build rs)` in `Tree/*` is proved once
for a tree that represents an entry list (`Represents.find_eq_route` here, the router properties in
`Corollaries.lean`, `Frame.lean`, `Complete.lean`, `Dirty.lean`) and instantiated with the theorem that says
which entry list the tree of a table represents: the table itself when it passes the check or is well
formed, the table in force (`dedupLast`) in general.
-/
namespace Router.Tree
open Router Router.Spec

theorem uniqB_iff (r : R) : uniqB r = true → Uniq r := by
  induction r with
  | nil => intro _; exact List.Pairwise.nil
  | cons x xs ih =>
    intro h
    simp only [uniqB, Bool.and_eq_true, List.all_eq_true, Bool.not_eq_true', Bool.and_eq_false_iff] at h
    refine List.Pairwise.cons ?_ (ih h.2)
    intro y hy ⟨h1, h2⟩
    rcases h.1 y hy with hh | hh
    · simp [h1] at hh
    · simp [h2] at hh

theorem find_emptyTree (m path : Str) (pv : List Str) : find emptyTree m path pv = .notFound [] := by
  unfold find emptyTree
  rw [findNode_unfold]
  cases path with
  | nil => simp [bodyOf, nodeEnd, finishNode, anyBlock, leaveOut, leaveRestore, lcp]
  | cons c rest =>
    simp [bodyOf, nodeEnd, finishNode, anyBlock, leaveOut, leaveRestore, lcp, findStatic, staticBlock,
      paramBlock, findParam]

theorem route_nil (m path : Str) : route [] m path = .notFound := by
  unfold route
  simp [initial, search_empty, finish]

/-- `t` can be searched with `D` value slots and holds exactly the entries `es`: it is the bare root of the
    empty table (a dead leaf, which `tiNode` rejects), or it satisfies the invariant, its residual set is
    `es` up to order, and no two entries have the same tokens and method. -/
inductive Represents : Node → Nat → List Entry → Prop
  | empty (D : Nat) : Represents emptyTree D []
  | tree {t : Node} {D : Nat} {es : List Entry} (hk : t.kind = .static) (hti : tiNode D [] t = true)
      (hp : (resid t).Perm (initial es)) (hu : Uniq (initial es)) : Represents t D es

theorem represents_nil (D : Nat) : Represents (build []) D [] := Represents.empty D

theorem represents_of_tableInvariant {rs : List Route} (hinv : tableInvariant rs = (true, true)) :
    Represents (build rs) (maxParam rs) (rs.map mkEntry) := by
  simp only [tableInvariant, Prod.mk.injEq, Bool.and_eq_true, decide_eq_true_eq] at hinv
  obtain ⟨⟨hti, hk⟩, hperm, hu⟩ := hinv
  exact .tree hk hti (List.isPerm_iff.mp hperm) (uniqB_iff _ hu)

/-- **L3 on a tree = L1 on the entry list the tree represents** -/
theorem Represents.find_eq_route {t : Node} {D : Nat} {es : List Entry} (h : Represents t D es)
    (m path : Str) {n : Nat} (hn : D ≤ n) :
    ∃ o, OutRel (find t m path (List.replicate n [])) o ∧ C02.OutEquiv o (route es m path) := by
  cases h with
  | empty => exact ⟨.notFound, by rw [find_emptyTree]; exact OutRel.notFound [], by rw [route_nil]; trivial⟩
  | tree hk hti hp huI =>
  have huR : Uniq (resid t) := Uniq.perm hp.symm huI
  have href := find_refines path m D n t hk hti hn (bound (resid t))
    (bound (resid t) + 1) (depthLe_bound _) (by omega)
  exact ⟨_, href, C02.finish_search_perm hp huR m path⟩

/-- the tree model never fails on a blank slice of at least `D` slots -/
theorem Represents.no_panic {t : Node} {D : Nat} {es : List Entry} (h : Represents t D es)
    (m path : Str) {n : Nat} (hn : D ≤ n) : find t m path (List.replicate n []) ≠ .panic := by
  cases h with
  | empty => rw [find_emptyTree]; exact Outcome.noConfusion
  | tree hk hti _ _ => exact find_no_panic path m D n t hk hti hn

/-- **L3 on the built tree = L1 on the table** (given the per-table invariant check) -/
theorem find_eq_route (rs : List Route) (m path : Str) (n : Nat) (hn : maxParam rs ≤ n)
    (hinv : tableInvariant rs = (true, true)) :
    ∃ o, OutRel (find (build rs) m path (List.replicate n [])) o ∧
      C02.OutEquiv o (route (rs.map mkEntry) m path) :=
  (represents_of_tableInvariant hinv).find_eq_route m path hn

/-- the tree model never fails on a blank slice of at least `maxParam` slots -/
theorem find_table_no_panic (rs : List Route) (m path : Str) (n : Nat) (hn : maxParam rs ≤ n)
    (hinv : tableInvariant rs = (true, true)) : find (build rs) m path (List.replicate n []) ≠ .panic :=
  (represents_of_tableInvariant hinv).no_panic m path hn

end Router.Tree
