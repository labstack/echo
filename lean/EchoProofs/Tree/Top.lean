import EchoProofs.Tree.Refine
/-!
# `Router.find` on a well-formed tree = the reference search on the residual set of the tree

`find_refines`: for every tree satisfying the invariant `tiNode D [] t`, every method, every path
and a blank value slice with at least `D` slots, the outcome of the model of `Router.Find`
(L3) is the outcome of the reference search `Spec.search` (L1) on `resid t`, finished by
`Spec.finish`: the same route record with the same parameter values, the same Allow set, or
404.  In particular L3 never indexes out of range on such a slice (`find_no_panic`).
-/
namespace Router.Tree
open Router Router.Spec

/-- outcomes agree (the route path reported with a 404/405 is not part of the reference outcome) -/
inductive OutRel : Router.Outcome → Spec.Outcome → Prop
  | dispatch (rm : RouteMethod) (mm : Str) (vals : List Str) :
      OutRel (.dispatch rm vals) (.dispatch (entryOf mm rm) vals)
  | notFound (p : Str) : OutRel (.notFound p) .notFound
  | mna (p : Str) (a : List Str) : OutRel (.methodNotAllowed p a) (.methodNotAllowed a)

theorem allowOf_own (ms : List (Str × RouteMethod)) (h : NoNfKey ms) :
    Spec.allowOf (ownEntries ms none) = Router.allowOf ms := by
  unfold Spec.allowOf Router.allowOf ownEntries
  simp only [List.append_nil, List.map_map]
  congr 1
  have hmap : ms.map ((fun x => x.method) ∘ fun x => entryOf x.1 x.2) = ms.map (·.1) := by
    apply List.map_congr_left
    intro x _
    rfl
  rw [hmap]
  apply List.filter_congr
  intro y hy
  obtain ⟨x, hx, rfl⟩ := List.mem_map.mp hy
  have := h x hx
  simp [this]

/-- the answer of `find` after a miss, read off the best node it remembered on a slice `pv` that is blank again,
    against `Spec.finish`: a custom not-found record is dispatched with blank values -/
theorem fallback_rel {D n : Nat} (hn : D ≤ n) {pv : List Str} (hpv : pv = List.replicate n []) :
    ∀ {best : Option Router.Best} {bL : Spec.Best}, BRel D best bL →
    OutRel
      (match best with
       | none => .notFound []
       | some b =>
         match b.nf with
         | some rm => if rm.pnames.length > pv.length then .panic else .dispatch rm (pv.take rm.pnames.length)
         | none =>
           if !b.methods.isEmpty then .methodNotAllowed b.originalPath (Router.allowOf b.methods)
           else .notFound b.originalPath)
      (finish (.miss, bL))
  | none, none, _ => OutRel.notFound _
  | none, some _, h => h.elim
  | some _, none, h => h.elim
  | some b, some l, ⟨hl, hno, hnfD⟩ => by
    subst hl hpv
    simp only [finish, findNF_own _ _ hno, isHandler_own _ _ hno]
    cases hnf : b.nf with
    | some rm =>
      have hlen := hnfD rm hnf
      have hgt : ¬ rm.pnames.length > (List.replicate n ([] : Str)).length := by simp; omega
      simp only [Option.map_some, hgt, if_false]
      have : (List.replicate n ([] : Str)).take rm.pnames.length =
          (entryOf routeNotFound rm).pnames.map (fun _ => []) := by
        rw [List.take_replicate, Nat.min_eq_left (by omega), List.map_const']
        rfl
      rw [this]
      exact OutRel.dispatch rm routeNotFound _
    | none =>
      simp only [Option.map_none]
      by_cases hme : b.methods.isEmpty = true
      · simp only [hme, Bool.not_true, Bool.false_eq_true, if_false]
        exact OutRel.notFound _
      · simp only [hme, Bool.not_false, if_true]
        rw [allowOf_own _ hno]
        exact OutRel.mna _ _

/-- **L3 refines L1** -/
theorem find_refines (path m : Str) (D n : Nat) (t : Node) (hk : t.kind = .static)
    (hti : tiNode D [] t = true) (hn : D ≤ n) (d F : Nat) (hd : DepthLe (resid t) d) (hF : d < F) :
    OutRel (find t m path (List.replicate n [])) (finish (search m F (resid t) path [] none)) := by
  obtain ⟨k, pre, ms, nf, op, pc, sts, pa, an⟩ := t
  simp only [Node.kind] at hk
  subst hk
  have hres : resid (.mk .static pre ms nf op pc sts pa an) = residFrom pre (.mk .static pre ms nf op pc sts pa an) := by
    rw [resid_eq]; rfl
  rw [hres] at hd ⊢
  -- the root's own prefix is an edge like any other
  obtain ⟨hdb, hF', hedge⟩ := search_edge_depth (m := m) hd (below_ne_nil D [] _ hti) hF path [] none
  rw [hedge]
  have hok : Ok D [] (⟨0, 0, List.replicate n [], none, false⟩ : St) :=
    ⟨rfl, rfl, by simpa using hn, by intro i _; simp [List.getD, List.getElem?_replicate]; split <;> rfl⟩
  have hv0 : valsOf (⟨0, 0, List.replicate n [], none, false⟩ : St) = [] := by simp [valsOf]
  have hst := (node_ok path m D _ [] hti).1 rfl ⟨0, 0, List.replicate n [], none, false⟩ none
    (d - pre.length) (F - pre.length) hok trivial hdb hF'
  simp only [Node.pre, List.drop_zero, hv0] at hst
  unfold find
  by_cases hpfx : pre.isPrefixOf path = true
  · simp only [hpfx, if_true] at hst ⊢
    generalize findNode path m (.mk .static pre ms nf op pc sts pa an) ⟨0, 0, List.replicate n [], none, false⟩ = x at hst ⊢
    generalize search m (F - pre.length) (below (.mk .static pre ms nf op pc sts pa an)) (path.drop pre.length)
      [] none = y at hst ⊢
    obtain ⟨st', r⟩ := x
    obtain ⟨resL, bL⟩ := y
    obtain ⟨hbr, hm⟩ := hst
    cases r with
    | hit rm =>
      obtain ⟨hnp, hpi, hle, mm, hL⟩ := hm
      simp only at hL hnp hpi hle
      subst hL
      have hgt : ¬ rm.pnames.length > st'.pv.length := by omega
      simp only [hnp, Bool.false_eq_true, if_false, hgt, finish]
      have : st'.pv.take rm.pnames.length = valsOf st' := by simp [valsOf, hpi]
      rw [this]
      exact OutRel.dispatch rm mm _
    | leave =>
      obtain ⟨hL, hnp, _, _, hpv⟩ := hm
      simp only at hL hnp hpv hbr
      subst hL
      simp only [hnp, Bool.false_eq_true, if_false]
      exact fallback_rel hn hpv hbr
  · simp only [hpfx, Bool.false_eq_true, if_false] at hst ⊢
    rw [hst]
    exact OutRel.notFound _

/-- L3 never fails on a blank slice with at least `D` slots -/
theorem find_no_panic (path m : Str) (D n : Nat) (t : Node) (hk : t.kind = .static)
    (hti : tiNode D [] t = true) (hn : D ≤ n) : find t m path (List.replicate n []) ≠ .panic := by
  intro hp
  have := find_refines path m D n t hk hti hn (bound (resid t)) (bound (resid t) + 1) (depthLe_bound _) (by omega)
  rw [hp] at this
  cases this

end Router.Tree
