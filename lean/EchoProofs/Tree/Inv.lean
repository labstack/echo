import EchoProofs.Tree.Resid
import EchoProofs.Spec.Sound
/-!
# The records of one node, and `lcp` as a prefix test

The lookups of the reference search (`isHandler`, `findM`, `findNF`) among the entries of one node are the
lookups of the Find loop among its records (`findMethod`, the not-found record), provided no method record is
keyed `RouteNotFound` (`NoNfKey`, a conjunct of the tree invariant `tiNode` of `EchoModel/RouterInv.lean`; the
invariant itself is taken apart in `Below.lean`).  `lcp s p = p.length` says that `p` is a prefix of `s`.
-/
namespace Router.Tree
open Router Router.Spec

theorem entryOf_method (m : Str) (rm : RouteMethod) : (entryOf m rm).method = m := rfl

def NoNfKey (ms : List (Str × RouteMethod)) : Prop := ∀ x ∈ ms, x.1 ≠ routeNotFound

theorem isHandler_own (ms : List (Str × RouteMethod)) (nf : Option RouteMethod) (h : NoNfKey ms) :
    isHandler (ownEntries ms nf) = !ms.isEmpty := by
  unfold isHandler ownEntries
  cases ms with
  | nil => cases nf <;> simp [entryOf]
  | cons x xs =>
    have := h x (by simp)
    simp [entryOf, this]

theorem find?_map_entry (ms : List (Str × RouteMethod)) (m : Str) :
    (ms.map fun x => entryOf x.1 x.2).find? (·.method = m)
      = (ms.find? (·.1 = m)).map (fun x => entryOf x.1 x.2) := by
  induction ms with
  | nil => rfl
  | cons x xs ih =>
    by_cases hx : x.1 = m
    · simp [entryOf_method, hx]
    · simp only [List.map_cons, List.find?_cons, entryOf_method, hx, decide_false]
      exact ih

theorem findM_own (ms : List (Str × RouteMethod)) (nf : Option RouteMethod) (m : Str) (h : NoNfKey ms) :
    findM (ownEntries ms nf) m = (findMethod ms m).map (entryOf m) := by
  unfold findM findMethod
  by_cases hm : m = routeNotFound
  · subst hm
    have : ms.find? (·.1 = routeNotFound) = none := by
      rw [List.find?_eq_none]
      intro x hx
      simpa using h x hx
    simp [this]
  · simp only [hm, if_false, ownEntries, List.find?_append, find?_map_entry]
    cases hf : ms.find? (·.1 = m) with
    | some x =>
      have := List.find?_some hf
      simp only [decide_eq_true_eq] at this
      simp [this]
    | none =>
      cases nf with
      | none => simp
      | some rm => simp [entryOf, Ne.symm hm]

theorem findNF_own (ms : List (Str × RouteMethod)) (nf : Option RouteMethod) (h : NoNfKey ms) :
    findNF (ownEntries ms nf) = nf.map (entryOf routeNotFound) := by
  unfold findNF ownEntries
  have : (ms.map fun x => entryOf x.1 x.2).find? (·.method = routeNotFound) = none := by
    rw [List.find?_eq_none]
    intro e he
    obtain ⟨x, hx, rfl⟩ := List.mem_map.mp he
    have := h x hx
    simp [entryOf, this]
  simp only [List.find?_append, this, Option.none_or]
  cases nf <;> simp [entryOf]

theorem lcp_le_right (s p : Str) : lcp s p ≤ p.length := by
  induction s generalizing p with
  | nil => cases p <;> simp [lcp]
  | cons a as ih =>
    cases p with
    | nil => simp [lcp]
    | cons b bs =>
      simp only [lcp]
      split
      · have := ih bs; simp; omega
      · simp

theorem lcp_eq_length_iff (s p : Str) : lcp s p = p.length ↔ p.isPrefixOf s = true := by
  induction s generalizing p with
  | nil => cases p <;> simp [lcp, List.isPrefixOf]
  | cons a as ih =>
    cases p with
    | nil => simp [lcp, List.isPrefixOf]
    | cons b bs =>
      simp only [lcp, List.isPrefixOf, List.length_cons, Bool.and_eq_true, beq_iff_eq]
      by_cases hab : a = b
      · subst hab
        simp only [if_true, Nat.add_right_cancel_iff, true_and]
        exact ih bs
      · simp only [hab, if_false]
        constructor
        · intro h; omega
        · intro h; exact absurd h.1.symm hab

end Router.Tree
