import EchoProofs.C12
/-!
# C12 — constructors, Skipper, cookie attributes, and several consumers of one random source

The single-instance theorems of `C12.lean` carried to the complete middleware (`handle`: the defaults the
constructors apply, the Skipper) and to a **stack** of middlewares drawing from one random source (CSRF
instances, `RequestID()`): the handler runs only if every CSRF instance, on the stream its predecessors left,
passes on its own (`C12_stack_sound`), so the single-instance theorems apply to each instance.  Then what the
handler and the client see of a stack — the context value under a shared ContextKey, the Set-Cookie lines on
the wire — and that every element of TokenLookup is parsed on its own.
-/
namespace C12

/-! ## constructors and defaults -/

/-- `CSRFConfig{}` -/
def zeroRaw : RawCfg := { tokenLength := 0, lookup := [], cookieName := [], errorHandler := 0 }

theorem serve_congr (c c' : Cfg) (r : Req) (h1 : c.tokenLength = c'.tokenLength)
    (h2 : c.extractors = c'.extractors) (h3 : c.cookieName = c'.cookieName)
    (h4 : c.errorHandler = c'.errorHandler) : serve c r = serve c' r := by
  unfold serve tokenOf handlerStatus
  rw [h1, h2, h3, h4]

/-- what `CSRFWithConfig(DefaultCSRFConfig)` holds after its defaults -/
def cfgD : Cfg :=
  { tokenLength := 32, extractors := [.header (lit "X-Csrf-Token") []], cookieName := lit "_csrf", cookieSameSite := 1 }
/-- what `CSRFWithConfig(CSRFConfig{})` holds after its defaults -/
def cfgZ : Cfg :=
  { tokenLength := 32, extractors := [.header (lit "X-Csrf-Token") []], cookieName := lit "_csrf" }

/-- **C12_default_ctor** — `CSRF()` (= `CSRFWithConfig(DefaultCSRFConfig)`) and
    `CSRFWithConfig(CSRFConfig{})` are the same middleware: same token length 32, same single
    extractor `header:X-Csrf-Token`, cookie `_csrf`, never skipping, same cookie attributes, and
    the same answer to every request. -/
theorem C12_default_ctor :
    mkCfg defaultRaw = some cfgD ∧ mkCfg zeroRaw = some cfgZ ∧
      cookieAttrs cfgD = cookieAttrs cfgZ ∧ (∀ r, handle cfgD r = handle cfgZ r) ∧
      cfgD.tokenLength = 32 ∧ cfgD.extractors = [.header (lit "X-Csrf-Token") []] ∧
      cfgD.cookieName = lit "_csrf" ∧ cfgD.skipper = false ∧ cfgD.errorHandler = 0 ∧
      cookieAttrs cfgD = ⟨[], [], 86400, false, false, 0⟩ := by
  refine ⟨?_, ?_, by decide +kernel, fun r => ?_, rfl, rfl, rfl, rfl, rfl, by decide +kernel⟩
  · simp only [defaultRaw, cfgD, lit]; lit_chars; decide +kernel
  · simp only [zeroRaw, cfgZ, lit]; lit_chars; decide +kernel
  · unfold handle
    rw [serve_congr cfgD cfgZ r rfl rfl rfl rfl]
    rfl

/-- **C12_cookie_attrs** — what the Set-Cookie of a passed request carries besides the token,
    for every configuration: Path and Domain as configured, Expires = now + MaxAge with 0 ↦
    86400 s, HttpOnly as configured, `Secure` as configured **or forced by SameSite=None**, and a
    SameSite attribute exactly for Lax/Strict/None (zero value and DefaultMode write none). -/
theorem C12_cookie_attrs (rc : RawCfg) (c : Cfg) (h : mkCfg rc = some c) :
    (cookieAttrs c).path = rc.cookiePath ∧ (cookieAttrs c).domain = rc.cookieDomain ∧
    (cookieAttrs c).maxAge = (if rc.cookieMaxAge = 0 then 86400 else rc.cookieMaxAge) ∧
    (cookieAttrs c).httpOnly = rc.cookieHTTPOnly ∧
    (rc.cookieSameSite = 4 → (cookieAttrs c).secure = true) ∧
    (rc.cookieSameSite ≠ 4 → (cookieAttrs c).secure = rc.cookieSecure) ∧
    (cookieAttrs c).sameSite = (if rc.cookieSameSite = 1 then 0 else rc.cookieSameSite) ∧
    c.skipper = rc.skipper ∧ c.errorHandler = rc.errorHandler ∧
    c.tokenLength = (if rc.tokenLength = 0 then 32 else rc.tokenLength) ∧ 1 ≤ c.tokenLength := by
  unfold mkCfg at h
  simp only at h
  split at h
  · simp at h
  · simp only [Option.some.injEq] at h
    subst h
    refine ⟨rfl, rfl, rfl, rfl, ?_, ?_, rfl, rfl, rfl, rfl, ?_⟩
    · intro h4; simp [cookieAttrs, h4]
    · intro h4; simp [cookieAttrs, h4]
    · show 1 ≤ (if rc.tokenLength = 0 then 32 else rc.tokenLength)
      split <;> omega

example : (mkCfg { zeroRaw with cookieSameSite := 4, cookiePath := lit "/app" }).map cookieAttrs =
    some ⟨lit "/app", [], 86400, true, false, 4⟩ := by
  simp only [zeroRaw, lit]; lit_chars; decide +kernel

/-- **C12_skipper** — a request gets past the middleware unchecked exactly when a Skipper is
    configured and it names the request; every other request is served by `serve`, to which
    `C12_unsafe_needs_match`, `C12_reject_4xx`, `C12_publish` … apply. -/
theorem C12_skipper (c : Cfg) (r : Req) :
    (handle c r = .skipped ↔ (c.skipper = true ∧ skipReq r = true)) ∧
    (handle c r ≠ .skipped → handle c r = .served (serve c r)) ∧
    (c.skipper = false → handle c r = .served (serve c r)) := by
  cases hs : c.skipper <;> cases hr : skipReq r <;> simp [handle, hs, hr]

theorem handle_served (c : Cfg) (r : Req) (res : Result) (h : handle c r = .served res) :
    serve c r = res := by
  unfold handle at h
  split at h
  · cases h
  · exact Outcome.served.inj h

example : skipReq ⟨lit "POST", [], [(lit "X-Skip", lit "1")], [], [], [], [], false⟩ = true ∧
    skipReq ⟨lit "POST", [], [(lit "X-Skip", [])], [], [], [], [], false⟩ = false := by
  simp only [lit]; lit_chars; decide +kernel

/-! ## randomString and the rest of the stream -/

theorem fillLoopR_spec (chunk fuel need : Nat) (stream : List Nat) :
    (fillLoopR chunk fuel need stream).map (·.1) = fillLoop chunk fuel need stream ∧
    (∀ t rest, fillLoopR chunk fuel need stream = some (t, rest) →
      ∃ k, 1 ≤ k ∧ rest = stream.drop (k * chunk)) := by
  fun_induction fillLoopR chunk fuel need stream with
  | case1 => exact ⟨rfl, nofun⟩
  | case2 fuel need stream hlt => rw [fillLoop, if_pos hlt]; exact ⟨rfl, nofun⟩
  | case3 fuel need stream hge sc h0 =>
    rw [fillLoop, if_neg hge, if_pos h0]
    exact ⟨rfl, fun t rest h => ⟨1, Nat.le_refl 1, by cases h; rw [Nat.one_mul]⟩⟩
  | case4 fuel need stream hge sc h0 rest left hr ih =>
    -- the rest left by the later rounds is the rest of `stream.drop chunk`: one buffer more
    obtain ⟨k, hk, rfl⟩ := ih.2 rest left hr
    rw [fillLoop, if_neg hge, if_neg h0, ← ih.1, hr]
    exact ⟨rfl, fun t rest' h => ⟨k + 1, Nat.le_add_left 1 k, by
      cases h; rw [List.drop_drop, Nat.add_mul, Nat.one_mul, Nat.add_comm]⟩⟩
  | case5 fuel need stream hge sc h0 hr ih =>
    rw [fillLoop, if_neg hge, if_neg h0, ← ih.1, hr]
    exact ⟨rfl, nofun⟩

/-- **C12_randomR** — `randomStringR` returns the very token of `randomString` and leaves the
    stream minus a positive whole number of read buffers (`length + length/4` bytes each): the
    next consumer of the random source sees exactly the unread rest. -/
theorem C12_randomR (n : Nat) (s : List Nat) :
    (randomStringR n s).map (·.1) = randomString n s ∧
    (∀ t rest, randomStringR n s = some (t, rest) →
      ∃ k, 1 ≤ k ∧ rest = s.drop (k * (n + n / 4))) :=
  fillLoopR_spec _ _ _ _

example : randomStringR 4 [0, 0, 0, 0, 0, 7, 8] = some (lit "AAAA", [7, 8]) := by
  simp only [lit]; lit_chars; decide +kernel

/-! ## the stack -/

theorem push_passed (x : StackOut) (p : Pub) (ps : List Pub) (h : x.push p = .passed ps) :
    ∃ ps', x = .passed ps' ∧ ps = p :: ps' := by
  cases x with
  | passed l => exact ⟨l, rfl, (StackOut.passed.inj h).symm⟩
  | _ => cases h

theorem push_rejected (x : StackOut) (p : Pub) (st : Nat) (h : x.push p = .rejected st) :
    x = .rejected st := by
  cases x with
  | passed l => cases h
  | _ => exact h

/-- the stream one middleware leaves to its successor -/
def streamAfter : Mw → Req → List Nat → List Nat
  | .requestID, r, s =>
    match requestIDOf r with
    | some _ => s
    | none => match randomStringR 32 s with
      | some (_, s') => s'
      | none => s
  | .csrf c, r, s => restAfter c r s

/-- the stream the `i`-th middleware of the stack sees -/
def streamAt : List Mw → Req → List Nat → Nat → List Nat
  | _, _, s, 0 => s
  | [], _, s, _ + 1 => s
  | m :: ms, r, s, i + 1 => streamAt ms r (streamAfter m r s) i

/-- instance `c`, on its own, lets the request through on stream `s` and publishes `p`: nothing when its
    Skipper skipped (`C12_skipper`), its token when `serve` passed (`C12_unsafe_needs_match`, `C12_publish`) -/
def PassesAlone (c : Cfg) (r : Req) (s : List Nat) (p : Pub) : Prop :=
  (handle c { r with rnd := s } = .skipped ∧ p = .skipped) ∨
  (∃ tok, handle c { r with rnd := s } = .served (.passed tok tok) ∧ p = .csrf tok tok (cookieAttrs c))

theorem PassesAlone.unique {c : Cfg} {r : Req} {s : List Nat} {p p' : Pub}
    (h : PassesAlone c r s p) (h' : PassesAlone c r s p') : p = p' := by
  rcases h with ⟨h1, rfl⟩ | ⟨tok, h1, rfl⟩
  · rcases h' with ⟨_, rfl⟩ | ⟨tok', h2, _⟩
    · rfl
    · cases h1.symm.trans h2
  · rcases h' with ⟨h2, _⟩ | ⟨tok', h2, rfl⟩
    · cases h1.symm.trans h2
    · cases h1.symm.trans h2; rfl

/-- One middleware of the stack: it ends the request itself (the random source ran dry, or a CSRF instance
    rejected), or it publishes one item and hands `streamAfter` to the rest of the stack. -/
theorem serveStack_cons (m : Mw) (ms : List Mw) (r : Req) (s : List Nat) :
    serveStack (m :: ms) r s = .panic ∨
    (∃ c st, handle c { r with rnd := s } = .served (.rejected st) ∧ serveStack (m :: ms) r s = .rejected st) ∨
    ∃ p, (∀ c, m = .csrf c → PassesAlone c r s p) ∧
      serveStack (m :: ms) r s = (serveStack ms r (streamAfter m r s)).push p := by
  cases m with
  | requestID =>
    rw [serveStack, streamAfter]
    cases requestIDOf r with
    | some v => exact .inr (.inr ⟨_, nofun, rfl⟩)
    | none =>
      cases randomStringR 32 s with
      | none => exact .inl rfl
      | some p => exact .inr (.inr ⟨.rid p.1, nofun, rfl⟩)
  | csrf c =>
    simp only [serveStack]
    split
    · next hh =>
      -- a skipping instance does not draw from the stream
      have hsk : (c.skipper && skipReq r) = true :=
        Bool.and_eq_true_iff.mpr ((C12_skipper c { r with rnd := s }).1.mp hh)
      exact .inr (.inr ⟨_, fun _ hc => by cases hc; exact .inl ⟨hh, rfl⟩, by rw [streamAfter, restAfter, if_pos hsk]⟩)
    · exact .inl rfl
    · next st hh => exact .inr (.inl ⟨c, st, hh, rfl⟩)
    · next sc ctx hh =>
      obtain rfl := (serve_passed _ _ _ _ (handle_served _ _ _ hh)).2.1
      exact .inr (.inr ⟨_, fun _ hc => by cases hc; exact .inr ⟨sc, hh, rfl⟩, rfl⟩)

theorem serveStack_cons_passed {m : Mw} {ms : List Mw} {r : Req} {s : List Nat} {ps : List Pub}
    (h : serveStack (m :: ms) r s = .passed ps) :
    ∃ p ps', ps = p :: ps' ∧ (∀ c, m = .csrf c → PassesAlone c r s p) ∧
      serveStack ms r (streamAfter m r s) = .passed ps' := by
  rcases serveStack_cons m ms r s with hp | ⟨_, _, _, hr⟩ | ⟨p, hal, hstep⟩
  · rw [hp] at h; cases h
  · rw [hr] at h; cases h
  · rw [hstep] at h
    obtain ⟨ps', h1, h2⟩ := push_passed _ _ _ h
    exact ⟨p, ps', h2, hal, h1⟩

/-- **C12_stack_head_stable** — what the outermost CSRF instance hands to the handler (context
    token = Set-Cookie token, or nothing when its Skipper skipped) is determined by that
    instance, the request and the random stream alone: whatever is registered after it —
    `RequestID()`, another CSRF instance, anything drawing from the same random source —
    cannot change it. -/
theorem C12_stack_head_stable (c : Cfg) (rest rest' : List Mw) (r : Req) (s : List Nat)
    (ps ps' : List Pub) (h : serveStack (.csrf c :: rest) r s = .passed ps)
    (h' : serveStack (.csrf c :: rest') r s = .passed ps') :
    ps.head? = ps'.head? ∧ ∃ p, ps.head? = some p ∧ PassesAlone c r s p := by
  obtain ⟨p, l, rfl, hal, _⟩ := serveStack_cons_passed h
  obtain ⟨p', l', rfl, hal', _⟩ := serveStack_cons_passed h'
  exact ⟨congrArg some ((hal c rfl).unique (hal' c rfl)), p, rfl, hal c rfl⟩

/-- **C12_stack_sound** — the handler behind a stack of middlewares runs only if every CSRF
    instance of the stack, looking at the request on the random stream its predecessors left
    (`streamAt`), passes the request on its own (or is skipped by its own Skipper); and what
    the handler finds published for instance `i` is exactly that instance's token. -/
theorem C12_stack_sound (ms : List Mw) : ∀ (r : Req) (s : List Nat) (ps : List Pub),
    serveStack ms r s = .passed ps →
    ps.length = ms.length ∧
    ∀ (i : Nat) (c : Cfg), ms[i]? = some (.csrf c) →
      ∃ p, ps[i]? = some p ∧ PassesAlone c r (streamAt ms r s i) p := by
  induction ms with
  | nil =>
    intro r s ps h
    obtain rfl := StackOut.passed.inj h
    exact ⟨rfl, by intro i c hi; simp at hi⟩
  | cons m ms ih =>
    intro r s ps h
    obtain ⟨p, ps', rfl, hhead, hrest⟩ := serveStack_cons_passed h
    obtain ⟨hl, hall⟩ := ih r _ ps' hrest
    refine ⟨by simp [hl], fun i c hi => ?_⟩
    cases i with
    | zero => exact ⟨p, rfl, hhead c (Option.some.inj hi)⟩
    | succ i => exact hall i c hi

theorem heldAt_rnd (r : Req) (s : List Nat) (e : Extractor) (tok : Str) :
    heldAt { r with rnd := s } e tok ↔ heldAt r e tok := by
  cases e <;> exact Iff.rfl

/-- **C12_stack_unsafe_needs_match** — an unsafe request that reaches a handler behind any
    stack of middlewares carries, for EVERY CSRF instance of the stack (with at least one
    extractor, not skipped by its own Skipper), that instance's token at one of that
    instance's lookup locations; the token is the value of that instance's cookie when the
    request has it.  One instance's check cannot stand in for another's. -/
theorem C12_stack_unsafe_needs_match (ms : List Mw) (r : Req) (s : List Nat) (ps : List Pub)
    (h : serveStack ms r s = .passed ps) (hunsafe : safeMethod r.method = false)
    (i : Nat) (c : Cfg) (hi : ms[i]? = some (.csrf c)) (hne : c.extractors ≠ [])
    (hskip : ¬ (c.skipper = true ∧ skipReq r = true)) :
    ∃ tok, ps[i]? = some (.csrf tok tok (cookieAttrs c)) ∧
      (∃ e ∈ c.extractors, heldAt r e tok) ∧
      (findCookie c.cookieName r.cookies = some tok ∨
        (findCookie c.cookieName r.cookies = none ∧
          randomString c.tokenLength (streamAt ms r s i) = some tok)) := by
  obtain ⟨p, hp, hal⟩ := (C12_stack_sound ms r s ps h).2 i c hi
  rcases hal with ⟨hsk, _⟩ | ⟨tok, hserved, rfl⟩
  · exact absurd ((C12_skipper c { r with rnd := streamAt ms r s i }).1.mp hsk) hskip
  · obtain ⟨⟨e, he, hheld⟩, hck⟩ :=
      C12_unsafe_needs_match c { r with rnd := streamAt ms r s i } hne hunsafe tok tok
        (handle_served _ _ _ hserved)
    exact ⟨tok, hp, ⟨e, he, (heldAt_rnd r _ e tok).mp hheld⟩, hck⟩

/-- **C12_stack_rejected** — a rejection behind a stack is the rejection of one of its CSRF
    instances: the status is a 4xx and the method is unsafe (so safe requests are never
    rejected, however many instances are stacked). -/
theorem C12_stack_rejected (ms : List Mw) : ∀ (r : Req) (s : List Nat) (st : Nat),
    serveStack ms r s = .rejected st → (400 ≤ st ∧ st < 500) ∧ safeMethod r.method = false := by
  induction ms with
  | nil => intro r s st h; cases h
  | cons m ms ih =>
    intro r s st h
    rcases serveStack_cons m ms r s with hp | ⟨c, st', hh, hr⟩ | ⟨p, _, hstep⟩
    · rw [hp] at h; cases h
    · rw [hr] at h
      obtain rfl := StackOut.rejected.inj h
      have := C12_reject_status c _ _ (handle_served _ _ _ hh)
      exact ⟨this.2.1, this.2.2.2⟩
    · rw [hstep] at h
      exact ih r _ st (push_rejected _ _ _ h)

/-! ## non-vacuity: CSRF, RequestID(), second CSRF instance on one stream -/

def cfgSecond : Cfg :=
  { tokenLength := 2, extractors := [.header (lit "X-Csrf2") []], cookieName := lit "_csrf2" }

/-- a GET without cookies: the first instance draws "ABaz" from the first buffer (5 bytes),
    `RequestID()` the next 40 bytes, the second instance the 2 bytes after that -/
def stream3 : List Nat := [0, 1, 26, 51, 0] ++ List.replicate 40 2 ++ [3, 4]

example : serveStack [.csrf cfgDefault, .requestID, .csrf cfgSecond] reqFresh stream3 =
    .passed [.csrf (lit "ABaz") (lit "ABaz") (cookieAttrs cfgDefault),
             .rid (List.replicate 32 67),
             .csrf (lit "DE") (lit "DE") (cookieAttrs cfgSecond)] := by
  simp only [cfgDefault, cfgSecond, reqFresh, lit]; lit_chars; decide +kernel

/-- the second instance rejects although the first one is satisfied -/
example : serveStack [.csrf cfgDefault, .csrf cfgSecond]
    { reqOK with cookies := [(lit "_csrf", lit "tokn"), (lit "_csrf2", lit "zz")] } [] = .rejected 400 := by
  simp only [cfgDefault, cfgSecond, reqOK, lit]; lit_chars; decide +kernel

/-! ## what the handler finds in the context: shared ContextKey, preset values -/

/-- no item of `l` is a CSRF instance that published under `key` -/
def NoPub (key : Str) (l : List (Mw × Pub)) : Prop :=
  ∀ c sc ctx a, (Mw.csrf c, Pub.csrf sc ctx a) ∈ l → c.contextKey ≠ key

theorem NoPub.tail {key : Str} {x : Mw × Pub} {l : List (Mw × Pub)} (h : NoPub key (x :: l)) : NoPub key l :=
  fun c sc ctx a hm => h c sc ctx a (List.mem_cons_of_mem _ hm)

theorem ctxOf_append (key : Str) (l₁ l₂ : List (Mw × Pub)) (cur : Option Str) :
    ctxOf key (l₁ ++ l₂) cur = ctxOf key l₂ (ctxOf key l₁ cur) := by
  fun_induction ctxOf key l₁ cur with
  | case1 => rfl
  | case2 c sc ctx a rest cur ih => rw [List.cons_append, ctxOf, ih]
  | case3 x rest cur hx ih => rw [List.cons_append, ctxOf, ih]; exact hx

theorem ctxOf_noPub (key : Str) (l : List (Mw × Pub)) (h : NoPub key l) (cur : Option Str) :
    ctxOf key l cur = cur := by
  fun_induction ctxOf key l cur with
  | case1 => rfl
  | case2 c sc ctx a rest cur ih => rw [ih h.tail, if_neg (h c sc ctx a List.mem_cons_self)]
  | case3 x rest cur hx ih => exact ih h.tail

/-- **C12_ctx_innermost** — whatever was in the context before (a value preset by an earlier
    middleware, the token of an outer CSRF instance with the same ContextKey), the handler finds
    under `key` the token of the LAST instance of the stack that published under `key`: every
    instance overwrites the key with its own token and none ever reads it. -/
theorem C12_ctx_innermost (key : Str) (pre post : List (Mw × Pub)) (c : Cfg) (sc tok : Str)
    (a : CookieAttrs) (hk : c.contextKey = key) (hpost : NoPub key post) (cur : Option Str) :
    ctxOf key (pre ++ (Mw.csrf c, Pub.csrf sc tok a) :: post) cur = some tok := by
  rw [ctxOf_append, ctxOf, if_pos hk, ctxOf_noPub key post hpost]

/-- when no instance of the stack publishes under `key` (skipped, or other keys) the handler finds what was there before -/
theorem C12_ctx_untouched (key : Str) (l : List (Mw × Pub)) (h : NoPub key l) (init : Option (Str × Str)) :
    ctxOf key l (initCtx init key) = initCtx init key := ctxOf_noPub key l h _

/-- outer instance (default key), `RequestID()`, inner instance with its own cookie but the same
    default key: both publish their own Set-Cookie, the handler finds the INNER token under "csrf" -/
example : handlerView [.csrf cfgDefault, .requestID, .csrf cfgSecond]
    [.csrf (lit "ABaz") (lit "ABaz") (cookieAttrs cfgDefault), .rid (lit "r"),
     .csrf (lit "DE") (lit "DE") (cookieAttrs cfgSecond)] (some (lit "csrf", lit "preset")) =
    [.csrf (some (lit "ABaz", cookieAttrs cfgDefault)) (some (lit "DE")), .rid (lit "r"),
     .csrf (some (lit "DE", cookieAttrs cfgSecond)) (some (lit "DE"))] := by
  simp only [cfgDefault, cfgSecond, lit]; lit_chars; decide +kernel

/-- a skipped instance publishes nothing: the handler finds what an earlier middleware preset -/
example : handlerView [.csrf cfgDefault] [.skipped] (some (lit "csrf", lit "preset")) =
    [.csrf none (some (lit "preset"))] := by
  simp only [cfgDefault, lit]; lit_chars; decide +kernel

/-! ## Set-Cookie lines on the wire -/

/-- the cookies the publishing CSRF instances of a stack add, in order -/
def csrfLines : List (Mw × Pub) → List (Str × Str)
  | [] => []
  | (.csrf c, .csrf sc _ _) :: rest => (c.cookieName, sc) :: csrfLines rest
  | _ :: rest => csrfLines rest

/-- **C12_wire_cookies** — the Set-Cookie lines after the stack ran are exactly: every line that
    was there before (the application's own cookies, whatever their names — also names that start
    with a CSRF cookie name), unchanged and in order, followed by ONE line per CSRF instance that
    passed the request, in stack order, each with that instance's cookie name and token.  No
    instance removes or replaces a line: stacked instances whose cookie names are prefixes of one
    another (`_csrf` / `_csrf_site`, either nesting) both reach the client. -/
theorem C12_wire_cookies (l : List (Mw × Pub)) : ∀ before : List (Str × Str),
    wireCookies before l = before ++ csrfLines l := by
  intro before
  fun_induction wireCookies before l with
  | case1 => simp [csrfLines]
  | case2 before c sc ctx a rest ih => simp [ih, csrfLines]
  | case3 before x rest hx ih => rw [ih, csrfLines]; exact hx

/-- outer `_csrf_site`, inner `_csrf`, application cookie `_csrf_site_state` before: all on the wire -/
example : wireNames
    [.csrf { cfgDefault with cookieName := lit "_csrf_site" }, .csrf { cfgSecond with cookieName := lit "_csrf" }]
    [.csrf (lit "aa") (lit "aa") (cookieAttrs cfgDefault), .csrf (lit "bb") (lit "bb") (cookieAttrs cfgSecond)] true =
    [lit "session", lit "_csrf_site_state", lit "_csrf_site", lit "_csrf", lit "after"] := by
  simp only [cfgDefault, cfgSecond, lit]; lit_chars; decide +kernel

/-! ## every lookup source is parsed on its own -/

/-- the extractor a single `<source>:<name>[:<cut-prefix>]` element stands for (none for unknown words) -/
def ownExtractor (s : Str) : Option Extractor :=
  match parseSource s with
  | some (some e) => some e
  | _ => none

/-- **C12_sources_independent** — `CreateExtractors` builds the extractor of every source from
    that source's own text alone, in order: nothing (a cut-prefix, a name) is carried from one
    element of TokenLookup to the next, so `header:A:pfx,header:B` reads header B whole and
    `header:B,header:A:pfx` means the same two locations in the other order. -/
theorem C12_sources_independent (ss : List Str) : ∀ es, parseSources ss = some es →
    es = ss.filterMap ownExtractor ∧ ∀ s ∈ ss, parseSource s ≠ none := by
  intro es h
  fun_induction parseSources ss generalizing es with
  | case1 => cases h; exact ⟨rfl, nofun⟩
  | case2 s ss hs => cases h
  | case3 s ss o hs hr => cases h
  | case4 s ss o hs es' hr ih =>
    obtain rfl := Option.some.inj h
    obtain ⟨rfl, h2⟩ := ih es' hr
    refine ⟨?_, List.forall_mem_cons.mpr ⟨by simp [hs], h2⟩⟩
    cases o <;> simp [ownExtractor, hs]

example : createExtractors (lit "header:X-Legacy-Token:csrf ,header:X-CSRF-Token") =
    some [.header (lit "X-Legacy-Token") (lit "csrf "), .header (lit "X-Csrf-Token") []] := by
  simp only [lit]; lit_chars; decide +kernel
example : createExtractors (lit "header:X-CSRF-Token,header:X-Legacy-Token:csrf ") =
    some [.header (lit "X-Csrf-Token") [], .header (lit "X-Legacy-Token") (lit "csrf ")] := by
  simp only [lit]; lit_chars; decide +kernel

/-- a header that merely CONTAINS the token as a list element does not hold it -/
example : serve cfgDefault { reqOK with headers := [(lit "X-Csrf-Token", lit "zzz, tokn")] } = .rejected 403 ∧
    serve cfgDefault { reqOK with headers := [(lit "X-Csrf-Token", lit "tokn,")] } = .rejected 403 := by
  simp only [cfgDefault, reqOK, lit]; lit_chars; decide +kernel

end C12
