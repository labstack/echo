import EchoModel.C05Resp
/-!
# C05 — every context owns its `Response` object, whatever it is handed as writer

After ANY sequence of `NewContext`, `Reset` (with a plain writer or with another `Response` as writer: forwarded
requests, mounted instances), `SetResponse(NewResponse(..))` (`WrapMiddleware`, handlers; never undone), writes and hook
registrations, no two contexts point to the same `Response` object (`C05R_owned_run`).  Hence `Reset` leaves the
context with the bookkeeping of a fresh response (200 / 0 / not committed / no hooks) and changes nothing any OTHER
context can see, also when the writer handed in is that other context's own `Response`; likewise for the other
operations, a write reaching exactly the `Response` objects on the chain of writers of the writing context (its own,
and those of the requests it is served on).  The shortcut "serve directly on the `Response` we were handed" breaks the
invariant, and then a later `Reset` of one context wipes what another one sees (`adopt_leaks`).
-/
namespace C05R

/-- ownership: the contexts' `response` pointers are valid and pairwise different -/
structure Owned (s : Sys) : Prop where
  nodup : s.ctxs.Nodup
  valid : ∀ a ∈ s.ctxs, a < s.heap.length

theorem nodup_set_fresh {l : List Nat} (h : l.Nodup) (x : Nat) (hx : x ∉ l) : ∀ i, (l.set i x).Nodup := by
  induction l with
  | nil => intro i; simp
  | cons y ys ih =>
    intro i
    have hy : y ∉ ys := (List.nodup_cons.mp h).1
    have hys : ys.Nodup := (List.nodup_cons.mp h).2
    have hxy : x ≠ y := fun e => hx (e ▸ List.mem_cons_self ..)
    have hxys : x ∉ ys := fun m => hx (List.mem_cons_of_mem _ m)
    cases i with
    | zero =>
      simp only [List.set_cons_zero]
      exact List.nodup_cons.mpr ⟨hxys, hys⟩
    | succ j =>
      simp only [List.set_cons_succ]
      refine List.nodup_cons.mpr ⟨?_, ih hys hxys j⟩
      intro m
      rcases List.mem_or_eq_of_mem_set m with m | m
      · exact hy m
      · exact hxy m.symm

theorem bump_length (n : Nat) (h : List Cell) (a : Nat) : (bump n h a).length = h.length := by
  unfold bump; split <;> simp

theorem foldl_bump_length (n : Nat) (as : List Nat) : ∀ h : List Cell, (as.foldl (bump n) h).length = h.length := by
  induction as with
  | nil => intro h; rfl
  | cons a as ih => intro h; simp only [List.foldl_cons]; rw [ih, bump_length]

theorem bump_other (n : Nat) (h : List Cell) (a b : Nat) (hne : a ≠ b) : (bump n h a)[b]? = h[b]? := by
  unfold bump
  split
  · simp [hne]
  · rfl

theorem foldl_bump_other (n : Nat) (as : List Nat) (b : Nat) (hb : b ∉ as) :
    ∀ h : List Cell, (as.foldl (bump n) h)[b]? = h[b]? := by
  induction as with
  | nil => intro h; rfl
  | cons a as ih =>
    intro h
    simp only [List.foldl_cons]
    rw [ih (fun m => hb (List.mem_cons_of_mem _ m)), bump_other n h a b (fun e => hb (e ▸ List.mem_cons_self ..))]

theorem exec_ctxs_heap (s : Sys) (st : Step) : s.heap.length ≤ (exec s st).heap.length := by
  cases st with
  | newCtx => simp [exec, newCtx]
  | reset c w => simp only [exec, reset]; split <;> simp
  | setNew c w => simp only [exec, setNew]; split <;> simp
  | write c n => simp only [exec, write]; split <;> simp [foldl_bump_length]
  | hook c o =>
    simp only [exec, hook]
    split
    · split <;> simp
    · simp

theorem owned_exec (s : Sys) (h : Owned s) (st : Step) : Owned (exec s st) := by
  -- `Reset`, writes and hooks work in place: the pointers stay and the heap does not shrink
  have inplace : ∀ st, (exec s st).ctxs = s.ctxs → Owned (exec s st) := fun st hc =>
    ⟨hc ▸ h.nodup, fun a ha => Nat.lt_of_lt_of_le (h.valid a (hc ▸ ha)) (exec_ctxs_heap s st)⟩
  -- `NewContext` and `SetResponse` append a cell; its address was not in use, and is valid afterwards
  have hfresh : s.heap.length ∉ s.ctxs := fun m => Nat.lt_irrefl _ (h.valid _ m)
  have grown : ∀ (cell : Cell) a, a ∈ s.ctxs ∨ a = s.heap.length → a < (s.heap ++ [cell]).length := by
    intro cell a ha
    rw [List.length_append, List.length_singleton]
    exact Nat.lt_succ_of_le (ha.elim (fun m => Nat.le_of_lt (h.valid a m)) Nat.le_of_eq)
  cases st with
  | newCtx =>
    refine ⟨List.nodup_append.mpr ⟨h.nodup, by simp, ?_⟩, fun a ha => grown _ a ?_⟩
    · intro a ha b hb e
      exact hfresh (List.mem_singleton.mp hb ▸ e ▸ ha)
    · simpa [exec, newCtx] using ha
  | setNew c w =>
    simp only [exec, setNew]
    split
    · exact ⟨nodup_set_fresh h.nodup _ hfresh c, fun a ha => grown _ a (List.mem_or_eq_of_mem_set ha)⟩
    · exact h
  | reset c w => exact inplace (.reset c w) (by simp only [exec, reset]; split <;> rfl)
  | write c n => exact inplace (.write c n) (by simp only [exec, write]; split <;> rfl)
  | hook c o =>
    refine inplace (.hook c o) ?_
    simp only [exec, hook]
    split
    · split <;> rfl
    · rfl

theorem owned_init : Owned {} := ⟨List.nodup_nil, by intro a ha; simp at ha⟩

/-- **C05R_owned_run** — after any sequence of operations no two contexts share a `Response` object. -/
theorem C05R_owned_run (steps : List Step) : ∀ s, Owned s → Owned (run s steps) := by
  induction steps with
  | nil => intro s h; exact h
  | cons st rest ih => intro s h; exact ih _ (owned_exec s h st)

theorem ctx_addr_inj {s : Sys} (h : Owned s) {c c' a : Nat} (hc : s.ctxs[c]? = some a) (hc' : s.ctxs[c']? = some a) :
    c = c' :=
  (List.getElem?_inj (List.getElem?_eq_some_iff.mp hc).1 h.nodup).mp (hc.trans hc'.symm)

/-- **C05R_reset_fresh** — after `Reset` the context shows the bookkeeping of a fresh response, whatever its
    object held before and whatever writer it was given (a recorder, another `Response`). -/
theorem C05R_reset_fresh (s : Sys) (h : Owned s) (c a : Nat) (w : Writer) (hc : s.ctxs[c]? = some a) :
    view (reset s c w) c = some (fresh w) := by
  have hv : a < s.heap.length := h.valid a (List.mem_of_getElem? hc)
  simp [view, reset, hc, hv]

/-- **C05R_reset_private** — … and no other context sees any change, also when the writer handed in is the
    other context's own `Response` (a forwarded request, a mounted instance). -/
theorem C05R_reset_private (s : Sys) (h : Owned s) (c c' : Nat) (w : Writer) (hne : c ≠ c') :
    view (reset s c' w) c = view s c := by
  unfold reset
  cases hc' : s.ctxs[c']? with
  | none => rfl
  | some a' =>
    simp only [view]
    cases hc : s.ctxs[c]? with
    | none => rfl
    | some a =>
      have : a' ≠ a := fun e => hne (ctx_addr_inj h hc (e ▸ hc'))
      simp [List.getElem?_set, this]

/-- `SetResponse(NewResponse(..))` on one context (what `WrapMiddleware` does, without ever undoing it) is
    invisible to every other context -/
theorem C05R_setNew_private (s : Sys) (h : Owned s) (c c' : Nat) (w : Writer) (hne : c ≠ c') :
    view (setNew s c' w) c = view s c := by
  unfold setNew
  split
  · simp only [view]
    rw [List.getElem?_set_ne (fun e => hne e.symm)]
    cases hc : s.ctxs[c]? with
    | none => rfl
    | some a =>
      have hv : a < s.heap.length := h.valid a (List.mem_of_getElem? hc)
      simp [List.getElem?_append_left hv]
  · rfl

theorem C05R_hook_private (s : Sys) (h : Owned s) (c c' : Nat) (o : Nat) (hne : c ≠ c') :
    view (hook s c' o) c = view s c := by
  unfold hook
  cases hc' : s.ctxs[c']? with
  | none => rfl
  | some a' =>
    simp only
    cases hcell : s.heap[a']? with
    | none => rfl
    | some cell =>
      simp only [view]
      cases hc : s.ctxs[c]? with
      | none => rfl
      | some a =>
        have : a' ≠ a := fun e => hne (ctx_addr_inj h hc (e ▸ hc'))
        simp [List.getElem?_set, this]

/-- **C05R_write_frame** — a write through context `c'` changes exactly the `Response` objects on its chain of
    writers: every other object is untouched. -/
theorem C05R_write_frame (s : Sys) (c' a' : Nat) (n : Nat) (hc' : s.ctxs[c']? = some a') (b : Nat)
    (hb : b ∉ chain s.heap s.heap.length a') : (write s c' n).heap[b]? = s.heap[b]? := by
  simp only [write, hc']
  exact foldl_bump_other n _ b hb s.heap

/-- **C05R_write_private** — so a context whose `Response` is not on that chain (it is not one of the requests
    `c'` is being served on) sees no change. -/
theorem C05R_write_private (s : Sys) (c c' a a' : Nat) (n : Nat) (hc : s.ctxs[c]? = some a)
    (hc' : s.ctxs[c']? = some a') (hb : a ∉ chain s.heap s.heap.length a') :
    view (write s c' n) c = view s c := by
  have hctx : (write s c' n).ctxs = s.ctxs := by simp only [write, hc']
  simp only [view, hctx, hc, Option.bind_some]
  exact C05R_write_frame s c' a' n hc' a hb

/-! ### the shortcut that must not be taken -/

/-- two contexts, the second one being handed the first one's `Response` as writer (a forwarded request) -/
def two : Sys := run {} [.newCtx, .newCtx]

/-- the code: the inner context re-initialises its OWN object; the outer one's bookkeeping is untouched, and
    later traffic on the inner context cannot reach it -/
example : view (reset two 1 (.resp 0)) 0 = view two 0 := by decide
example : view (reset (write (reset two 1 (.resp 0)) 0 5) 1 (.plain 9)) 0 = some { (fresh (.plain 0)) with committed := true, size := 5 } := by
  decide
/-- a write of the forwarded request reaches the outer response (that is what forwarding means) -/
example : view (write (reset two 1 (.resp 0)) 1 7) 0 = some { (fresh (.plain 0)) with committed := true, size := 7 } := by
  decide

/-- **adopt_breaks_ownership** — "serve directly on the `Response` we were handed" (equally: keep pointing to
    an object that was given back to a pool and handed to somebody else) makes two contexts share one object … -/
theorem adopt_breaks_ownership : ¬ Owned (adopt two 1 0) := by
  intro h
  have := h.nodup
  revert this
  decide

/-- **adopt_leaks** — … and then re-initialising one context wipes what the other one sees: the outer request
    has written 5 bytes, the inner context is recycled for an unrelated request, and the outer request finds
    its response uncommitted and empty, on somebody else's writer. -/
theorem adopt_leaks :
    view (reset (write (adopt two 1 0) 0 5) 1 (.plain 9)) 0 ≠ view (write (adopt two 1 0) 0 5) 0 := by decide

example : Owned two := C05R_owned_run _ _ owned_init
example : Owned (run {} [.newCtx, .newCtx, .reset 0 (.plain 1), .reset 1 (.resp 0), .setNew 1 (.resp 1), .write 1 3,
    .hook 0 1, .reset 1 (.plain 2)]) := C05R_owned_run _ _ owned_init
example : (run {} [.newCtx, .newCtx, .reset 0 (.plain 1), .reset 1 (.resp 0), .setNew 1 (.resp 1), .write 1 3]).heap.map (·.size)
    = [3, 3, 3] := by decide

end C05R
