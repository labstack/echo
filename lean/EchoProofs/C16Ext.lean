import EchoProofs.C16
/-!
# C16 — configuration defaults, `Static(root)`, Skipper, failing files, helpers

The fault-aware handlers (`mwF`, `staticDirF`, `fsFileF`) are `mw`, `staticDir`, `fsFile` when
nothing fails; under any combination of failing `Stat` / `Readdir` / missing `Seek` and any
Skipper answer they open a subset of the names and serve the same file or none, so the
containment theorems of `EchoProofs/C16.lean` carry over.  With the default file system the
effective `Root` is `"."`, so `StaticWithConfig` needs no assumption on the `Root` string and
`middleware.Static(root)` none at all.
-/
namespace C16

theorem serveOpenedF_noFaults (cfg : MwCfg) (t : Tree) (rs : List Str) (name : Str) (next : Next)
    (opened : List Str) (l : Look) :
    serveOpenedF noFaults cfg t rs name next opened l = serveOpened cfg t rs name next opened l := by
  cases l <;> simp [serveOpenedF, serveOpened, statFails, noFaults]

theorem mwServeF_noFaults (cfg : MwCfg) (t : Tree) (rs : List Str) (name : Str) (next : Next) :
    mwServeF noFaults cfg t rs name next = mwServe cfg t rs name next := by
  unfold mwServeF mwServe
  simp only [serveOpenedF_noFaults]

/-- without injected failures and with a Skipper answering `false` the
    extended handler IS `mw` -/
theorem C16_mwF_noFaults (cfg : MwCfg) (t : Tree) (rs : List Str) (cPath star urlPath : Str) (next : Next) :
    mwF noFaults false cfg t rs cPath star urlPath next = mw cfg t rs cPath star urlPath next := by
  unfold mwF mw
  simp only [mwServeF_noFaults, Bool.false_eq_true, if_false]

/-- `a` opens only names `b` opens, and content it returns (a file, a listing) is the content `b` returns -/
def Refines (a b : List Str × Outcome) : Prop :=
  (∀ n ∈ a.1, n ∈ b.1) ∧ (∀ id, a.2 = .file id → b.2 = .file id) ∧
    (∀ ti ns, a.2 = .listing ti ns → b.2 = .listing ti ns)

theorem Refines.rfl (a : List Str × Outcome) : Refines a a := ⟨fun _ h => h, fun _ h => h, fun _ _ h => h⟩

theorem refines_of_names {names : List Str} {o : Outcome} {b : List Str × Outcome} (hn : ∀ n ∈ names, n ∈ b.1)
    (hf : ∀ id, o ≠ .file id) (hl : ∀ ti ns, o ≠ .listing ti ns) : Refines (names, o) b :=
  ⟨hn, fun id h => absurd h (hf id), fun ti ns h => absurd h (hl ti ns)⟩

theorem serveOpened_dir_fst (cfg : MwCfg) (t : Tree) (rs : List Str) (name : Str) (next : Next)
    (opened d : List Str) :
    (serveOpened cfg t rs name next opened (.dir d)).1 = opened ++ [join2 name cfg.index] := by
  unfold serveOpened
  simp only
  split
  · rfl
  · rfl
  · split <;> rfl

theorem serveOpenedF_refines (f : Faults) (cfg : MwCfg) (t : Tree) (rs : List Str) (name : Str) (next : Next)
    (opened : List Str) (l : Look) :
    Refines (serveOpenedF f cfg t rs name next opened l) (serveOpened cfg t rs name next opened l) := by
  unfold serveOpenedF
  cases l with
  | notExist | invalid => exact .rfl _
  | file id =>
    cases statFails f (.file id)
    · exact .rfl _
    · exact refines_of_names (fun _ h => h) nofun nofun
  | dir d =>
    cases statFails f (.dir d)
    · unfold serveOpened
      simp only [Bool.false_eq_true, if_false]
      cases fsOpen cfg.kind t rs (join2 name cfg.index) with
      | dir d' => exact .rfl _
      | file id =>
        cases f.statFile
        · exact .rfl _
        · exact refines_of_names (fun _ h => h) nofun nofun
      | notExist | invalid =>
        cases cfg.browse
        · exact .rfl _
        · cases f.readdir
          · exact .rfl _
          · exact refines_of_names (fun _ h => h) nofun nofun
    · -- `Stat` of the directory fails before the Index file is tried
      exact refines_of_names (fun n h => serveOpened_dir_fst .. ▸ List.mem_append_left _ h) nofun nofun

theorem mwServeF_refines (f : Faults) (cfg : MwCfg) (t : Tree) (rs : List Str) (name : Str) (next : Next) :
    Refines (mwServeF f cfg t rs name next) (mwServe cfg t rs name next) := by
  unfold mwServeF mwServe
  cases fsOpen cfg.kind t rs name with
  | invalid => exact .rfl _
  | notExist =>
    cases next with
    | ok => exact .rfl _
    | notFound =>
      simp only
      split
      · cases fsOpen cfg.kind t rs (join2 cfg.root cfg.index) with
        | invalid | notExist => exact .rfl _
        | file id | dir d => exact serveOpenedF_refines ..
      · exact .rfl _
  | file id | dir d => exact serveOpenedF_refines ..

/-- whatever fails (`Stat` of files, `Stat` of directories, `Readdir`) and
    whatever the Skipper answers: the handler opens only names `mw` opens, and when it serves a
    file or a listing, `mw` serves that same file / listing. -/
theorem C16_mwF_refines (f : Faults) (skip : Bool) (cfg : MwCfg) (t : Tree) (rs : List Str)
    (cPath star urlPath : Str) (nx : Next) :
    (∀ n ∈ (mwF f skip cfg t rs cPath star urlPath nx).1, n ∈ (mw cfg t rs cPath star urlPath nx).1) ∧
    (∀ id, (mwF f skip cfg t rs cPath star urlPath nx).2 = .file id →
      (mw cfg t rs cPath star urlPath nx).2 = .file id) ∧
    (∀ ti ns, (mwF f skip cfg t rs cPath star urlPath nx).2 = .listing ti ns →
      (mw cfg t rs cPath star urlPath nx).2 = .listing ti ns) := by
  unfold mwF mw
  cases skip with
  | true => exact refines_of_names nofun (passNext_ne_file nx) (passNext_ne_listing nx)
  | false =>
    simp only [Bool.false_eq_true, if_false]
    split
    · exact Refines.rfl _
    · exact mwServeF_refines f cfg t rs _ nx

/-- a skipped request opens nothing and is answered by `next` -/
theorem C16_skipper_opens_nothing (f : Faults) (cfg : MwCfg) (t : Tree) (rs : List Str)
    (cPath star urlPath : Str) (next : Next) :
    mwF f true cfg t rs cPath star urlPath next = ([], passNext next) := by
  simp [mwF]

/-- `C16_mw_contained` for the handler with Skipper and failing files -/
theorem C16_mwF_contained (f : Faults) (skip : Bool) (cfg : MwCfg) (t : Tree) (rs : List Str)
    (cPath star urlPath : Str) (next : Next) (hroot : RootOK cfg.root) (hidx : IndexOK cfg.index) :
    ∀ n ∈ (mwF f skip cfg t rs cPath star urlPath next).1, Under cfg.root n := fun n hn =>
  C16_mw_contained cfg t rs cPath star urlPath next hroot hidx n
    ((C16_mwF_refines f skip cfg t rs cPath star urlPath next).1 n hn)

/-- `C16_mw_serves_under_root` for the handler with Skipper and
    failing files -/
theorem C16_mwF_serves_under_root (f : Faults) (skip : Bool) (cfg : MwCfg) (t : Tree) (rs : List Str)
    (cPath star urlPath : Str) (next : Next) (id : Nat) (hkind : cfg.kind = .httpDir)
    (hroot : RootOK cfg.root) (hidx : IndexOK cfg.index)
    (h : (mwF f skip cfg t rs cPath star urlPath next).2 = .file id) :
    ∃ L, (∀ s ∈ L, Normal s) ∧ look t (rs ++ cleanSegsOf cfg.root ++ L) = .file id :=
  C16_mw_serves_under_root cfg t rs cPath star urlPath next id hkind hroot hidx
    ((C16_mwF_refines f skip cfg t rs cPath star urlPath next).2.1 id h)

theorem rootOK_dot : RootOK dot := by decide

theorem indexOK_indexPage : IndexOK indexPage := by
  unfold indexPage; lit_chars; decide +kernel

/-- with the default file system (`Filesystem == nil`) the effective `Root` is `"."`, whatever
    string the application gave: it only selects the directory `http.Dir` is rooted at -/
theorem staticDefaults_default (raw : RawCfg) (h : raw.fs = none) :
    staticDefaults raw =
      (⟨dot, if raw.index = [] then indexPage else raw.index, raw.html5, raw.browse, raw.ignoreBase, .httpDir⟩,
        some (if raw.root = [] then dot else raw.root)) := by
  simp [staticDefaults, h]

/-- `StaticWithConfig` with the default file system: for EVERY
    `Root` string (empty, relative, absolute, with `..`), every Skipper answer and every failure,
    each opened name lies under `"."` — no `RootOK` assumption — and a served file is a node
    below the directory `http.Dir(Root)` is rooted at, reached through real elements only. -/
theorem C16_default_fs_contained (f : Faults) (skip : Bool) (raw : RawCfg) (t : Tree) (cwd given : List Str)
    (cPath star urlPath : Str) (next : Next) (res : List Str × Outcome)
    (hfs : raw.fs = none) (hidx : raw.index = [] ∨ IndexOK raw.index)
    (h : mwRaw f skip raw t cwd given cPath star urlPath next = some res) :
    (∀ n ∈ res.1, Under dot n) ∧
    ∃ rs, dirRootSegs cwd (if raw.root = [] then dot else raw.root) = some rs ∧
      ∀ id, res.2 = .file id → ∃ L, (∀ s ∈ L, Normal s) ∧ look t (rs ++ L) = .file id := by
  have hi : IndexOK (if raw.index = [] then indexPage else raw.index) := by
    split
    · exact indexOK_indexPage
    · rename_i h0; exact hidx.resolve_left h0
  simp only [mwRaw, staticDefaults_default raw hfs] at h
  split at h
  · rename_i rs hrs
    cases h
    refine ⟨C16_mwF_contained f skip _ t rs cPath star urlPath next rootOK_dot hi, rs, hrs, fun id hid => ?_⟩
    -- `Clean(".")` has no elements: below the root of `http.Dir` is below `Root`
    simpa [cleanSegsOf_dot] using
      C16_mwF_serves_under_root f skip _ t rs cPath star urlPath next id rfl rootOK_dot hi hid
  · cases h

/-- the convenience constructor `middleware.Static(root)`:
    containment with no assumption at all (any `root` string, any tree, any request). -/
theorem C16_static_ctor_contained (f : Faults) (skip : Bool) (root : Str) (t : Tree) (cwd given : List Str)
    (cPath star urlPath : Str) (next : Next) (res : List Str × Outcome)
    (h : mwRaw f skip (staticCtor root) t cwd given cPath star urlPath next = some res) :
    (∀ n ∈ res.1, Under dot n) ∧
    ∃ rs, dirRootSegs cwd (if root = [] then dot else root) = some rs ∧
      ∀ id, res.2 = .file id → ∃ L, (∀ s ∈ L, Normal s) ∧ look t (rs ++ L) = .file id :=
  C16_default_fs_contained f skip (staticCtor root) t cwd given cPath star urlPath next res rfl
    (.inr indexOK_indexPage) h

/-- a root accepted by `MustSubFS` (on a non-default file system) is a
    sequence of real elements below the parent's root: it can never point above or beside it. -/
theorem C16_subroot_inside (root : Str) (rs : List Str) (h : subRootSegs root = some rs) :
    ∀ s ∈ rs, Normal s := by
  unfold subRootSegs at h
  simp only at h
  split at h
  · rename_i hv; cases h; exact validPath_segs _ hv
  · cases h

theorem fsFileF_noFaults (t : Tree) (rs : List Str) (file : Str) :
    fsFileF noFaults .io t rs file = fsFile t rs file := by
  unfold fsFileF fsFile openBy
  simp only [noFaults, Bool.false_eq_true, if_false]

/-- nothing failing: the extended handler IS `staticDir` -/
theorem C16_staticDirF_noFaults (t : Tree) (rs : List Str) (star urlPath : Str) :
    staticDirF noFaults t rs star urlPath = staticDir t rs star urlPath := by
  unfold staticDirF staticDir
  simp only [fsFileF_noFaults]
  simp [noFaults]

/-- rules out the branches of a failing `Stat`, a missing `Seek` and the redirect: none of them serves a file -/
theorem file_of_ite {c : Prop} [Decidable c] {a b : List Str × Outcome} {id : Nat}
    (h : (if c then a else b).2 = .file id) (ha : a.2 ≠ .file id) : ¬c ∧ b.2 = .file id := by
  by_cases hc : c
  · rw [if_pos hc] at h; exact absurd h ha
  · rw [if_neg hc] at h; exact ⟨hc, h⟩

theorem fsFileF_file (f : Faults) (t : Tree) (rs : List Str) (file : Str) (id : Nat)
    (h : (fsFileF f .io t rs file).2 = .file id) : (fsFile t rs file).2 = .file id := by
  unfold fsFileF at h
  unfold fsFile
  simp only [openBy] at h
  cases h1 : ioOpen t rs file with
  | notExist | invalid => rw [h1] at h; cases h
  | file id' =>
    simp only [h1] at h ⊢
    exact (file_of_ite (file_of_ite h nofun).2 nofun).2
  | dir d =>
    simp only [h1] at h ⊢
    replace h := (file_of_ite h nofun).2
    cases h2 : ioOpen t rs (join2 file indexPage) with
    | notExist | invalid | dir d' => rw [h2] at h; cases h
    | file id' =>
      simp only [h2] at h ⊢
      exact (file_of_ite (file_of_ite h nofun).2 nofun).2

theorem staticDirRawF_file (f : Faults) (t : Tree) (rs : List Str) (p urlPath : Str) (id : Nat)
    (h : (staticDirRawF f t rs p urlPath).2 = .file id) :
    (fsFileF f .io t rs (clean (trimPrefixC '/' p))).2 = .file id ∧
    ((∃ d, ioOpen t rs (clean (trimPrefixC '/' p)) = .dir d) → ¬(urlPath ≠ [] ∧ urlPath.getLast? ≠ some '/')) := by
  unfold staticDirRawF at h
  simp only at h
  cases ho : ioOpen t rs (clean (trimPrefixC '/' p)) with
  | notExist | invalid => rw [ho] at h; cases h
  | dir d =>
    simp only [ho] at h
    obtain ⟨hred, h⟩ := file_of_ite (file_of_ite h nofun).2 nofun
    exact ⟨h, fun _ => hred⟩
  | file i =>
    simp only [ho] at h
    exact ⟨(file_of_ite h nofun).2, nofun⟩

/-- `StaticDirectoryHandler` over a file system whose files may fail
    `Stat` or lack `Seek`: when it serves a file, the plain handler serves the same file, so
    `C16_fs_serves_inside` applies (the file is a node below the root, real elements only). -/
theorem C16_fsF_serves_inside (f : Faults) (t : Tree) (rs : List Str) (star urlPath : Str) (id : Nat)
    (h : (staticDirF f t rs star urlPath).2 = .file id) :
    (staticDir t rs star urlPath).2 = .file id := by
  unfold staticDirF at h
  unfold staticDir
  cases hu : unescape star with
  | none => rw [hu] at h; cases h
  | some p =>
    rw [hu] at h
    obtain ⟨hf, hred⟩ := staticDirRawF_file f t rs p urlPath id h
    have hp := fsFileF_file f t rs _ id hf
    simp only
    cases ho : ioOpen t rs (clean (trimPrefixC '/' p)) with
    | notExist | invalid => simp [fsFile, ho] at hp
    | dir d => simp only; rw [if_neg (hred ⟨d, ho⟩)]; exact hp
    | file i => exact hp

/-- echo's default file system (`os.Open`): the file served for a
    name is the node the name denotes from the working directory, lexically resolved — the file
    the developer named, not another one. -/
theorem C16_osopen_names_file (t : Tree) (cwd : List Str) (name : Str) (id : Nat)
    (h : osOpen t cwd name = .file id) :
    ∃ segs, dirRootSegs cwd name = some segs ∧ look t segs = .file id := by
  unfold osOpen at h
  -- the empty name, a `..` taken from a missing directory and a name outside the work directory are refused
  split at h
  · cases h
  split at h
  · cases h
  split at h
  · cases h
  rename_i segs hs
  refine ⟨segs, hs, ?_⟩
  split at h
  · rename_i hl
    split at h
    · cases h
    · exact hl.trans h
  · exact h

/-- read the body of a quoted-string up to the closing quote, undoing backslash escapes
    (RFC 7230 `quoted-string` / `quoted-pair`): result and the rest after the closing quote -/
def readQuoted : Str → Option (Str × Str)
  | [] => none
  | c :: r =>
    if c = '"' then some ([], r)
    else if c = '\\' then
      match r with
      | [] => none
      | d :: r' => (readQuoted r').map fun p => (d :: p.1, p.2)
    else (readQuoted r).map fun p => (c :: p.1, p.2)

/-- for every display name (quotes, backslashes, any bytes): the
    quoted-string written by `Attachment` / `Inline` reads back as exactly that name and ends at
    the quote the helper wrote; a name cannot close the string early and add parameters. -/
theorem C16_disposition_roundtrip (name rest : Str) :
    readQuoted (quoteEscape name ++ '"' :: rest) = some (name, rest) := by
  induction name with
  | nil => simp only [quoteEscape, List.nil_append]; rw [readQuoted.eq_def]; simp
  | cons c r ih =>
    unfold quoteEscape
    by_cases h1 : c = '\\'
    · subst h1
      simp only [if_true, List.cons_append]
      rw [readQuoted.eq_def]
      simp [ih]
    · by_cases h2 : c = '"'
      · subst h2
        simp only [h1, if_false, if_true, List.cons_append]
        rw [readQuoted.eq_def]
        simp [ih]
      · simp only [h1, h2, if_false, List.cons_append]
        rw [readQuoted.eq_def]
        simp [h1, h2, ih]

/-- the file served by `Attachment` / `Inline` does not depend on the display name -/
theorem C16_disposition_same_file (f : Faults) (m : OpenMode) (t : Tree) (rs : List Str)
    (file typ n1 n2 : Str) :
    (dispFile f m t rs file typ n1).2 = (dispFile f m t rs file typ n2).2 := rfl

/-! ## why nothing may touch the name after `Clean` and the join

`clean_rooted_no_dotdot` / `C16_mw_contained` speak about the name the handler passes to `Open`:
`Clean(Root)` followed by *real* elements, where "real" (`Normal`) only means: not empty, not `.`,
not `..`, no slash.  An element may contain any other byte — NUL, line breaks, tab, zero-width
code points.  So the guarantee is NOT stable under removing bytes from the finished name: for
every byte `b` other than `.` and `/` the elements `.b.`, `b..`, `..b` are real, and dropping `b`
makes them `..`.  A "sanitising" step placed after `Clean` (drop NUL, trim space, strip control or
zero-width characters) therefore re-creates the dot-dot element that `Clean("/"+p)` has just
excluded; it has to run before `Clean`, or not at all.  The model has no such step: it opens
`mwName` itself, and the correspondence run compares the recorded names byte for byte. -/

def dropByte (b : Char) (s : Str) : Str := s.filter (fun c => c != b)

/-- for EVERY byte `b` except `.` and `/`: `.b.`, `b..`, `..b` are
    real path elements (they survive `Clean` untouched), and each is `..` once `b` is dropped. -/
theorem C16_lookalike_normal (b : Char) (hd : b ≠ '.') (hs : b ≠ '/') :
    Normal ['.', b, '.'] ∧ Normal [b, '.', '.'] ∧ Normal ['.', '.', b] ∧
    dropByte b ['.', b, '.'] = dotdot ∧ dropByte b [b, '.', '.'] = dotdot ∧
    dropByte b ['.', '.', b] = dotdot := by
  have hd' : ('.' != b) = true := by simp [bne_iff_ne, Ne.symm hd]
  refine ⟨?_, ?_, ?_, ?_, ?_, ?_⟩
  · simp [Normal, dot, dotdot, Ne.symm hs]
  · simp [Normal, dot, dotdot, Ne.symm hs, hd]
  · simp [Normal, dot, dotdot, Ne.symm hs]
  · simp [dropByte, List.filter, hd', dotdot]
  · simp [dropByte, List.filter, hd', dotdot]
  · simp [dropByte, List.filter, hd', dotdot]

/-- such an element anywhere below `Root` is within what
    `C16_mw_contained` promises (so the promise alone does not survive a later byte-dropping) -/
theorem C16_lookalike_under (root : Str) (hroot : RootOK root) (b : Char) (hd : b ≠ '.') (hs : b ≠ '/')
    (rest : List Str) (hrest : ∀ s ∈ rest, Normal s) :
    Under root (render (isRooted root) (cleanSegsOf root ++ ['.', b, '.'] :: rest)) := by
  apply under_render root hroot
  intro s hs'
  rcases List.mem_cons.mp hs' with h | h
  · rw [h]; exact (C16_lookalike_normal b hd hs).1
  · exact hrest s h

-- end to end, `StaticConfig{Root: "public", Filesystem: http.Dir(<parent>)}`: the request `/.%00./secret`
-- opens `public/.\0./secret` (refused by http.Dir: 500); with the NUL dropped AFTER the join the name is
-- `public/../secret`, which is not under Root and which http.Dir resolves to the secret next to the root
example : mw (exCfg false) exTree [] [] [] (S "/.%00./secret") .notFound = ([S "public/.\x00./secret"], .error500) ∧
    dropByte (Char.ofNat 0) (S "public/.\x00./secret") = S "public/../secret" ∧
    fsOpen .httpDir exTree [] (dropByte (Char.ofNat 0) (S "public/.\x00./secret")) = .file 4 := by
  simp only [exCfg, exTree, S]; lit_chars; decide +kernel
example : mw (exCfg false) exTree [] [] [] (S "/..%0a/secret") .notFound = ([S "public/..\n/secret"], .pass404) ∧
    fsOpen .httpDir exTree [] (dropByte '\n' (S "public/..\n/secret")) = .file 4 ∧
    fsOpen .httpDir exTree [] (dropByte '\t' (S "public/\t../secret")) = .file 4 := by
  simp only [exCfg, exTree, S]; lit_chars; decide +kernel
-- the other file-system kinds with a NUL in the name
example : fsOpen .httpDirFS exTree [S "public"] (S "/a\x00.txt") = .invalid ∧
    fsOpen .httpIoFS exTree [S "public"] (S "/a\x00.txt") = .notExist ∧
    fsOpen .httpMapFS exTree [S "public"] (S "/a\x00.txt") = .notExist ∧
    fsOpen .httpDirFS exTree [S "public"] (S "/a.txt/\x00") = .notExist := by
  simp only [exTree, S]; lit_chars; decide +kernel

theorem normal_workName : Normal workName := by decide

/-- a root derived from the default file system is a directory reached from the work directory
    without `..` left in it -/
theorem dirRootSegs_normal (cwd : List Str) (dir : Str) (d : List Str) (h : dirRootSegs cwd dir = some d) :
    ∀ s ∈ d, Normal s := by
  unfold dirRootSegs at h
  simp only at h
  -- the name that is cleaned is absolute either way
  obtain ⟨p, hp⟩ : ∃ p, (if isRooted dir then dir else '/' :: joinSep '/' (workName :: cwd) ++ '/' :: dir) = '/' :: p := by
    split
    · rename_i hr
      cases dir with
      | nil => cases hr
      | cons c q => exact ⟨q, by rw [show c = '/' by simpa [isRooted] using hr]⟩
    · exact ⟨_, rfl⟩
  rw [hp] at h
  have hn := (clean_rooted_no_dotdot p).2.2.1
  split at h
  · rename_i w rest heq
    split at h
    · cases h
      exact fun s hs => hn s (heq ▸ List.mem_cons_of_mem _ hs)
    · cases h
  · cases h

/-- a relative root of real elements taken from a default file system
    rooted at `cwd` lands at `cwd ++ F`: below the directory the file system is rooted at, not
    below wherever the process started. -/
theorem C16_derive_relative (cwd F : List Str) (hcwd : ∀ s ∈ cwd, Normal s) (hF : ∀ s ∈ F, Normal s)
    (hne : F ≠ []) : dirRootSegs cwd (joinSep '/' F) = some (cwd ++ F) := by
  have hall : ∀ s ∈ (workName :: cwd) ++ F, Normal s :=
    List.forall_mem_append.mpr ⟨List.forall_mem_cons.mpr ⟨normal_workName, hcwd⟩, hF⟩
  simp only [dirRootSegs, isRooted_joinSep hF hne, Bool.false_eq_true, if_false]
  -- the name that is cleaned is a clean path already: `/W/cwd…/F…`
  rw [List.cons_append, ← joinSep_append (workName :: cwd) F (by simp) hne, ← render_true,
    clean_render_self true _ hall, segsOf_render true _ hall (.inr rfl)]
  simp

/-- `e.Filesystem = MustSubFS(e.Filesystem, r1)` followed by
    `e.Static(prefix, r2)` with a relative `r2` of real elements: the served root is `r2` below the
    directory `r1` denotes — for every `r1` (absolute, relative, with `..`) and every working directory. -/
theorem C16_derive_second_level (cwd : List Str) (r1 : Str) (d F : List Str)
    (h1 : dirRootSegs cwd r1 = some d) (hF : ∀ s ∈ F, Normal s) (hne : F ≠ []) :
    deriveRoots cwd [r1, joinSep '/' F] = some (d ++ F) := by
  simp [deriveRoots, h1, C16_derive_relative d F (dirRootSegs_normal cwd r1 d h1) hF hne]

example : deriveRoots [] ["public".toList, "static".toList] = some ["public".toList, "static".toList] ∧
    deriveRoots ["public".toList] ["..".toList, "public".toList] = some ["public".toList] ∧
    deriveRoots [] ["/W".toList, "public".toList] = some ["public".toList] ∧
    deriveRoots [] ["public".toList, ".".toList, "static".toList] = some ["public".toList, "static".toList] ∧
    deriveRoots [] ["/etc".toList, "x".toList] = none := by
  lit_chars; decide +kernel

/-! ## when a configuration value is read

The definitions `staticRouteRoot`, `openTimeRoot`, `staticRouteFS`, `fileRouteFS` of the model fix
WHICH of the four moments (`echo.New()`, registration, first request, each request) a value is
taken from; the correspondence run sends all four values and ties the choice to the real code.
The theorems are short because the choice is the whole content. -/

/-- the root of an `Echo.Static` / `Group.Static` route on the
    default file system depends on the working directory at `echo.New()` only: whatever the
    process does afterwards (chdir before or after the registration, before any request) the route
    serves the same directory. -/
theorem C16_static_root_fixed_at_new (cwd cwd' : Times (List Str)) (roots : List Str)
    (h : cwd.atNew = cwd'.atNew) : staticRouteRoot cwd roots = staticRouteRoot cwd' roots := by
  simp [staticRouteRoot, h]

/-- with `C16_derive_second_level`: a relative root of real elements is that root below the
    directory the earlier roots denote from the working directory of `echo.New()` -/
theorem C16_static_root_second_level (cwd : Times (List Str)) (r1 : Str) (d F : List Str)
    (h1 : dirRootSegs cwd.atNew r1 = some d) (hF : ∀ s ∈ F, Normal s) (hne : F ≠ []) :
    staticRouteRoot cwd [r1, joinSep '/' F] = some (d ++ F) :=
  C16_derive_second_level cwd.atNew r1 d F h1 hF hne

/-- a Static / StaticFS route (Echo or Group) serves from the
    file system of registration time: reassigning `Echo.Filesystem` before the first request or
    between requests does not move it -/
theorem C16_route_fs_fixed_at_registration {α : Type} (fs fs' : Times α) (h : fs.atRegister = fs'.atRegister) :
    staticRouteFS fs = staticRouteFS fs' := h

section Examples

private def S' (s : String) : Str := s.toList

private def exT : Tree :=
  [(S' "public", .dir), (S' "public/a+b.txt", .file 1), (S' "public/a b.txt", .file 2), (S' "public/index.html", .file 3),
   (S' "public/dir", .dir), (S' "secret", .file 4), (S' "a+b.txt", .file 5)]

-- `middleware.Static("public")` from the working directory W: a literal `+` stays a `+`
example : mwRaw noFaults false (staticCtor (S' "public")) exT [] [] [] [] (S' "/a+b.txt") .notFound
    = some ([S' "a+b.txt"], .file 1) := by
  simp only [exT, S']; lit_chars; decide +kernel
-- ... the same root reached through the parent, working directory = the web root
example : mwRaw noFaults false (staticCtor (S' "../public")) exT [S' "public"] [] [] [] (S' "/../secret") .notFound
    = some ([S' "secret"], .pass404) := by
  simp only [exT, S']; lit_chars; decide +kernel
-- a root outside the work directory is not placed by the model
example : mwRaw noFaults false (staticCtor (S' "/etc")) exT [] [] [] [] (S' "/passwd") .notFound = none := by
  simp only [exT, S']; lit_chars; decide +kernel
-- Skipper, failing Stat
example : mwRaw noFaults true (staticCtor (S' "public")) exT [] [] [] [] (S' "/a+b.txt") .notFound = some ([], .pass404) := by
  simp only [exT, S']; lit_chars; decide +kernel
example : mwRaw ⟨true, false, false, false⟩ false (staticCtor (S' "public")) exT [] [] [] [] (S' "/a+b.txt") .notFound
    = some ([S' "a+b.txt"], .error500) := by
  simp only [exT, S']; lit_chars; decide +kernel
example : mwRaw ⟨false, false, true, false⟩ false ⟨S' "public", [], false, true, false, none⟩ exT [] [] [] [] (S' "/dir") .notFound
    = some ([S' "dir", S' "dir/index.html"], .error500) := by
  simp only [exT, S']; lit_chars; decide +kernel
-- MustSubFS roots
example : subRootSegs (S' "./public/") = some [S' "public"] ∧ subRootSegs (S' "public/dir/..") = some [S' "public"] ∧
    subRootSegs (S' "../public") = none ∧ subRootSegs (S' "/public") = none ∧ subRootSegs (S' "") = some [] := by
  simp only [S']; lit_chars; decide +kernel
-- files without Seek: 500; os.Open follows `..` lexically (the developer's own name)
example : staticDirF ⟨false, false, false, true⟩ exT [S' "public"] (S' "a+b.txt") (S' "/s/a+b.txt")
    = ([S' "a+b.txt", S' "a+b.txt"], .error500) := by
  simp only [exT, S']; lit_chars; decide +kernel
example : fsFileF noFaults (.os []) exT [] (S' "public/../secret") = ([S' "public/../secret"], .file 4) := by
  simp only [exT, S']; lit_chars; decide +kernel
-- ... but physically: `nope/..` needs the directory `nope` (the lexical Clean would not)
example : fsFileF noFaults (.os []) exT [] (S' "public/nope/../a+b.txt") = ([S' "public/nope/../a+b.txt"], .notFound404) ∧
    fsFileF noFaults (.os []) exT [] (S' "public/dir/../a+b.txt") = ([S' "public/dir/../a+b.txt"], .file 1) := by
  simp only [exT, S']; lit_chars; decide +kernel
example : fsFileF noFaults .io exT [] (S' "public/../secret") = ([S' "public/../secret"], .notFound404) := by
  simp only [exT, S']; lit_chars; decide +kernel
example : dispHeader (S' "attachment") (S' "a\"; x=\"b\\") = S' "attachment; filename=\"a\\\"; x=\\\"b\\\\\"" := by
  simp only [S']; lit_chars; decide +kernel

-- the Static route keeps `W/public` after a chdir to `W/elsewhere`; `http.Dir("public")` of the middleware
-- and a File route on the default file system name `W/elsewhere/public` from then on
example : staticRouteRoot ⟨[], [], [S' "elsewhere"], [S' "elsewhere"]⟩ [S' "public"] = some [S' "public"] ∧
    staticRouteRoot ⟨[], [S' "elsewhere"], [S' "elsewhere"], [S' "elsewhere"]⟩ [S' "public"] = some [S' "public"] ∧
    openTimeRoot ⟨[], [], [S' "elsewhere"], [S' "elsewhere"]⟩ (S' "public") = some [S' "elsewhere", S' "public"] := by
  simp only [S']; lit_chars; decide +kernel

end Examples

end C16
