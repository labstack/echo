import EchoProofs.C15
/-!
# C15 — the constructors, the Skipper and what happens around the handler

`serveX` (lean/EchoModel/C15.lean) is one request through the middleware a constructor returned:
`Gzip()` / `GzipWithConfig` with its "Defaults" block, the `Skipper`'s answer, a compression
level `gzip.NewWriterLevel` rejects, a handler that sets `Content-Encoding: gzip` itself, and a
handler that returns an error (the application's error handler then writes its response after
the middleware has unwound).  In the ordinary situation `serveX` IS `serve` (`C15_cfg_plain`), so every
theorem of `EchoProofs/C15.lean` speaks about it; the other theorems say what the client gets in each of
the other situations.
-/
namespace C15

/-- what the constructors make of their arguments: `Gzip()` is level -1 /
    MinLength 0; `Level` 0 means the default level; a negative `MinLength` means 0 (everything
    is compressed); every other value is taken as given. -/
theorem C15_defaults (l m : Int) :
    Ctor.gzip.config = ⟨-1, 0⟩ ∧
    (Ctor.gzipWith ⟨0, m⟩).config.level = -1 ∧
    (l ≠ 0 → (Ctor.gzipWith ⟨l, m⟩).config.level = l) ∧
    (m < 0 → (Ctor.gzipWith ⟨l, m⟩).config = (Ctor.gzipWith ⟨l, 0⟩).config) ∧
    (0 ≤ m → (Ctor.gzipWith ⟨l, m⟩).config.minLength = m) ∧
    0 ≤ (Ctor.gzipWith ⟨l, m⟩).config.minLength := by
  simp only [Ctor.config, GzipConfig.normalise]
  refine ⟨by decide, by simp, fun hl => by simp [hl], fun hm => by simp [hm],
    fun hm => if_neg (Int.not_lt.2 hm), ?_⟩
  split <;> omega

/-- the ordinary situation — no Skipper veto, a level gzip accepts, a handler that leaves
    `Content-Encoding` alone and returns nil: the middleware built by any constructor serves the
    request exactly as `serve` with the normalised `MinLength` does.  All theorems of
    `EchoProofs/C15.lean` (`C15_roundtrip`, `C15_ce_iff_gzip`, `C15_write_count`, …) therefore hold
    for it. -/
theorem C15_cfg_plain (cfg : GzipConfig) (pool : Pool) (x : ReqX)
    (hs : x.skip = false) (hp : x.presetCE = false) (hf : x.fail = none)
    (hl : levelValid cfg.level = true) :
    serveX cfg pool x = serve cfg.minLength.toNat pool x.rq := by
  unfold serveX serveSplitX serve
  simp only [hs, hp, hf, hl, afterChain, runProg, List.append_nil, Bool.false_eq_true, if_false,
    Bool.not_true]

theorem writerWrite_committed (s : St) (b : Bytes) : (writerWrite s b).1.committed = s.committed := by
  unfold writerWrite
  split
  · next w _ =>
    cases he : w.exceeded
    · simp only [grwWrite, he, Bool.not_false, if_true]
      split <;> rfl
    · simp only [grwWrite, he, Bool.not_true, Bool.false_eq_true, if_false]
  · rfl

theorem writerFlush_committed (s : St) : (writerFlush s).committed = s.committed := by
  unfold writerFlush
  split
  · next w _ => cases he : w.exceeded <;> simp only [grwFlush, he, Bool.not_false, Bool.not_true, if_true,
      Bool.false_eq_true, if_false] <;> rfl
  · rfl

theorem committed_stable : Stable (fun s => s.committed = true) where
  setLen := fun _ _ h => h
  writeHeader := fun s c _ => respWriteHeader_committed s c
  write := fun s b h => (writerWrite_committed s b).trans h
  flush := fun s h => (writerFlush_committed s).trans h

/-- the op starts the response (everything except setting a header) -/
def Op.starts : Op → Bool
  | .setLen _ => false
  | _ => true

theorem step_committed (s : St) (op : Op) (h : op.starts = true) : (step s op).1.committed = true := by
  cases op with
  | setLen n => cases h
  | writeHeader c => exact respWriteHeader_committed s c
  | write b => exact (writerWrite_committed _ b).trans (commit_committed s)
  | flush => exact (writerFlush_committed _).trans (commit_committed s)
  | stream c cs fl => exact committed_stable.copyChunks _ (respWriteHeader_committed s c)
  | streamWT c d =>
    rw [step_streamWT]
    split
    · exact respWriteHeader_committed s c
    · exact (writerWrite_committed _ d).trans (commit_committed _)

theorem runProg_committed (ops : List Op) : ∀ s : St, ops.any Op.starts = true →
    (runProg s ops).1.committed = true := by
  induction ops with
  | nil => intro s h; cases h
  | cons op ops ih =>
    intro s h
    cases ho : op.starts with
    | true => exact committed_stable.runProg ops (step_committed s op ho)
    | false => exact ih _ (by simpa [ho] using h)

theorem finalise_committed (s : St) (w : Grw) : (finalise s w).1.committed = s.committed := by
  unfold finalise
  cases w.wroteBody <;> cases w.exceeded <;> rfl

theorem unwind_committed (pool : Pool) (s : St) : (unwind pool s).1.committed = s.committed := by
  unfold unwind
  split
  · exact finalise_committed s _
  · rfl

theorem afterChain_of_committed (s : St) (fail : Option Nat) (h : s.committed = true) :
    afterChain s fail = s := by
  cases fail <;> simp [afterChain, errorHandler, h]

/-- the handler's run: its program on the header map the middleware leaves it (with `Vary`, unless the
    request is skipped) and on the writer it is handed (wrapped if the request draws from the pool) -/
def ran (cfg : GzipConfig) (x : ReqX) : St × List Ret :=
  runProg
    (St.init { ce := x.presetCE, vary := !x.skip } (if usesPool cfg x then some cfg.minLength.toNat else none))
    x.rq.prog

/-- `serveX` is: the pool's error if the level is rejected; otherwise the handler's run, the deferred
    function, the error handler's turn, the implicit 200 -/
theorem serveX_eq (cfg : GzipConfig) (pool : Pool) (x : ReqX) :
    serveX cfg pool x =
      if (!x.skip && acceptsGzip x.rq.acceptEncoding && !levelValid cfg.level) = true then
        (⟨(errorHandler { raw := { hdr := { vary := true } } } 500).raw.writeHeader 200, []⟩, pool)
      else
        (⟨(afterChain (unwind pool (ran cfg x).1).1 x.fail).raw.writeHeader 200, (ran cfg x).2⟩,
         (unwind pool (ran cfg x).1).2) := by
  have hn : ∀ hdr, unwind pool (runProg (St.init hdr none) x.rq.prog).1
      = ((runProg (St.init hdr none) x.rq.prog).1, pool) := fun hdr => by
    rw [unwind, runProg_unwrapped x.rq.prog rfl]
  unfold serveX serveSplitX ran usesPool
  simp only [runProg, List.append_nil]
  cases hs : x.skip
  · cases ha : acceptsGzip x.rq.acceptEncoding
    · simp only [Bool.not_false, Bool.true_and, Bool.false_and, Bool.false_eq_true, if_false, hn]
      rfl
    · cases hl : levelValid cfg.level
      · rfl
      · simp only [Bool.not_false, Bool.not_true, Bool.and_self, Bool.and_false, Bool.false_eq_true, if_false,
          if_true, Gz.reset, St.init]
        generalize runProg _ x.rq.prog = r
        obtain ⟨s, rets⟩ := r
        cases hg : s.grw <;> simp only [unwind, hg]
  · simp only [Bool.not_true, Bool.false_and, Bool.false_eq_true, if_false, if_true, hn]
    rfl

theorem serveX_fst (cfg : GzipConfig) (pool : Pool) (x : ReqX) :
    (serveX cfg pool x).1 =
      if (!x.skip && acceptsGzip x.rq.acceptEncoding && !levelValid cfg.level) = true then
        ⟨(errorHandler { raw := { hdr := { vary := true } } } 500).raw.writeHeader 200, []⟩
      else ⟨(afterChain (unwind {} (ran cfg x).1).1 x.fail).raw.writeHeader 200, (ran cfg x).2⟩ := by
  rw [serveX_eq, unwind_fst pool {}]
  split <;> rfl

/-- neither the live header map nor the one that went out carries `Vary` -/
def NV (r : Raw) : Prop := r.hdr.vary = false ∧ r.sent.vary = false

theorem NV.writeHeader {r : Raw} (h : NV r) (c : Nat) : NV (r.writeHeader c) := by
  unfold Raw.writeHeader; split
  · exact h
  · exact ⟨h.1, h.1⟩

theorem nv_stable : Stable (fun s => s.grw = none ∧ NV s.raw) :=
  unwrapped_stable NV (fun _ _ h => h) (fun _ c h => h.writeHeader c) (fun _ _ h => h.writeHeader 200)
    (fun _ h => h.writeHeader 200)

/-- a request the `Skipper` excludes is served as if the middleware
    were not installed: the bytes go out as written (no `Content-Encoding`, no `Vary`), with the
    status the handler chose, every write reports its length, the pools are not touched. -/
theorem C15_skipped_untouched (cfg : GzipConfig) (pool : Pool) (x : ReqX)
    (hs : x.skip = true) (hp : x.presetCE = false) (hf : x.fail = none) :
    let r := (serveX cfg pool x).1
    r.raw.sent.ce = false ∧ r.raw.sent.vary = false ∧
    rawBytes r.raw.body = some (written x.rq.prog) ∧ r.raw.status = chosen x.rq.prog ∧
    r.rets = x.rq.prog.map expectedRet ∧ (serveX cfg pool x).2 = pool := by
  have hr : ran cfg x = runProg (St.init {} none) x.rq.prog := by simp only [ran, usesPool, hs, hp]; rfl
  have hn := runProg_unwrapped x.rq.prog (s := St.init {} none) rfl
  have hi := (runProg_inv x.rq.prog (Inv.init {} rfl none)).identity pool
  have hv := (nv_stable.runProg x.rq.prog (s := St.init {} none) ⟨rfl, rfl, rfl⟩).2.writeHeader 200
  simp only [serveX_eq, hs, hf, hr, afterChain, Bool.not_true, Bool.false_and, Bool.false_eq_true, if_false]
  rw [unwind, hn] at hi ⊢
  exact ⟨hi.sce, hv.2, by rw [hi.body, run_W]; rfl, by rw [hi.status, run_ch]; rfl, runProg_rets _ _, rfl⟩

/-- `GzipConfig.Level` outside -2…9: `gzip.NewWriterLevel` fails, the pool
    hands out that error, and a request that accepts gzip is answered 500 by the error handler —
    uncompressed, without `Content-Encoding` — the handler never runs, the pools stay as they were.
    (Requests that do not accept gzip are served as by `serve` whatever the level:
    `C15_pool_error_not_accepted`.) -/
theorem C15_pool_error (cfg : GzipConfig) (pool : Pool) (x : ReqX)
    (hs : x.skip = false) (ha : acceptsGzip x.rq.acceptEncoding = true)
    (hl : levelValid cfg.level = false) :
    let r := (serveX cfg pool x).1
    r.rets = [] ∧ r.raw.status = 500 ∧ r.raw.sent.ce = false ∧ r.raw.sent.vary = true ∧
    r.raw.body = [.raw (errBody 500)] ∧ (serveX cfg pool x).2 = pool := by
  simp only [serveX_eq, hs, ha, hl, Bool.not_false, Bool.and_self, if_true]
  decide +kernel

theorem C15_pool_error_not_accepted (cfg : GzipConfig) (pool : Pool) (x : ReqX)
    (hs : x.skip = false) (hp : x.presetCE = false) (hf : x.fail = none)
    (ha : acceptsGzip x.rq.acceptEncoding = false) :
    serveX cfg pool x = serve cfg.minLength.toNat pool x.rq := by
  unfold serveX serveSplitX serve
  simp only [hs, hp, hf, ha, afterChain, runProg, List.append_nil, Bool.false_eq_true, if_false]

/-- the handler has started its response (a `WriteHeader`, `Write`,
    `Flush` or `Stream` happened) and then returns an error: the error handler finds the response
    committed and adds nothing — the client gets exactly what it would have got had the handler
    returned nil, so everything proved about that response still holds. -/
theorem C15_error_after_start (cfg : GzipConfig) (pool : Pool) (x : ReqX) (code : Nat)
    (hst : x.rq.prog.any Op.starts = true) (hf : x.fail = some code) :
    serveX cfg pool x = serveX cfg pool { x with fail := none } := by
  have hc : (unwind pool (ran cfg x).1).1.committed = true := by
    rw [unwind_committed]; exact runProg_committed _ _ hst
  rw [serveX_eq, serveX_eq, hf, afterChain_of_committed _ (some code) hc]
  rfl

theorem runProg_headers_only (ops : List Op) (h : ops.any Op.starts = false) : ∀ s : St,
    ∃ cl, (runProg s ops).1 = { s with raw := { s.raw with hdr := { s.raw.hdr with cl := cl } } } := by
  induction ops with
  | nil => intro s; exact ⟨s.raw.hdr.cl, rfl⟩
  | cons op ops ih =>
    intro s
    simp only [List.any_cons, Bool.or_eq_false_iff] at h
    cases op with
    | setLen n =>
      obtain ⟨cl, hcl⟩ := ih h.2 (step s (.setLen n)).1
      exact ⟨cl, by simp only [runProg]; rw [hcl]; rfl⟩
    | _ => exact nomatch h.1

/-- the handler returns an error without having started a response
    (it may have set headers — even `Content-Encoding: gzip`, as a handler serving pre-compressed
    files does before it finds the file missing).  With gzip accepted the middleware has unwound
    by the time the error handler writes: the error body reaches the client as it is, with the
    error's status, and WITHOUT `Content-Encoding`. -/
theorem C15_error_before_start (cfg : GzipConfig) (pool : Pool) (x : ReqX) (code : Nat)
    (hs : x.skip = false) (ha : acceptsGzip x.rq.acceptEncoding = true)
    (hl : levelValid cfg.level = true)
    (hst : x.rq.prog.any Op.starts = false) (hf : x.fail = some code) :
    let r := (serveX cfg pool x).1.raw
    r.status = code ∧ r.sent.ce = false ∧ r.sent.vary = true ∧ r.body = [.raw (errBody code)] := by
  simp only [serveX_fst, ran, usesPool, hs, ha, hl, hf, Bool.not_false, Bool.not_true, Bool.and_self,
    Bool.and_false, Bool.false_eq_true, if_false, if_true]
  obtain ⟨cl, hcl⟩ := runProg_headers_only x.rq.prog hst
    (St.init { ce := x.presetCE, vary := true } (some cfg.minLength.toNat))
  rw [hcl]
  cases x.presetCE <;>
    simp [unwind, St.init, finalise, afterChain, errorHandler, respWriteHeader, writerWriteHeader, respWrite,
      Raw.writeHeader, Raw.write, gzClose, gzHeaderIfNeeded, emit, Gz.reset]

/-- the shape of the state while a program has made no `Write` call and no `Flush`: the wrapper has seen no
    body, nothing has reached the response writer -/
structure Bodyless (s : St) : Prop where
  grw : ∃ w, s.grw = some w ∧ w.wroteBody = false
  rc : s.raw.committed = false
  body : s.raw.body = []

theorem Bodyless.respWriteHeader {s : St} (h : Bodyless s) (c : Nat) : Bodyless (respWriteHeader s c) := by
  obtain ⟨w, hw, h1⟩ := h.grw
  unfold C15.respWriteHeader writerWriteHeader
  split
  · exact h
  · simp only [hw, grwWriteHeader]
    exact ⟨⟨_, rfl, h1⟩, h.rc, h.body⟩

theorem Bodyless.step {s : St} (h : Bodyless s) (op : Op)
    (ho : op.makesWrite = false ∧ op ≠ .flush) : Bodyless (step s op).1 := by
  cases op with
  | setLen n => exact ⟨h.grw, h.rc, h.body⟩
  | writeHeader c => exact h.respWriteHeader c
  | write b => exact nomatch ho.1
  | flush => exact absurd rfl ho.2
  | stream c cs fl =>
    have hcs : cs.filter (fun c => !c.isEmpty) = [] :=
      List.filter_eq_nil_iff.2 (List.any_eq_false.1 ho.1)
    simp only [C15.step, hcs, copyChunks]
    exact h.respWriteHeader c
  | streamWT c d =>
    have hd : d.isEmpty = true := by simpa [Op.makesWrite] using ho.1
    rw [step_streamWT, if_pos hd]
    exact h.respWriteHeader c

theorem Bodyless.runProg (ops : List Op) (ho : ∀ op ∈ ops, op.makesWrite = false ∧ op ≠ .flush) :
    ∀ {s : St}, Bodyless s → Bodyless (runProg s ops).1 := by
  induction ops with
  | nil => intro s h; exact h
  | cons op ops ih =>
    intro s h
    exact ih (fun o hm => ho o (by simp [hm])) (h.step op (ho op (by simp)))

/-- from such a state the deferred function drops a `Content-Encoding` the handler may have set and sends the delayed
    header, nothing else -/
theorem Bodyless.final {s : St} (h : Bodyless s) (pool : Pool) :
    ((unwind pool s).1.raw.writeHeader 200).sent.ce = false ∧
    ((unwind pool s).1.raw.writeHeader 200).body = [] := by
  obtain ⟨w, hw, h1⟩ := h.grw
  simp only [unwind, hw, finalise, h1, Bool.not_false, if_true, Gz.reset, gzClose, gzHeaderIfNeeded, emit,
    Bool.false_eq_true, if_false]
  cases hce : s.raw.hdr.ce <;> cases hwh : w.wroteHeader <;>
    simp [Raw.writeHeader, h.rc, h.body, hce]

/-- a handler that announces `Content-Encoding: gzip` itself and then
    writes no body (status only: 304, a redirect, HEAD …), with gzip accepted: the response goes
    out empty and WITHOUT `Content-Encoding` — the header is there exactly when the body is a gzip
    stream, whoever set it.  (Whatever the handler returns: see `C15_error_after_start`.) -/
theorem C15_preset_ce_bodyless (cfg : GzipConfig) (pool : Pool) (x : ReqX)
    (hs : x.skip = false) (ha : acceptsGzip x.rq.acceptEncoding = true)
    (hl : levelValid cfg.level = true) (hf : x.fail = none)
    (ho : ∀ op ∈ x.rq.prog, op.makesWrite = false ∧ op ≠ .flush) :
    let r := (serveX cfg pool x).1.raw
    r.sent.ce = false ∧ r.body = [] := by
  simp only [serveX_fst, ran, usesPool, hs, ha, hl, hf, afterChain, Bool.not_false, Bool.not_true,
    Bool.and_self, Bool.and_false, Bool.false_eq_true, if_false, if_true]
  exact (Bodyless.runProg x.rq.prog ho
    (s := St.init { ce := x.presetCE, vary := true } (some cfg.minLength.toNat))
    ⟨⟨_, rfl, rfl⟩, rfl, rfl⟩).final {}

theorem serveSplitX_eq (cfg : GzipConfig) (pool : Pool) (x : ReqX) (a b : List Op) :
    serveSplitX cfg pool x a b = serveSplitX cfg pool x (a ++ b) [] := by
  unfold serveSplitX
  simp only [runProg_append, runProg, List.append_nil]

theorem serveSplitX_take_drop (cfg : GzipConfig) (p : Pool) (x : ReqX) (n : Nat) :
    serveSplitX cfg p x (x.rq.prog.take n) (x.rq.prog.drop n) = serveX cfg p x := by
  rw [serveSplitX_eq, List.take_append_drop]; rfl

theorem serveX_pool_clean (cfg : GzipConfig) (pool pool' : Pool) (x : ReqX) :
    (serveX cfg pool x).1 = (serveX cfg pool' x).1 := by
  rw [serveX_fst, serveX_fst]

theorem servePooledX_result (cfg : GzipConfig) (pools : List Pool) (x : ReqX) :
    (servePooledX cfg pools x).1 = (serveX cfg {} x).1 := by
  unfold servePooledX
  split
  · exact serveX_pool_clean cfg _ {} x
  · rfl

/-- as `C15_nested_independent`, for the middleware of any
    constructor, with skipped requests, failing handlers and a rejected level in the mix: the
    outer response and the nested one are each what `serveX` gives for that request alone (the
    nested one exists only if the outer handler ran at all). -/
theorem C15_nestedX_independent (cfg : GzipConfig) (pools : List Pool) (rq : NReqX) :
    (serveNestedX cfg pools rq).1 =
      (serveX cfg {} rq.outer).1 ::
        (match rq.inner with
         | none => []
         | some i =>
           if rq.outer.skip || !acceptsGzip rq.outer.rq.acceptEncoding || levelValid cfg.level
           then [(serveX cfg {} i).1] else []) := by
  unfold serveNestedX
  simp only [serveSplitX_take_drop]
  have h1 : ∀ p, (serveX cfg p rq.outer).1 = (serveX cfg {} rq.outer).1 :=
    fun p => serveX_pool_clean cfg p {} rq.outer
  cases hi : rq.inner with
  | none => simp [h1]
  | some i =>
    simp only [h1, List.cons.injEq, true_and]
    split <;> simp [servePooledX_result]

theorem C15_nestedX_sequence (cfg : GzipConfig) (rs : List NReqX) : ∀ ps : List Pool,
    serveNestedAllX cfg ps rs = rs.flatMap (fun r => (serveNestedX cfg [] r).1) := by
  induction rs with
  | nil => intro _; rfl
  | cons r rs ih =>
    intro ps
    simp only [serveNestedAllX, List.flatMap_cons]
    rw [ih, C15_nestedX_independent cfg ps r, C15_nestedX_independent cfg [] r]

/-- a request the Decompress `Skipper` excludes reaches the handler with its
    body untouched, gzip-labelled or not, and leaves the reader pool alone. -/
theorem C15_decompress_skipped (pool : List Nat) (ce : List Char) (body : Body) :
    decompressPooled pool (effCE true ce) body =
      (⟨true, (match body with | .plain b => .bytes b | .gzip _ _ => .untouchedGzip), false⟩, pool) := by
  have h : ([] : List Char) ≠ "gzip".toList := by lit_chars; exact nofun
  simp only [effCE, if_true, decompressPooled, bne_iff_ne.2 h, decompress_of_ne 0 body h]
  cases body <;> rfl

/-- requests that are not skipped are served as the un-configured middleware serves them -/
theorem C15_decompress_not_skipped (r : DReqX) (h : r.skip = false)
    (hn : ∀ n, r.nested = some n → n.1 = false) :
    r.eff = ⟨r.ce, r.body, r.nested.map (fun n => (n.2.1, n.2.2))⟩ := by
  unfold DReqX.eff effCE
  simp only [h, Bool.false_eq_true, if_false]
  cases hnn : r.nested with
  | none => rfl
  | some n => simp [hn n hnn]

/-! ## non-vacuity -/

def reqX (ae : String) (prog : List Op) : ReqX := { rq := ⟨ae.toList, prog⟩ }

-- Gzip(): MinLength 0, everything is compressed
example : canon (serveX Ctor.gzip.config {} (reqX "gzip" [.write [1]])).1.raw.body = .gzip [1] true false := by decide +kernel
-- a negative MinLength behaves like 0
example : canon (serveX (Ctor.gzipWith ⟨-1, -5⟩).config {} (reqX "gzip" [.write [1]])).1.raw.body
    = .gzip [1] true false := by decide +kernel
-- skipped: no Vary, no compression
example : let r := (serveX (Ctor.gzipWith ⟨0, 0⟩).config {} { reqX "gzip" [.write [1,2]] with skip := true }).1.raw
    r.sent.vary = false ∧ r.sent.ce = false ∧ r.body = [.raw [1,2]] := by decide +kernel
-- level 42: 500, handler not run
example : let r := (serveX (Ctor.gzipWith ⟨42, 0⟩).config {} (reqX "gzip" [.write [1,2]])).1
    r.raw.status = 500 ∧ r.rets = [] := by decide +kernel
example : levelValid (Ctor.gzipWith ⟨0, 0⟩).config.level = true ∧ levelValid 42 = false ∧ levelValid (-3) = false := by decide +kernel
-- handler returns 404 without writing: the error body goes out uncompressed, status 404
example : let r := (serveX Ctor.gzip.config {} { reqX "gzip" [] with fail := some 404 }).1.raw
    r.status = 404 ∧ r.sent.ce = false ∧ r.body = [.raw (errBody 404)] := by decide +kernel
-- … also when the handler had announced Content-Encoding: gzip
example : let r := (serveX Ctor.gzip.config {} { reqX "gzip" [.setLen 3] with fail := some 404, presetCE := true }).1.raw
    r.status = 404 ∧ r.sent.ce = false ∧ r.body = [.raw (errBody 404)] := by decide +kernel
-- handler writes, then returns an error: nothing is added to the gzip stream
example : let r := (serveX Ctor.gzip.config {} { reqX "gzip" [.write [1,2]] with fail := some 500 }).1.raw
    r.status = 200 ∧ canon r.body = .gzip [1,2] true false := by decide +kernel
-- 304 with a Content-Encoding header set by the handler
example : let r := (serveX Ctor.gzip.config {} { reqX "gzip" [.writeHeader 304] with presetCE := true }).1.raw
    r.status = 304 ∧ r.sent.ce = false ∧ r.body = [] := by decide +kernel
-- Flush commits: a later WriteHeader is ignored by echo.Response, a returned error adds nothing
example : let r := (serveX Ctor.gzip.config {} { reqX "gzip" [.flush, .writeHeader 404] with fail := some 500 }).1.raw
    r.status = 200 ∧ canon r.body = .gzip [] true false := by decide +kernel
-- Decompress Skipper
example : (decompressSeqX [] [⟨true, "gzip".toList, .gzip [[1,2]] false, none⟩]) = [⟨true, .untouchedGzip, false⟩] := by decide +kernel
example : (decompressSeqX [] [⟨false, "gzip".toList, .gzip [[1,2]] false, none⟩]) = [⟨true, .bytes [1,2], false⟩] := by decide +kernel

end C15
