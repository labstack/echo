import EchoModel.C09
import EchoProofs.C08
import EchoProofs.Lit
/-!
# C09 — theorems: explicit source tags, and path < query < body

`maskF src P` is the specification device for "nothing else changes": it replaces by a
placeholder exactly the fields selected by `P` and descends exactly where the walk of
`bindData src` descends (exported, untagged plain structs and embedded non-nil pointers to
structs).  `maskF … after = maskF … before` therefore says: every field NOT selected by `P`, at
any depth the walk can reach or not, is exactly as before.  With `P` = "has a tag for `src`" this is
`C09_untagged_untouched`; with `P` = "has a tag for `src` AND some key equals it under case folding (an
uploaded file: exactly)" `C09_key_must_equal_tag`; with the three tags of `Bind`, for every outcome,
`C09_bind_untagged`.

`bindF_top` says what ONE source writes into a top-level scalar field, `bind_ok_steps` that a successful
`Bind` is the path walk, then the query walk (GET/DELETE/HEAD), then the form walk.  From these
EchoProofs.C09Nested derives, for every leaf the walk reaches at any depth, `C09_precedence` (final value of
a field = last of path → query → form body that carries its key) and `C09_400` (a malformed text in any
applied source never ends in success); `C09_map_precedence` is the same statement for map destinations.
The other theorems are about the status (415, 400, empty body), uploaded files, `UnmarshalParams`
destinations and the one freedom a key has against its tag, letter case (`foldEq_exact_off_letters`).
All are for every shape, every value, every request.
-/
namespace C09
open C08 (Elem SVal FVal structElem structElems zeroOf parseElem multiParse)

mutual
def maskF (src : Src) (P : FMeta → Bool) : Fields → List Val → List Val
  | .nil, vs => vs
  | .cons _ _ _, [] => []
  | .cons m s rest, v :: vs => maskS src P m s v :: maskF src P rest vs
def maskS (src : Src) (P : FMeta → Bool) (m : FMeta) : Shape → Val → Val
  | .struct fs, .struct vs =>
    if P m = true then .other
    else if m.exported = true ∧ m.tags.get src = [] then .struct (maskF src P fs vs) else .struct vs
  | .ptrStruct fs, .struct vs =>
    if P m = true then .other
    else if m.exported = true ∧ m.anonymous = true ∧ m.tags.get src = [] then .struct (maskF src P fs vs)
    else .struct vs
  | _, v => if P m = true then .other else v
end

theorem setField_struct (fs : Fields) (vs : List Val) (values) :
    (setField (.struct fs) (.struct vs) values).1 = .struct vs := by
  unfold setField; cases values <;> simp

theorem setField_ptrStruct (fs : Fields) (vs : List Val) (values) :
    (setField (.ptrStruct fs) (.struct vs) values).1 = .struct vs := by
  unfold setField; cases values <;> simp

/-! ## the equations of the walk -/

def sub : Shape → Fields
  | .struct fs => fs
  | .ptrStruct fs => fs
  | _ => .nil

/-- `bindData src` descends into this struct-typed field (given that its value is a struct, i.e.
    not a nil pointer): exported, no tag for `src`, and — for a pointer — embedded -/
def walks (src : Src) (m : FMeta) : Shape → Bool
  | .struct _ => m.exported && (m.tags.get src == [])
  | .ptrStruct _ => m.exported && m.anonymous && (m.tags.get src == [])
  | _ => false

def descends : Shape → Val → Bool
  | .struct _, .struct _ => true
  | .ptrStruct _, .struct _ => true
  | _, _ => false

theorem bindF_cons (src : Src) (data files : Data) (m : FMeta) (s : Shape) (rest : Fields) (v : Val)
    (vs : List Val) :
    bindF src data files (.cons m s rest) (v :: vs) =
      match (bindS src data files m s v).2 with
      | some e => ((bindS src data files m s v).1 :: vs, some e)
      | none => ((bindS src data files m s v).1 :: (bindF src data files rest vs).1,
          (bindF src data files rest vs).2) := by
  rw [bindF]
  cases bindS src data files m s v with
  | mk v' e => cases e <;> rfl

theorem bindS_walk (src : Src) (data files : Data) (m : FMeta) (s : Shape) (vs' : List Val)
    (hw : walks src m s = true) :
    bindS src data files m s (.struct vs')
      = (.struct (bindF src data files (sub s) vs').1, (bindF src data files (sub s) vs').2) := by
  cases s <;> simp [walks] at hw <;> simp [bindS, hw, sub]

theorem bindS_unexported (src : Src) (data files : Data) (m : FMeta) (s : Shape) (v : Val)
    (h : m.exported = false) : bindS src data files m s v = (v, none) := by
  rw [bindS.eq_def]
  split <;> rw [if_pos h]

/-- a field whose type is neither a struct nor a pointer to one -/
theorem bindS_plain (src : Src) (data files : Data) (m : FMeta) (s : Shape) (v : Val)
    (hs : ∀ v, descends s v = false) :
    bindS src data files m s v =
      if m.exported = false then (v, none)
      else if m.tags.get src = [] then (v, none) else taggedStep src data files m s v := by
  rw [bindS.eq_def]
  split
  · cases hs (.struct [])
  · cases hs (.struct [])
  · cases hs (.struct [])
  · rfl

/-- how one iteration of the field loop can end: the field is skipped; or it is exported and tagged, and then
    rejected (an embedded struct with a tag) or handed to `taggedStep`; or the walk descends into it -/
theorem bindS_cases (src : Src) (data files : Data) (m : FMeta) (s : Shape) (v : Val) :
    bindS src data files m s v = (v, none)
    ∨ (m.exported = true ∧ m.tags.get src ≠ [] ∧
        (bindS src data files m s v = (v, some .bad)
          ∨ bindS src data files m s v = taggedStep src data files m s v))
    ∨ ∃ vs, v = .struct vs ∧ walks src m s = true := by
  rw [bindS.eq_def]
  cases hexp : m.exported with
  | false => split <;> exact Or.inl rfl
  | true =>
    by_cases ht : m.tags.get src = []
    · split
      · exact Or.inr (Or.inr ⟨_, rfl, by simp [walks, hexp, ht]⟩)
      · cases ha : m.anonymous with
        | true => exact Or.inr (Or.inr ⟨_, rfl, by simp [walks, hexp, ht, ha]⟩)
        | false => simp [ht]
      · simp [ht]
      · simp [ht]
    · -- tagged: every branch of the definition is a rejection, a skip, or `taggedStep`
      cases m.anonymous <;> split <;> simp [ht]

/-- `maskS` descends exactly where the walk does -/
theorem maskS_eq (src : Src) (P : FMeta → Bool) (m : FMeta) (s : Shape) (v : Val) :
    maskS src P m s v =
      if P m = true then .other
      else match v with
        | .struct vs => if walks src m s = true then .struct (maskF src P (sub s) vs) else v
        | _ => v := by
  rw [maskS.eq_def]
  split
  · simp [walks, sub]
  · simp [walks, sub, and_assoc]
  · rename_i h1 h2
    split
    · rfl
    · split
      · rename_i vs
        cases s with
        | struct fs => exact (h1 fs vs rfl rfl).elim
        | ptrStruct fs => exact (h2 fs vs rfl rfl).elim
        | _ => rfl
      · rfl

/-- the request carries something for this tag: a value key equal to it under case folding
    (`lookup`), or an uploaded file under exactly this name -/
def carries (data files : Data) (t : List Char) : Bool :=
  (lookup data t).isSome || (fileLookup files t).isSome

theorem fileStep_eq_none (files : Data) (t : List Char) (sh : Shape) (v : Val) (hs : ∀ k, sh ≠ .file k) :
    fileStep files t sh v = none := by
  unfold fileStep
  split
  · rfl
  · split
    · exact absurd rfl (hs _)
    · exact absurd rfl (hs _)
    · rfl

theorem fileStep_some (files : Data) (t : List Char) (sh : Shape) (v : Val) (r : Val × Option Err)
    (h : fileStep files t sh v = some r) :
    r = (v, some .bad) ∨ (r.2 = none ∧ (fileLookup files t).isSome = true) := by
  unfold fileStep at h
  split at h
  · cases h
  · split at h
    · cases h; exact Or.inl rfl
    · split at h
      · rename_i hl
        split at h <;> cases h <;> exact Or.inr ⟨rfl, by simp [hl]⟩
      · cases h
    · cases h

theorem taggedStep_miss (src data files m sh v) (h : carries data files (m.tags.get src) = false) :
    (taggedStep src data files m sh v).1 = v := by
  simp only [carries, Bool.or_eq_false_iff] at h
  unfold taggedStep
  cases hf : fileStep files (m.tags.get src) sh v with
  | some r =>
    rcases fileStep_some files _ sh v r hf with rfl | ⟨_, h'⟩
    · rfl
    · rw [h.2] at h'; cases h'
  | none =>
    cases hl : lookup data (m.tags.get src) with
    | none => rfl
    | some values => rw [hl] at h; simp at h

/-- one step of the walk, given the statement for the fields below it -/
theorem maskS_bind_step (src : Src) (data files : Data) (P : FMeta → Bool)
    (hP : ∀ m : FMeta, m.tags.get src ≠ [] → carries data files (m.tags.get src) = true → P m = true)
    (m : FMeta) (s : Shape) (v : Val)
    (ih : ∀ vs, maskF src P (sub s) (bindF src data files (sub s) vs).1 = maskF src P (sub s) vs) :
    maskS src P m s (bindS src data files m s v).1 = maskS src P m s v := by
  rw [maskS_eq, maskS_eq]
  split
  · rfl
  · rename_i hp
    rcases bindS_cases src data files m s v with h | ⟨_, ht, h | h⟩ | ⟨vs, rfl, hw⟩
    · rw [h]
    · rw [h]
    · rw [h, taggedStep_miss _ _ _ _ _ _ (Bool.eq_false_iff.2 fun hc => hp (hP m ht hc))]
    · rw [bindS_walk src data files m s vs hw]
      simp only [hw, if_true, ih]

mutual
theorem maskF_bind (src : Src) (data files : Data) (P : FMeta → Bool)
    (hP : ∀ m : FMeta, m.tags.get src ≠ [] → carries data files (m.tags.get src) = true → P m = true) :
    ∀ (fs : Fields) (vs : List Val), maskF src P fs (bindF src data files fs vs).1 = maskF src P fs vs
  | .nil, vs => rfl
  | .cons m s rest, [] => rfl
  | .cons m s rest, v :: vs => by
    rw [bindF_cons]
    split <;> simp only [maskF, maskS_bind src data files P hP m s v, maskF_bind src data files P hP rest vs]
theorem maskS_bind (src : Src) (data files : Data) (P : FMeta → Bool)
    (hP : ∀ m : FMeta, m.tags.get src ≠ [] → carries data files (m.tags.get src) = true → P m = true) :
    ∀ (m : FMeta) (s : Shape) (v : Val), maskS src P m s (bindS src data files m s v).1 = maskS src P m s v
  | m, s, v => by
    cases s with
    | struct fs => exact maskS_bind_step src data files P hP m _ v (maskF_bind src data files P hP fs)
    | ptrStruct fs => exact maskS_bind_step src data files P hP m _ v (maskF_bind src data files P hP fs)
    | _ => exact maskS_bind_step src data files P hP m _ v fun _ => rfl
end

/-! ## keys -/

theorem lookup_some_key (data : Data) (t : List Char) (vals : List (List Char))
    (h : lookup data t = some vals) : ∃ kv ∈ data, foldEq kv.1 t = true ∧ kv.2 = vals := by
  unfold lookup at h
  split at h
  · rename_i kv hf
    have hp := List.find?_some hf
    cases h
    exact ⟨kv, List.mem_of_find?_eq_some hf, by simp [foldEq, beq_iff_eq.1 hp], rfl⟩
  · split at h
    · rename_i kv hf
      cases h
      exact ⟨kv, List.mem_of_find?_eq_some hf, (List.find?_some hf :), rfl⟩
    · cases h

def tagged (src : Src) (m : FMeta) : Bool := m.tags.get src != []

/-- the field has a tag for `src` and the request carries a value key equal to it under case
    folding, or an uploaded file whose name equals it EXACTLY -/
def keyed (src : Src) (data files : Data) (m : FMeta) : Bool :=
  m.tags.get src != [] &&
    (data.any (fun kv => foldEq kv.1 (m.tags.get src)) || files.any (fun kv => kv.1 == m.tags.get src))

/-- **C09_untagged_untouched** — for every shape, every value, every request data: after
    `bindData src`, everything except the fields that carry a tag for `src` is exactly as before
    (`maskF` hides the tagged fields and nothing else; it descends exactly where the walk does).
    No key the client can send reaches a field without the tag. -/
theorem C09_untagged_untouched (src : Src) (data files : Data) (fs : Fields) (vs : List Val) :
    maskF src (tagged src) fs (bindF src data files fs vs).1 = maskF src (tagged src) fs vs :=
  maskF_bind src data files (tagged src) (fun m h _ => by simp [tagged, h]) fs vs

/-- **C09_key_must_equal_tag** — the same with a finer mask: only fields whose tag equals, under
    case folding, some key of the data (or, exactly, the name of an uploaded file) can change. -/
theorem C09_key_must_equal_tag (src : Src) (data files : Data) (fs : Fields) (vs : List Val) :
    maskF src (keyed src data files) fs (bindF src data files fs vs).1 = maskF src (keyed src data files) fs vs := by
  refine maskF_bind src data files (keyed src data files) ?_ fs vs
  intro m htag hl
  simp only [carries, Bool.or_eq_true] at hl
  simp only [keyed, Bool.and_eq_true, bne_iff_ne, ne_eq, htag, not_false_eq_true, true_and, Bool.or_eq_true]
  cases hl with
  | inl hl =>
    obtain ⟨vals, h⟩ := Option.isSome_iff_exists.1 hl
    obtain ⟨kv, hm, hf, _⟩ := lookup_some_key data _ vals h
    exact Or.inl (List.any_eq_true.mpr ⟨kv, hm, hf⟩)
  | inr hl =>
    rw [fileLookup, Option.isSome_map, List.find?_isSome] at hl
    exact Or.inr (List.any_eq_true.2 hl)

/-! ## single fields: what a source writes -/

/-- **C09_untagged_ignores_request** — for a field without a tag for the source that is not a struct
    or an allocated pointer to one (every scalar, pointer, slice, map, interface, unmarshaler, file
    field, nil pointer to struct), the step does not depend on the request at all: whatever keys
    (the key of length 0 included), values and uploads are sent, it returns the field as it was,
    without error.  The lookup is never made with an empty name. -/
theorem C09_untagged_ignores_request (src : Src) (data files : Data) (m : FMeta) (s : Shape) (v : Val)
    (ht : m.tags.get src = []) (hd : descends s v = false) :
    bindS src data files m s v = (v, none) := by
  rcases bindS_cases src data files m s v with h | ⟨_, h, _⟩ | ⟨vs, rfl, hw⟩
  · exact h
  · exact absurd ht h
  · cases s with
    | struct fs => cases hd
    | ptrStruct fs => cases hd
    | _ => cases hw

def fieldAt : Fields → Nat → Option (FMeta × Shape)
  | .nil, _ => none
  | .cons m s _, 0 => some (m, s)
  | .cons _ _ rest, i + 1 => fieldAt rest i

theorem untagged_field_same (src : Src) (data files : Data) :
    ∀ (fs : Fields) (vs : List Val) (i : Nat) (m : FMeta) (s : Shape),
      fieldAt fs i = some (m, s) → m.tags.get src = [] → (∀ v, descends s v = false) →
      (bindF src data files fs vs).1[i]? = vs[i]?
  | .nil, _, _, _, _, h, _, _ => by cases h
  | .cons m0 s0 rest, [], i, m, s, _, _, _ => rfl
  | .cons m0 s0 rest, v :: vs, 0, m, s, h, ht, hd => by
    cases h
    rw [bindF_cons, C09_untagged_ignores_request src data files m0 s0 v ht (hd v)]
    rfl
  | .cons m0 s0 rest, v :: vs, i + 1, m, s, h, ht, hd => by
    have ih := untagged_field_same src data files rest vs i m s h ht hd
    rw [bindF_cons]
    split
    · rfl
    · exact ih

/-- what one source does to a scalar field with tag `tag` -/
def stepLeaf (e : Elem) (tag : List Char) (data : Data) (cur : Option Val) : Option Val :=
  if tag = [] then cur
  else
    match lookup data tag with
    | none => cur
    | some values =>
      match structElem noExt e (values.headD []) with
      | some y => some (.leaf (.one y))
      | none => cur

/-- the field's text in `data` is not convertible -/
def badIn (e : Elem) (tag : List Char) (data : Data) : Prop :=
  tag ≠ [] ∧ ∃ values, lookup data tag = some values ∧ structElem noExt e (values.headD []) = none

theorem bindF_length (src : Src) (data files : Data) :
    ∀ (fs : Fields) (vs : List Val), (bindF src data files fs vs).1.length = vs.length
  | .nil, vs => rfl
  | .cons _ _ _, [] => rfl
  | .cons m s rest, v :: vs => by
    rw [bindF_cons]
    split <;> simp [bindF_length src data files rest vs]

theorem bindF_get (src : Src) (data files : Data) :
    ∀ (fs : Fields) (vs : List Val) (i : Nat) (m : FMeta) (s : Shape) (v : Val),
      fieldAt fs i = some (m, s) → vs[i]? = some v → (bindF src data files fs vs).2 = none →
      (bindF src data files fs vs).1[i]? = some (bindS src data files m s v).1
      ∧ (bindS src data files m s v).2 = none
  | .nil, _, _, _, _, _, h, _, _ => by cases h
  | .cons m0 s0 rest, [], i, m, s, v, _, hv, _ => by cases hv
  | .cons m0 s0 rest, v0 :: vs, i, m, s, v, h, hv, hok => by
    rw [bindF_cons] at hok ⊢
    cases hb : (bindS src data files m0 s0 v0).2 with
    | some er => rw [hb] at hok; cases hok
    | none =>
      rw [hb] at hok
      cases i with
      | zero => cases h; cases hv; exact ⟨rfl, hb⟩
      | succ i => exact bindF_get src data files rest vs i m s v h hv hok

theorem bindS_scalar (src : Src) (data files : Data) (m : FMeta) (e : Elem) (v : Val)
    (hexp : m.exported = true) (hok : (bindS src data files m (.scalar e) v).2 = none) :
    some (bindS src data files m (.scalar e) v).1 = stepLeaf e (m.tags.get src) data (some v)
    ∧ ¬ badIn e (m.tags.get src) data := by
  rw [bindS_plain src data files m _ v fun _ => rfl] at hok ⊢
  simp only [hexp, Bool.true_eq_false, if_false] at hok ⊢
  unfold stepLeaf badIn
  by_cases ht : m.tags.get src = []
  · simp [ht]
  · simp only [ht, if_false] at hok ⊢
    unfold taggedStep at hok ⊢
    rw [fileStep_eq_none files _ (.scalar e) v fun _ => nofun] at hok ⊢
    cases hl : lookup data (m.tags.get src) with
    | none => simp
    | some values =>
      simp only [hl] at hok ⊢
      unfold setField at hok ⊢
      cases values with
      | nil => simp at hok
      | cons x0 xs =>
        simp only [List.headD_cons] at hok ⊢
        cases hs : structElem noExt e x0 with
        | none => simp [hs] at hok
        | some y => simp [hs]

/-- **what a source writes** — if the walk over a source succeeds, a top-level exported scalar
    field holds the conversion of the first value of the key matching its tag, or its previous
    value if the source has no such key (or the field no tag); and its text was convertible. -/
theorem bindF_top (src : Src) (data files : Data) :
    ∀ (fs : Fields) (vs : List Val) (i : Nat) (m : FMeta) (e : Elem),
      fieldAt fs i = some (m, .scalar e) → m.exported = true → i < vs.length →
      (bindF src data files fs vs).2 = none →
      (bindF src data files fs vs).1[i]? = stepLeaf e (m.tags.get src) data vs[i]?
      ∧ ¬ badIn e (m.tags.get src) data := by
  intro fs vs i m e hf hexp hi hok
  obtain ⟨h1, h2⟩ := bindF_get src data files fs vs i m _ _ hf (List.getElem?_eq_getElem hi) hok
  rw [h1, List.getElem?_eq_getElem hi]
  exact bindS_scalar src data files m e _ hexp h2

/-- **C09_empty_value_overrides** — a source that carries the key with an EMPTY first
    value (`?name=`, form `name=`) still writes the field: whatever it held — the value an earlier
    source bound, a default of the caller — it ends up as the zero value of its kind.  (With
    `C09_precedence`: path `name=joe`, query `name=` ⇒ `""`.) -/
theorem C09_empty_value_overrides (e : Elem) (tag : List Char) (data : Data) (cur : Option Val)
    (rest : List (List Char)) (ht : tag ≠ []) (hl : lookup data tag = some ([] :: rest)) :
    (∀ d, e = .num d → stepLeaf e tag data cur = some (.leaf (.one (.int 0))))
    ∧ (e = .bool → stepLeaf e tag data cur = some (.leaf (.one (.bool false))))
    ∧ (e = .str → stepLeaf e tag data cur = some (.leaf (.one (.opq [])))) := by
  refine ⟨?_, ?_, ?_⟩
  · rintro d rfl
    simp [stepLeaf, ht, hl, (C08.C08_empty_struct noExt d).1]
  · rintro rfl
    simp [stepLeaf, ht, hl, (C08.C08_empty_struct noExt .vbUnix).2.1]
  · rintro rfl
    simp [stepLeaf, ht, hl, (C08.C08_empty_struct noExt .vbUnix).2.2]

/-! ## Bind: path, then query (GET / DELETE / HEAD), then body -/

theorem lookup_nil (t : List Char) : lookup [] t = none := rfl

theorem stepLeaf_nil (e : Elem) (t : List Char) (cur : Option Val) : stepLeaf e t [] cur = cur := by
  simp [stepLeaf, lookup_nil]

theorem not_badIn_nil (e : Elem) (t : List Char) : ¬ badIn e t [] := by
  simp [badIn, lookup_nil]

theorem bindData_nil (src : Src) (d : Dest) (v : DVal) : bindData src [] [] d v = (v, none) := by
  simp [bindData]

theorem bindData_struct_eq (src : Src) (data files : Data) (fs : Fields) (vs : List Val) :
    bindData src data files (.struct fs) (.struct vs) =
      if data = [] ∧ files = [] then (.struct vs, none)
      else (.struct (bindF src data files fs vs).1, (bindF src data files fs vs).2) := by
  rw [bindData]

/-- the query data that `Bind` uses -/
def queryOf (r : BindReq) : Data := if queryMethods.contains r.method then r.query else []

/-- the form data that `Bind` uses (empty if the body step is not a form step) -/
def formOf (r : BindReq) : Data :=
  if r.hasBody = false then []
  else if mediaType r.ctype = mJSON then []
  else if mediaType r.ctype = mXML ∨ mediaType r.ctype = mTextXML then []
  else if mediaType r.ctype = mForm then
    (if r.queryOK = false then []
     else if bodyFormMethods.contains r.method then
      (match r.formBody with | none => [] | some b => mergeData b r.query)
     else r.query)
  else if mediaType r.ctype = mMultipart then
    (if r.queryOK = false then [] else (match r.multipart with | none => [] | some b => b))
  else []

/-- the body is handed to encoding/json or encoding/xml -/
def decoded (r : BindReq) : Prop :=
  r.hasBody = true ∧ (mediaType r.ctype = mJSON ∨ mediaType r.ctype = mXML ∨ mediaType r.ctype = mTextXML)

theorem statusOf_ok (e : Option Err) : statusOf e = .ok ↔ e = none := by
  cases e with
  | none => simp [statusOf]
  | some e => cases e <;> simp [statusOf]

theorem bind_eq (d : Dest) (v : DVal) (r : BindReq) :
    bind d v r =
      match bindData .param r.params [] d v with
      | (w, some e) => (w, statusOf (some e))
      | (v1, none) =>
        match bindData .query (queryOf r) [] d v1 with
        | (w, some e) => (w, statusOf (some e))
        | (v2, none) => bindBody d v2 r := by
  unfold bind queryOf
  cases bindData .param r.params [] d v with
  | mk v1 e1 =>
    cases e1 with
    | some e => rfl
    | none =>
      simp only
      split
      · cases bindData .query r.query [] d v1 with
        | mk v2 e2 => cases e2 <;> rfl
      · rw [bindData_nil]

theorem bind_cases (d : Dest) (v : DVal) (r : BindReq) :
    (∃ w e, bindData .param r.params [] d v = (w, some e) ∧ bind d v r = (w, statusOf (some e)))
    ∨ (∃ v1 w e, bindData .param r.params [] d v = (v1, none)
        ∧ bindData .query (queryOf r) [] d v1 = (w, some e) ∧ bind d v r = (w, statusOf (some e)))
    ∨ (∃ v1 v2, bindData .param r.params [] d v = (v1, none)
        ∧ bindData .query (queryOf r) [] d v1 = (v2, none) ∧ bind d v r = bindBody d v2 r) := by
  rw [bind_eq]
  cases bindData .param r.params [] d v with
  | mk v1 e1 =>
    cases e1 with
    | some e => exact Or.inl ⟨v1, e, rfl, rfl⟩
    | none =>
      simp only
      cases h2 : bindData .query (queryOf r) [] d v1 with
      | mk v2 e2 =>
        cases e2 with
        | some e => exact Or.inr (Or.inl ⟨v1, v2, e, rfl, h2, rfl⟩)
        | none => exact Or.inr (Or.inr ⟨v1, v2, rfl, h2, rfl⟩)

theorem bind_congr (d : Dest) (v : DVal) (r r' : BindReq) (hp : r'.params = r.params)
    (hq : queryOf r' = queryOf r) (hb : ∀ w, bindBody d w r' = bindBody d w r) : bind d v r' = bind d v r := by
  simp only [bind_eq, hp, hq, hb]

/-- the body step, when the body is not json/xml: either the form walk over `formOf r`, or a
    refusal (400 / 415) that leaves the destination alone and has no form data -/
theorem bindBody_cases (d : Dest) (v : DVal) (r : BindReq) (hnd : ¬ decoded r) :
    (∃ files, bindBody d v r = ((bindData .form (formOf r) files d v).1,
        statusOf (bindData .form (formOf r) files d v).2))
    ∨ ((bindBody d v r = (v, .bad) ∨ bindBody d v r = (v, .unsupported)) ∧ formOf r = []) := by
  unfold bindBody formOf
  cases hb : r.hasBody with
  | false => exact Or.inl ⟨[], by simp [bindData_nil, statusOf]⟩
  | true =>
    have h1 : ¬ mediaType r.ctype = mJSON := fun h => hnd ⟨hb, Or.inl h⟩
    have h2 : ¬ (mediaType r.ctype = mXML ∨ mediaType r.ctype = mTextXML) := fun h => hnd ⟨hb, Or.inr h⟩
    simp only [Bool.true_eq_false, h1, h2, if_false]
    by_cases h3 : mediaType r.ctype = mForm
    · simp only [h3, if_true]
      cases r.queryOK with
      | false => exact Or.inr ⟨Or.inl rfl, rfl⟩
      | true =>
        simp only [Bool.true_eq_false, if_false]
        split
        · cases r.formBody with
          | none => exact Or.inr ⟨Or.inl rfl, rfl⟩
          | some body => exact Or.inl ⟨[], rfl⟩
        · exact Or.inl ⟨[], rfl⟩
    · simp only [h3, if_false]
      by_cases h5 : mediaType r.ctype = mMultipart
      · simp only [h5, if_true]
        cases r.queryOK with
        | false => exact Or.inr ⟨Or.inl rfl, rfl⟩
        | true =>
          cases r.multipart with
          | none => exact Or.inr ⟨Or.inl rfl, rfl⟩
          | some body => exact Or.inl ⟨r.files, rfl⟩
      · rw [if_neg h5, if_neg h5]
        exact Or.inr ⟨Or.inr rfl, rfl⟩

theorem statusOf_some_ne_ok (e : Err) : statusOf (some e) ≠ .ok := by
  cases e <;> nofun

/-- **a successful `Bind`** (body not handed to encoding/json|xml) is exactly: the path walk, then
    the query walk over `queryOf r` (empty unless GET/DELETE/HEAD), then the form walk over
    `formOf r` — each of them successful — for every destination -/
theorem bind_ok_steps (d : Dest) (v : DVal) (r : BindReq) (hnd : ¬ decoded r) (v' : DVal)
    (h : bind d v r = (v', .ok)) :
    ∃ v1 v2 files, bindData .param r.params [] d v = (v1, none)
      ∧ bindData .query (queryOf r) [] d v1 = (v2, none)
      ∧ bindData .form (formOf r) files d v2 = (v', none) := by
  rcases bind_cases d v r with ⟨w, e, _, hb⟩ | ⟨_, w, e, _, _, hb⟩ | ⟨v1, v2, h1, h2, hb⟩
  · exact absurd (Prod.mk.inj (hb.symm.trans h)).2 (statusOf_some_ne_ok e)
  · exact absurd (Prod.mk.inj (hb.symm.trans h)).2 (statusOf_some_ne_ok e)
  · rw [hb] at h
    rcases bindBody_cases d v2 r hnd with ⟨files, hf⟩ | ⟨hf | hf, _⟩
    · obtain ⟨hv, hs⟩ := Prod.mk.inj (hf.symm.trans h)
      exact ⟨v1, v2, files, h1, h2, Prod.ext hv ((statusOf_ok _).1 hs)⟩
    · cases hf.symm.trans h
    · cases hf.symm.trans h

theorem bind_not_ok_of_body (d : Dest) (v : DVal) (r : BindReq) (h : ∀ w, (bindBody d w r).2 ≠ .ok) :
    (bind d v r).2 ≠ .ok := by
  rcases bind_cases d v r with ⟨w, e, _, hb⟩ | ⟨_, w, e, _, _, hb⟩ | ⟨_, v2, _, _, hb⟩ <;> rw [hb]
  · exact statusOf_some_ne_ok e
  · exact statusOf_some_ne_ok e
  · exact h v2

/-- **C09_415** — a non-empty body whose media type is none of the five supported ones is
    rejected with 415 and the body step leaves the destination as it was; `Bind` as a whole
    then never succeeds -/
theorem C09_415 (d : Dest) (v : DVal) (r : BindReq) (hb : r.hasBody = true)
    (hm : mediaType r.ctype ≠ mJSON ∧ mediaType r.ctype ≠ mXML ∧ mediaType r.ctype ≠ mTextXML
      ∧ mediaType r.ctype ≠ mForm ∧ mediaType r.ctype ≠ mMultipart) :
    bindBody d v r = (v, .unsupported) ∧ (bind d v r).2 ≠ .ok := by
  have hbody : ∀ w, bindBody d w r = (w, .unsupported) := by
    intro w
    unfold bindBody
    simp [hb, hm.1, hm.2.1, hm.2.2.1, hm.2.2.2.1, hm.2.2.2.2]
  exact ⟨hbody v, bind_not_ok_of_body d v r fun w => by rw [hbody]; nofun⟩

/-- … and answers exactly 415, with the destination as the path and query steps left it, whenever these
    two steps were fine -/
theorem C09_415_exact (d : Dest) (v : DVal) (r : BindReq) (hb : r.hasBody = true)
    (hm : mediaType r.ctype ≠ mJSON ∧ mediaType r.ctype ≠ mXML ∧ mediaType r.ctype ≠ mTextXML
      ∧ mediaType r.ctype ≠ mForm ∧ mediaType r.ctype ≠ mMultipart)
    (h1 : (bindData .param r.params [] d v).2 = none)
    (h2 : (bindData .query (queryOf r) [] d (bindData .param r.params [] d v).1).2 = none) :
    bind d v r = ((bindData .query (queryOf r) [] d (bindData .param r.params [] d v).1).1, .unsupported) := by
  rcases bind_cases d v r with ⟨w, e, h, _⟩ | ⟨v1, w, e, h, h', _⟩ | ⟨v1, v2, h, h', hbd⟩
  · rw [h] at h1; cases h1
  · rw [h] at h2; simp only at h2; rw [h'] at h2; cases h2
  · rw [hbd, h]
    simp only
    rw [h', (C09_415 d v2 r hb hm).1]

/-- an empty body (ContentLength = 0) is never looked at, whatever the Content-Type says -/
theorem C09_empty_body (d : Dest) (v : DVal) (r : BindReq) (hb : r.hasBody = false) :
    bindBody d v r = (v, .ok) := by
  simp [bindBody, hb]

/-- query parameters are not bound for methods other than GET, DELETE, HEAD: the result does not
    depend on the query string at all unless the body is a form (ParseForm merges the URL query) -/
theorem C09_query_only_gdh (d : Dest) (v : DVal) (r : BindReq) (q' : Data)
    (hq : queryMethods.contains r.method = false) (hnf : mediaType r.ctype ≠ mForm) :
    bind d v { r with query := q' } = bind d v r := by
  refine bind_congr d v r _ rfl (by simp only [queryOf, hq]; rfl) fun w => ?_
  unfold bindBody
  simp [hnf]

theorem mediaTypes_ne : mXML ≠ mJSON ∧ mTextXML ≠ mJSON ∧ mForm ≠ mJSON ∧ mForm ≠ mXML ∧ mForm ≠ mTextXML
    ∧ mMultipart ≠ mJSON ∧ mMultipart ≠ mXML ∧ mMultipart ≠ mTextXML ∧ mMultipart ≠ mForm := by
  unfold mJSON mXML mTextXML mForm mMultipart
  lit_chars
  decide

theorem mediaType_mForm : mediaType mForm = mForm := by
  unfold mForm
  lit_chars
  decide +kernel

theorem mediaType_mMultipart : mediaType mMultipart = mMultipart := by
  unfold mMultipart
  lit_chars
  decide +kernel

/-- **C09_malformed_query_400** — a form or multipart body step on a request whose URL query
    string does not parse is rejected with 400 and binds nothing (ParseForm / ParseMultipartForm
    report the error; contrast: the query step itself goes through `URL.Query()`, which drops the
    malformed pairs in silence) -/
theorem C09_malformed_query_400 (d : Dest) (v : DVal) (r : BindReq) (hb : r.hasBody = true)
    (hm : mediaType r.ctype = mForm ∨ mediaType r.ctype = mMultipart) (hq : r.queryOK = false) :
    bindBody d v r = (v, .bad) := by
  unfold bindBody
  rcases hm with hm | hm <;> simp [hb, hm, hq, mediaTypes_ne]

/-- **C09_unknown_length_like_known** — a body of unknown length (`ContentLength = -1`) is
    bound exactly like the same body with any non-zero declared length: same destination, same
    status, for every destination, method, Content-Type and content.  (`BindReq` carries nothing of
    the declared length but `hasBody`; the parsed body contents are the same bytes either way.) -/
theorem C09_unknown_length_like_known (d : Dest) (v : DVal) (r : BindReq) (n : Nat) (hn : n ≠ 0) :
    bind d v { r with hasBody := (BodyLen.known n).hasBody }
      = bind d v { r with hasBody := BodyLen.unknown.hasBody }
    ∧ bindBody d v { r with hasBody := (BodyLen.known n).hasBody }
      = bindBody d v { r with hasBody := BodyLen.unknown.hasBody } := by
  have : (BodyLen.known n).hasBody = BodyLen.unknown.hasBody := by
    cases n with
    | zero => exact absurd rfl hn
    | succ k => rfl
  rw [this]
  exact ⟨rfl, rfl⟩

/-! ## the whole of Bind never touches a field that carries none of the three tags -/

def tagged3 (m : FMeta) : Bool := tagged .param m || tagged .query m || tagged .form m

theorem tagged3_of_tag {src : Src} (hs : src ≠ .header) {m : FMeta} (ht : m.tags.get src ≠ []) :
    tagged3 m = true := by
  cases src
  · simp [tagged3, tagged, ht]
  · simp [tagged3, tagged, ht]
  · simp [tagged3, tagged, ht]
  · exact absurd rfl hs

theorem walks_congr {s1 s2 : Src} {m : FMeta} (h : m.tags.get s1 = m.tags.get s2) (s : Shape) :
    walks s1 m s = walks s2 m s := by
  cases s <;> simp only [walks, h]

theorem maskS_src_step (s1 s2 : Src) (P : FMeta → Bool)
    (hP : ∀ m, ¬ P m = true → m.tags.get s1 = [] ∧ m.tags.get s2 = []) (m : FMeta) (s : Shape) (v : Val)
    (ih : ∀ vs, maskF s1 P (sub s) vs = maskF s2 P (sub s) vs) : maskS s1 P m s v = maskS s2 P m s v := by
  rw [maskS_eq, maskS_eq]
  split
  · rfl
  · rename_i hp
    rw [walks_congr ((hP m hp).1.trans (hP m hp).2.symm)]
    cases v with
    | struct vs => simp only [ih]
    | _ => rfl

mutual
theorem maskF_src (s1 s2 : Src) (P : FMeta → Bool)
    (hP : ∀ m, ¬ P m = true → m.tags.get s1 = [] ∧ m.tags.get s2 = []) :
    ∀ (fs : Fields) (vs : List Val), maskF s1 P fs vs = maskF s2 P fs vs
  | .nil, vs => rfl
  | .cons m s rest, [] => rfl
  | .cons m s rest, v :: vs => by
    simp only [maskF, maskS_src s1 s2 P hP m s v, maskF_src s1 s2 P hP rest vs]
theorem maskS_src (s1 s2 : Src) (P : FMeta → Bool)
    (hP : ∀ m, ¬ P m = true → m.tags.get s1 = [] ∧ m.tags.get s2 = []) :
    ∀ (m : FMeta) (s : Shape) (v : Val), maskS s1 P m s v = maskS s2 P m s v
  | m, s, v => by
    cases s with
    | struct fs => exact maskS_src_step s1 s2 P hP m _ v (maskF_src s1 s2 P hP fs)
    | ptrStruct fs => exact maskS_src_step s1 s2 P hP m _ v (maskF_src s1 s2 P hP fs)
    | _ => exact maskS_src_step s1 s2 P hP m _ v fun _ => rfl
end

theorem bindData_mask3 (src : Src) (hs : src ≠ .header) (data files : Data)
    (fs : Fields) (vs : List Val) (w : DVal) (e : Option Err)
    (h : bindData src data files (.struct fs) (.struct vs) = (w, e)) :
    ∃ vs', w = .struct vs' ∧ maskF .param tagged3 fs vs' = maskF .param tagged3 fs vs := by
  rw [bindData_struct_eq] at h
  split at h
  · cases h; exact ⟨vs, rfl, rfl⟩
  · cases h
    refine ⟨_, rfl, ?_⟩
    have hP : ∀ m, ¬ tagged3 m = true → m.tags.get src = [] ∧ m.tags.get .param = [] := fun m hp =>
      ⟨Decidable.by_contra fun ht => hp (tagged3_of_tag hs ht),
        Decidable.by_contra fun ht => hp (tagged3_of_tag (src := .param) nofun ht)⟩
    rw [← maskF_src src .param tagged3 hP, ← maskF_src src .param tagged3 hP]
    exact maskF_bind src data files tagged3 (fun m ht _ => tagged3_of_tag hs ht) fs vs

/-- **`BindBody` on its own** — whatever the method, Content-Type, body and outcome: unless the
    body is handed to encoding/json|xml, the body step changes nothing but `form`-tagged fields
    (seen through the three-source mask, which hides them) -/
theorem C09_body_untagged (fs : Fields) (ws : List Val) (r : BindReq) (hnd : ¬ decoded r) :
    ∃ vs', (bindBody (.struct fs) (.struct ws) r).1 = .struct vs'
      ∧ maskF .param tagged3 fs vs' = maskF .param tagged3 fs ws := by
  rcases bindBody_cases (.struct fs) (.struct ws) r hnd with ⟨files, hb⟩ | ⟨hb | hb, _⟩ <;> rw [hb]
  · exact bindData_mask3 .form nofun _ files fs ws _ _ rfl
  · exact ⟨ws, rfl, rfl⟩
  · exact ⟨ws, rfl, rfl⟩

/-- **no mass assignment through `Bind`** — whatever the method, the keys, the values, the
    Content-Type and the outcome (success, 400, 415): unless the body is handed to
    encoding/json|xml, everything in the destination except the fields tagged `param`, `query`
    or `form` is exactly as before. -/
theorem C09_bind_untagged (fs : Fields) (vs : List Val) (r : BindReq) (hnd : ¬ decoded r) :
    ∃ vs', (bind (.struct fs) (.struct vs) r).1 = .struct vs'
      ∧ maskF .param tagged3 fs vs' = maskF .param tagged3 fs vs := by
  rcases bind_cases (.struct fs) (.struct vs) r with ⟨w, e, h, hb⟩ | ⟨v1, w, e, h, h', hb⟩ | ⟨v1, v2, h, h', hb⟩
    <;> rw [hb]
  · exact bindData_mask3 .param nofun _ _ fs vs _ _ h
  · obtain ⟨vs1, rfl, m1⟩ := bindData_mask3 .param nofun _ _ fs vs _ _ h
    obtain ⟨vs2, rfl, m2⟩ := bindData_mask3 .query nofun _ _ fs vs1 _ _ h'
    exact ⟨vs2, rfl, m2.trans m1⟩
  · obtain ⟨vs1, rfl, m1⟩ := bindData_mask3 .param nofun _ _ fs vs _ _ h
    obtain ⟨vs2, rfl, m2⟩ := bindData_mask3 .query nofun _ _ fs vs1 _ _ h'
    obtain ⟨vs3, a3, m3⟩ := C09_body_untagged fs vs2 r hnd
    exact ⟨vs3, a3, m3.trans (m2.trans m1)⟩

/-! ## no panic -/

theorem setField_no_panic (sh : Shape) (v : Val) (values : List (List Char)) (hne : values ≠ []) :
    (setField sh v values).2 ≠ some .panic := by
  unfold setField
  cases values with
  | nil => exact absurd rfl hne
  | cons x0 xs =>
    cases sh with
    | file k => cases k <;> simp
    | _ => simp only <;> (try split) <;> simp

theorem taggedStep_no_panic (src : Src) (data files : Data) (hne : ∀ kv ∈ data, kv.2 ≠ []) (m : FMeta)
    (sh : Shape) (v : Val) : (taggedStep src data files m sh v).2 ≠ some .panic := by
  unfold taggedStep
  cases hf : fileStep files (m.tags.get src) sh v with
  | some r =>
    rcases fileStep_some files _ sh v r hf with rfl | ⟨h', _⟩
    · nofun
    · rw [h']; nofun
  | none =>
    cases hl : lookup data (m.tags.get src) with
    | none => simp
    | some values =>
      obtain ⟨kv, hm, _, hv⟩ := lookup_some_key data _ values hl
      simp only
      split
      · split <;> simp
      · exact setField_no_panic sh v values (hv ▸ hne kv hm)

theorem bindS_no_panic_step (src : Src) (data files : Data) (hne : ∀ kv ∈ data, kv.2 ≠ []) (m : FMeta)
    (s : Shape) (v : Val) (ih : ∀ vs, (bindF src data files (sub s) vs).2 ≠ some .panic) :
    (bindS src data files m s v).2 ≠ some .panic := by
  rcases bindS_cases src data files m s v with h | ⟨_, _, h | h⟩ | ⟨vs, rfl, hw⟩
  · rw [h]; nofun
  · rw [h]; nofun
  · rw [h]; exact taggedStep_no_panic src data files hne m s v
  · rw [bindS_walk src data files m s vs hw]; exact ih vs

mutual
theorem bindF_no_panic (src : Src) (data files : Data) (hne : ∀ kv ∈ data, kv.2 ≠ []) :
    ∀ (fs : Fields) (vs : List Val), (bindF src data files fs vs).2 ≠ some .panic
  | .nil, vs => nofun
  | .cons m s rest, [] => nofun
  | .cons m s rest, v :: vs => by
    rw [bindF_cons]
    split
    · rename_i e he
      exact he ▸ bindS_no_panic src data files hne m s v
    · exact bindF_no_panic src data files hne rest vs
theorem bindS_no_panic (src : Src) (data files : Data) (hne : ∀ kv ∈ data, kv.2 ≠ []) :
    ∀ (m : FMeta) (s : Shape) (v : Val), (bindS src data files m s v).2 ≠ some .panic
  | m, s, v => by
    cases s with
    | struct fs => exact bindS_no_panic_step src data files hne m _ v (bindF_no_panic src data files hne fs)
    | ptrStruct fs => exact bindS_no_panic_step src data files hne m _ v (bindF_no_panic src data files hne fs)
    | _ => exact bindS_no_panic_step src data files hne m _ v fun _ => nofun
end

/-- **no panic** — with data as net/http produces them (every key has at least one value) the
    struct walk never reaches its only partial operation (`inputValue[0]`); uploaded files and
    multi-value destinations never touch it at all -/
theorem C09_no_panic (src : Src) (data files : Data) (hne : ∀ kv ∈ data, kv.2 ≠ []) (fs : Fields)
    (vs : List Val) : (bindData src data files (.struct fs) (.struct vs)).2 ≠ some .panic := by
  rw [bindData_struct_eq]
  split
  · nofun
  · exact bindF_no_panic src data files hne fs vs

/-! ## uploaded files and multi-value destinations -/

theorem bindS_tagged_plain (src : Src) (data files : Data) (m : FMeta) (s : Shape) (v : Val)
    (hs : ∀ v, descends s v = false) (hexp : m.exported = true) (ht : m.tags.get src ≠ []) :
    bindS src data files m s v = taggedStep src data files m s v := by
  rw [bindS_plain src data files m s v hs, if_neg (by simp [hexp]), if_neg ht]

/-- **C09_file_set** — an exported file field (`*FileHeader`, `[]*FileHeader`, `[]FileHeader`)
    whose tag for the source equals EXACTLY the name under which files were uploaded is set to
    these files (the pointer form to the first one), without error, and the value keys are not
    consulted for it at all -/
theorem C09_file_set (src : Src) (data files : Data) (m : FMeta) (k : FileKind) (v : Val)
    (hexp : m.exported = true) (ht : m.tags.get src ≠ []) (hk : k ≠ .plain) (f0 : List Char)
    (fs : List (List Char)) (hl : fileLookup files (m.tags.get src) = some (f0 :: fs)) :
    bindS src data files m (.file k) v =
      ((match k with
        | .ptr => .leaf (.one (.opq f0))
        | _ => .leaf (.many ((f0 :: fs).map .opq))), none) := by
  rw [bindS_tagged_plain src data files m _ v (fun _ => rfl) hexp ht]
  have hne : files ≠ [] := by rintro rfl; cases hl
  unfold taggedStep fileStep
  cases k with
  | plain => exact absurd rfl hk
  | _ => simp [hne, hl]

/-- a plain `multipart.FileHeader` field with a tag is rejected as soon as the request carries files -/
theorem C09_file_plain_rejected (src : Src) (data files : Data) (m : FMeta) (v : Val)
    (hexp : m.exported = true) (ht : m.tags.get src ≠ []) (hf : files ≠ []) :
    bindS src data files m (.file .plain) v = (v, some .bad) := by
  rw [bindS_tagged_plain src data files m _ v (fun _ => rfl) hexp ht]
  unfold taggedStep fileStep
  simp [hf]

/-- **files reach the destination only through a multipart body**: unless the body step is the
    multipart step, the result of `Bind` does not depend on the uploaded files at all -/
theorem C09_files_only_multipart (d : Dest) (v : DVal) (r : BindReq) (fs' : Data)
    (h : r.hasBody = false ∨ mediaType r.ctype ≠ mMultipart) :
    bind d v { r with files := fs' } = bind d v r := by
  refine bind_congr d v r _ rfl rfl fun w => ?_
  unfold bindBody
  rcases h with h | h <;> simp [h]

/-- **C09_multi_all_values** — a destination implementing `UnmarshalParams([]string)` receives
    ALL values of the key matching its tag, in order (not only the first) -/
theorem C09_multi_all_values (src : Src) (data files : Data) (m : FMeta) (v : Val)
    (hexp : m.exported = true) (ht : m.tags.get src ≠ []) (values : List (List Char))
    (hl : lookup data (m.tags.get src) = some values) :
    ((∀ s ∈ values, s.head? ≠ some '!') →
        bindS src data files m .multi v = (.leaf (.many (values.map .opq)), none))
    ∧ ((∃ s ∈ values, s.head? = some '!') → bindS src data files m .multi v = (v, some .bad)) := by
  rw [bindS_tagged_plain src data files m _ v (fun _ => rfl) hexp ht]
  unfold taggedStep
  simp only [fileStep_eq_none files _ .multi v fun _ => nofun, hl, multiParse]
  constructor
  · intro hall
    rw [if_neg (by simpa using hall)]
  · intro hex
    rw [if_pos (by simpa using hex)]

/-! ## map destinations: later sources override only the keys they carry -/

def mapGet (entries : Data) (key : List Char) : Option (List (List Char)) :=
  (entries.find? (fun kv => kv.1 == key)).map (·.2)

theorem mapGet_cons (k' : List Char) (v' : List (List Char)) (rest : Data) (key : List Char) :
    mapGet ((k', v') :: rest) key = if key = k' then some v' else mapGet rest key := by
  by_cases h : key = k'
  · simp [mapGet, h]
  · simp [mapGet, h, Ne.symm h]

theorem mapGet_mapInsert (k : List Char) (v : List (List Char)) :
    ∀ (entries : Data) (key : List Char),
      mapGet (mapInsert k v entries) key = if key = k then some v else mapGet entries key
  | [], key => by rw [mapInsert, mapGet_cons]
  | (k', v') :: rest, key => by
    rw [mapInsert]
    split
    · rename_i h
      rw [mapGet_cons, mapGet_cons, ← beq_iff_eq.1 h]
      split <;> rfl
    · split
      · rw [mapGet_cons]
      · rename_i h _
        rw [mapGet_cons, mapGet_cons, mapGet_mapInsert k v rest key]
        split
        · rename_i hk
          rw [if_neg (fun e => h (beq_iff_eq.2 (e.symm.trans hk)))]
        · rfl

/-- what a map of element kind `kind` stores for a value list -/
def mapNorm (kind : MapKind) (vs : List (List Char)) : List (List Char) :=
  match kind with
  | .strs => vs
  | _ => vs.take 1

/-- the value one source contributes for `key` (none = the source does not carry the key) -/
def srcGet (kind : MapKind) : Data → List Char → Option (List (List Char))
  | [], _ => none
  | (k, vs) :: rest, key =>
    match srcGet kind rest key with
    | some x => some x
    | none => if key = k then some (mapNorm kind vs) else none

/-- one source laid over what was there -/
def overlay (kind : MapKind) (data : Data) (key : List Char) (base : Option (List (List Char))) :
    Option (List (List Char)) :=
  match srcGet kind data key with
  | some x => some x
  | none => base

theorem overlay_nil (kind : MapKind) (key : List Char) (base) : overlay kind [] key base = base := rfl

theorem mapBind_get (kind : MapKind) :
    ∀ (data : Data) (acc : Data), (∀ kv ∈ data, kv.2 ≠ []) →
      (mapBind kind data acc).2 = none
      ∧ ∀ key, mapGet (mapBind kind data acc).1 key = overlay kind data key (mapGet acc key)
  | [], acc, _ => ⟨rfl, fun _ => rfl⟩
  | (k, vs) :: rest, acc, hne => by
    have hvs : vs ≠ [] := hne (k, vs) (by simp)
    have hrest : ∀ kv ∈ rest, kv.2 ≠ [] := fun kv h => hne kv (List.mem_cons_of_mem _ h)
    cases vs with
    | nil => exact absurd rfl hvs
    | cons v0 vr =>
      have key_step : mapBind kind ((k, v0 :: vr) :: rest) acc
          = mapBind kind rest (mapInsert k (mapNorm kind (v0 :: vr)) acc) := by
        cases kind <;> rfl
      rw [key_step]
      obtain ⟨i1, i2⟩ := mapBind_get kind rest (mapInsert k (mapNorm kind (v0 :: vr)) acc) hrest
      refine ⟨i1, fun key => ?_⟩
      rw [i2 key, mapGet_mapInsert]
      unfold overlay
      simp only [srcGet]
      cases srcGet kind rest key with
      | some x => rfl
      | none => by_cases hkk : key = k <;> simp [hkk]

theorem bindData_map (src : Src) (data files : Data) (kind : MapKind) (hk : kind ≠ .unsupported)
    (isNil : Bool) (entries : Data) (hne : ∀ kv ∈ data, kv.2 ≠ []) :
    ∃ isNil' entries', bindData src data files (.map kind) (.map isNil entries) = (.map isNil' entries', none)
      ∧ ∀ key, mapGet entries' key = overlay kind data key (mapGet entries key) := by
  have heq : bindData src data files (.map kind) (.map isNil entries) =
      if data = [] ∧ files = [] then (.map isNil entries, none)
      else (.map false (mapBind kind data entries).1, (mapBind kind data entries).2) := by
    rw [bindData]
    exact hk
  obtain ⟨h1, h2⟩ := mapBind_get kind data entries hne
  rw [heq]
  split
  · rename_i hd
    exact ⟨isNil, entries, rfl, fun key => by rw [hd.1, overlay_nil]⟩
  · exact ⟨false, _, by rw [h1], h2⟩

/-- **C09_map_precedence** — `Bind` into `map[string]string`, `map[string]interface{}` or
    `map[string][]string`: if it succeeds, the entry under every key is what the LAST of the
    sources path → query (GET/DELETE/HEAD only) → form/multipart body that carries this very key
    (keys of a map are compared exactly) contributes — first value, or all values for
    `[]string` elements — and the entry the map held before if no source carries the key.  A
    later source overrides only the keys it carries; nothing else is dropped. -/
theorem C09_map_precedence (kind : MapKind) (hk : kind ≠ .unsupported) (isNil : Bool) (entries : Data)
    (r : BindReq) (hp : ∀ kv ∈ r.params, kv.2 ≠ []) (hq : ∀ kv ∈ queryOf r, kv.2 ≠ [])
    (hf : ∀ kv ∈ formOf r, kv.2 ≠ []) (hnd : ¬ decoded r) (v' : DVal)
    (h : bind (.map kind) (.map isNil entries) r = (v', .ok)) :
    ∃ isNil' entries', v' = .map isNil' entries'
      ∧ ∀ key, mapGet entries' key =
          overlay kind (formOf r) key
            (overlay kind (queryOf r) key
              (overlay kind r.params key (mapGet entries key))) := by
  obtain ⟨v1, v2, files, s1, s2, s3⟩ := bind_ok_steps _ _ r hnd v' h
  obtain ⟨n1, e1, a1, b1⟩ := bindData_map .param r.params [] kind hk isNil entries hp
  cases a1.symm.trans s1
  obtain ⟨n2, e2, a2, b2⟩ := bindData_map .query (queryOf r) [] kind hk n1 e1 hq
  cases a2.symm.trans s2
  obtain ⟨n3, e3, a3, b3⟩ := bindData_map .form (formOf r) files kind hk n2 e2 hf
  cases a3.symm.trans s3
  exact ⟨n3, e3, rfl, fun key => by rw [b3, b2, b1]⟩

/-! ## the only freedom a key has is letter case; every decoder media type maps a rejected
    document to 400 -/

/-- ASCII letter -/
def isLetter (c : Char) : Bool := (65 ≤ c.toNat && c.toNat ≤ 90) || (97 ≤ c.toNat && c.toNat ≤ 122)

theorem lowerC_eq_of_not_letter (a b : Char) (hb : isLetter b = false) (h : lowerC a = lowerC b) : a = b := by
  have hb' : lowerC b = b := by
    unfold lowerC
    split
    · rename_i hu; simp [isLetter] at hb; omega
    · rfl
  rw [hb'] at h
  unfold lowerC at h
  split at h
  · rename_i hu
    exfalso
    have hv : (a.toNat + 32).isValidChar := by
      unfold Nat.isValidChar; omega
    have : b.toNat = a.toNat + 32 := by
      rw [← h, Char.ofNat, dif_pos hv]; rfl
    simp [isLetter] at hb
    omega
  · exact h

theorem foldEq_cons (a b : Char) (as bs : List Char) :
    foldEq (a :: as) (b :: bs) = true ↔ lowerC a = lowerC b ∧ foldEq as bs = true := by
  simp [foldEq]

/-- **fold-equal strings differ in letter case only**: same length, and wherever the tag has a byte
    that is not a letter — `-`, `_`, `.`, a blank, a digit, a bracket — the key has the very same byte -/
theorem foldEq_exact_off_letters : ∀ (k t : List Char), foldEq k t = true →
    k.length = t.length ∧ ∀ (i : Nat) (c : Char), t[i]? = some c → isLetter c = false → k[i]? = some c
  | [], [] => by intro _; simp
  | [], _ :: _ => by intro h; simp [foldEq] at h
  | _ :: _, [] => by intro h; simp [foldEq] at h
  | a :: as, b :: bs => by
    intro h
    obtain ⟨h1, h2⟩ := (foldEq_cons a b as bs).1 h
    obtain ⟨il, ie⟩ := foldEq_exact_off_letters as bs h2
    refine ⟨by simp [il], ?_⟩
    intro i c hc hl
    cases i with
    | zero =>
      simp only [List.getElem?_cons_zero, Option.some.injEq] at hc ⊢
      subst hc
      exact lowerC_eq_of_not_letter a b hl h1
    | succ j =>
      simp only [List.getElem?_cons_succ] at hc ⊢
      exact ie j c hc hl

/-- **C09_key_differs_in_letter_case_only** — whatever value list `bindData` finds for a tag comes from
    a key of the same length that agrees with the tag at every non-letter position: no other
    separator (`x_is_admin` for `x-is-admin`), no dropped or added separator, no affix.
    Together with `C09_key_must_equal_tag`: only such keys can make a field change. -/
theorem C09_key_differs_in_letter_case_only (data : Data) (tag : List Char) (vals : List (List Char))
    (h : lookup data tag = some vals) :
    ∃ kv ∈ data, kv.2 = vals ∧ kv.1.length = tag.length
      ∧ ∀ (i : Nat) (c : Char), tag[i]? = some c → isLetter c = false → kv.1[i]? = some c := by
  obtain ⟨kv, hm, hf, hv⟩ := lookup_some_key data tag vals h
  obtain ⟨hl, he⟩ := foldEq_exact_off_letters kv.1 tag hf
  exact ⟨kv, hm, hv, hl, he⟩

/-- a key that differs from the tag in one non-letter byte finds nothing -/
theorem C09_separator_variant_misses (key tag : List Char) (vals : List (List Char)) (i : Nat) (c d : Char)
    (ht : tag[i]? = some c) (hk : key[i]? = some d) (hcd : d ≠ c) (hl : isLetter c = false) :
    lookup [(key, vals)] tag = none := by
  cases h : lookup [(key, vals)] tag with
  | none => rfl
  | some w =>
    obtain ⟨kv, hm, _, _, he⟩ := C09_key_differs_in_letter_case_only _ _ _ h
    simp only [List.mem_singleton] at hm
    subst hm
    have := he i c ht hl
    simp only at this
    rw [hk] at this
    exact absurd (Option.some.inj this) hcd

/-! ### decoded bodies -/

theorem mediaType_mXML : mediaType mXML = mXML := by
  unfold mXML
  lit_chars
  decide +kernel

theorem mediaType_mTextXML : mediaType mTextXML = mTextXML := by
  unfold mTextXML
  lit_chars
  decide +kernel

theorem bindBody_xml (d : Dest) (w : DVal) (r : BindReq)
    (h : mediaType r.ctype = mXML ∨ mediaType r.ctype = mTextXML) :
    bindBody d w r = if r.hasBody = false then (w, .ok) else (r.xml.1, if r.xml.2 then .ok else .bad) := by
  have hj : mediaType r.ctype ≠ mJSON := by
    rcases h with h | h <;> rw [h]
    · exact mediaTypes_ne.1
    · exact mediaTypes_ne.2.1
  unfold bindBody
  simp only [hj, h, if_false, if_true]

/-- **C09_xml_types_agree** — `BindBody` (and `Bind`) treat every Content-Type whose media type is
    `text/xml` exactly like `application/xml`: the same decoder answer, the same status, for every
    destination, value and request.  No XML media type has a decoder, or an error mapping, of its own. -/
theorem C09_xml_types_agree (d : Dest) (v : DVal) (r : BindReq) (ct1 ct2 : List Char)
    (h1 : mediaType ct1 = mXML ∨ mediaType ct1 = mTextXML) (h2 : mediaType ct2 = mXML ∨ mediaType ct2 = mTextXML) :
    bindBody d v { r with ctype := ct1 } = bindBody d v { r with ctype := ct2 }
    ∧ bind d v { r with ctype := ct1 } = bind d v { r with ctype := ct2 } := by
  have hb : ∀ w, bindBody d w { r with ctype := ct1 } = bindBody d w { r with ctype := ct2 } := fun w =>
    (bindBody_xml d w { r with ctype := ct1 } h1).trans (bindBody_xml d w { r with ctype := ct2 } h2).symm
  exact ⟨hb v, bind_congr d v _ _ rfl rfl hb⟩

/-- the decoder that the media type selects reports failure (`json.2` / `xml.2`: the success flag the
    harness supplies with the request) -/
def decoderRejects (r : BindReq) : Prop :=
  (mediaType r.ctype = mJSON ∧ r.json.2 = false)
  ∨ ((mediaType r.ctype = mXML ∨ mediaType r.ctype = mTextXML) ∧ r.xml.2 = false)

/-- **C09_decoded_malformed_400** — a non-empty body whose media type selects a decoder (JSON, or XML
    under either of its media types, with any parameters / padding `mediaType` strips) and which that
    decoder rejects: `BindBody` answers 400, and `Bind` never succeeds — whatever the destination, the
    method, the path and query data -/
theorem C09_decoded_malformed_400 (d : Dest) (v : DVal) (r : BindReq) (hb : r.hasBody = true)
    (hr : decoderRejects r) : (bindBody d v r).2 = .bad ∧ (bind d v r).2 ≠ .ok := by
  have key : ∀ w, (bindBody d w r).2 = .bad := by
    intro w
    rcases hr with ⟨hj, hr⟩ | ⟨hx, hr⟩
    · unfold bindBody
      simp [hb, hj, hr]
    · rw [bindBody_xml d w r hx, if_neg (by simp [hb]), hr]
      rfl
  exact ⟨key v, bind_not_ok_of_body d v r fun w => by rw [key]; nofun⟩

/-! ## closed evaluation

The model spells the media types and method names as string literals (`"application/json".toList`), and the
kernel decodes a literal byte by byte wherever an evaluation meets one: some twenty thousand steps per character,
again in every example.  `bindWith` / `bindBodyWith` are `bind` / `bindBody` with these constants as parameters, so
that `bind_eq_with` puts the literals into the goal, where `lit_chars` rewrites them to character lists before the
kernel evaluates anything. -/

def bindBodyWith (mj mx mtx mf mm : List Char) (bfm : List (List Char)) (d : Dest) (v : DVal) (r : BindReq) :
    DVal × Status :=
  if r.hasBody = false then (v, .ok)
  else
    let mt := mediaType r.ctype
    if mt = mj then (r.json.1, if r.json.2 then .ok else .bad)
    else if mt = mx ∨ mt = mtx then (r.xml.1, if r.xml.2 then .ok else .bad)
    else if mt = mf then
      if r.queryOK = false then (v, .bad)
      else if bfm.contains r.method then
        match r.formBody with
        | none => (v, .bad)
        | some body =>
          let res := bindData .form (mergeData body r.query) [] d v
          (res.1, statusOf res.2)
      else
        let res := bindData .form r.query [] d v
        (res.1, statusOf res.2)
    else if mt = mm then
      if r.queryOK = false then (v, .bad) else
      match r.multipart with
      | none => (v, .bad)
      | some body =>
        let res := bindData .form body r.files d v
        (res.1, statusOf res.2)
    else (v, .unsupported)

def bindWith (qm : List (List Char)) (body : Dest → DVal → BindReq → DVal × Status) (d : Dest) (v : DVal)
    (r : BindReq) : DVal × Status :=
  let r1 := bindData .param r.params [] d v
  match r1.2 with
  | some e => (r1.1, statusOf (some e))
  | none =>
    if qm.contains r.method then
      let r2 := bindData .query r.query [] d r1.1
      match r2.2 with
      | some e => (r2.1, statusOf (some e))
      | none => body d r2.1 r
    else body d r1.1 r

theorem bind_eq_with : bind = bindWith ["GET".toList, "DELETE".toList, "HEAD".toList]
    (bindBodyWith "application/json".toList "application/xml".toList "text/xml".toList
      "application/x-www-form-urlencoded".toList "multipart/form-data".toList
      ["POST".toList, "PUT".toList, "PATCH".toList]) := rfl

/-! ## non-vacuity: a mass-assignment attempt on a concrete destination

`Val` is a nested inductive without derived `DecidableEq`; the examples compare the pre-order
flattening `flatVs` (tokens with decidable equality), evaluated by the kernel. -/

inductive Tok where
  | leaf (v : FVal) | struct (n : Nat) | nilStruct | other
deriving DecidableEq, Repr

mutual
def flatV : Val → List Tok
  | .leaf v => [.leaf v]
  | .struct vs => .struct (lenVals vs) :: flatVs vs
  | .nilStruct => [.nilStruct]
  | .other => [.other]
def flatVs : List Val → List Tok
  | [] => []
  | v :: vs => flatV v ++ flatVs vs
end

def flatD : DVal → List Tok
  | .struct vs => flatVs vs
  | _ => [.other]

/-- `struct { ID int `param:"id" query:"id"`; IsAdmin bool; Nested struct { Note string `query:"n" form:"n"` }; P *int8 `form:"p"` }` -/
def exFs : Fields :=
  .cons ⟨⟨['i','d'], ['i','d'], [], []⟩, false, true⟩ (.scalar (.num (.structInt .wInt)))
  (.cons ⟨⟨[], [], [], []⟩, false, true⟩ (.scalar .bool)
  (.cons ⟨⟨[], [], [], []⟩, false, true⟩
      (.struct (.cons ⟨⟨[], ['n'], ['n'], []⟩, false, true⟩ (.scalar .str) .nil))
  (.cons ⟨⟨[], [], ['p'], []⟩, false, true⟩ (.ptr (.num (.structInt .w8))) .nil)))

def exVs : List Val :=
  [.leaf (.one (.int 1)), .leaf (.one (.bool false)), .struct [.leaf (.one (.opq ['o']))], .leaf .nil]

/-- the client sends `id=7&IsAdmin=true&isadmin=1&N=x&p=5` -/
def exData : Data :=
  [(['i','d'], [['7']]), (['I','s','A','d','m','i','n'], [['t','r','u','e']]),
   (['i','s','a','d','m','i','n'], [['1']]), (['N'], [['x']]), (['p'], [['5']])]

-- the query source writes ID and (through the case-insensitive fallback) Nested.Note, nothing else
example : flatVs (bindF .query exData [] exFs exVs).1
      = flatVs [.leaf (.one (.int 7)), .leaf (.one (.bool false)), .struct [.leaf (.one (.opq ['x']))], .leaf .nil]
    ∧ (bindF .query exData [] exFs exVs).2 = none := by
  decide +kernel
-- the mask of C09_untagged_untouched hides exactly the two query-tagged fields and keeps the rest visible
example : flatVs (maskF .query (tagged .query) exFs exVs)
    = flatVs [.other, .leaf (.one (.bool false)), .struct [.other], .leaf .nil] := by decide +kernel
-- the finer mask of C09_key_must_equal_tag with data that has no key for `n`
example : flatVs (maskF .query (keyed .query [(['i','d'], [['7']])] []) exFs exVs)
    = flatVs [.other, .leaf (.one (.bool false)), .struct [.leaf (.one (.opq ['o']))], .leaf .nil] := by decide +kernel
-- a malformed value: 400 and the pointer field is left allocated; fields before it are bound
example : flatVs (bindF .form [(['n'], [['y']]), (['p'], [['1','2','8']])] [] exFs exVs).1
      = flatVs [.leaf (.one (.int 1)), .leaf (.one (.bool false)), .struct [.leaf (.one (.opq ['y']))],
        .leaf (.one (.int 0))]
    ∧ (bindF .form [(['n'], [['y']]), (['p'], [['1','2','8']])] [] exFs exVs).2 = some .bad := by decide +kernel
example : badIn (.num (.structInt .w8)) ['p'] [(['p'], [['1','2','8']])] := by
  refine ⟨by decide, [['1','2','8']], by decide, by decide⟩

def exReq (method ctype : List Char) (hasBody : Bool) : BindReq :=
  { method := method, params := [(['i','d'], [['1','0']])], query := [(['i','d'], [['2','0']]), (['n'], [['q']])],
    hasBody := hasBody, ctype := ctype, json := (.opaque, false), xml := (.opaque, false),
    formBody := some [(['n'], [['f']]), (['i','d'], [['3','0']])], multipart := none, files := [], queryOK := true }

-- GET: path then query; the form tag is not consulted without a body
example : flatD (bind (.struct exFs) (.struct exVs) (exReq ['G','E','T'] [] false)).1
      = flatVs [.leaf (.one (.int 20)), .leaf (.one (.bool false)), .struct [.leaf (.one (.opq ['q']))], .leaf .nil]
    ∧ (bind (.struct exFs) (.struct exVs) (exReq ['G','E','T'] [] false)).2 = .ok := by
  decide +kernel
-- POST with a form body: the query string is NOT bound through the `query` tag (ID stays 10), the
-- form body wins for `n`
example : flatD (bind (.struct exFs) (.struct exVs) (exReq ['P','O','S','T'] mForm true)).1
      = flatVs [.leaf (.one (.int 10)), .leaf (.one (.bool false)), .struct [.leaf (.one (.opq ['f']))], .leaf .nil]
    ∧ (bind (.struct exFs) (.struct exVs) (exReq ['P','O','S','T'] mForm true)).2 = .ok := by
  rw [bind_eq_with]
  unfold mForm
  lit_chars
  decide +kernel
-- the hypotheses of C09_precedence / C09_415 are satisfiable
example : ¬ decoded (exReq ['P','O','S','T'] mForm true) := by
  intro h; exact absurd h.2 (by simp [exReq, mediaType_mForm, mediaTypes_ne])
example : (bind (.struct exFs) (.struct exVs) (exReq ['P','O','S','T'] ['t','e','x','t','/','p','l','a','i','n'] true)).2
    = .unsupported := by
  rw [bind_eq_with]
  lit_chars
  decide +kernel
example : mediaType ['t','e','x','t','/','p','l','a','i','n'] ≠ mJSON ∧ mediaType [' ','a','p','p','l','i','c','a','t','i','o','n','/','j','s','o','n',';','x'] = mJSON := by
  unfold mJSON
  lit_chars
  decide +kernel
-- a tagged embedded struct is an error as soon as the source has any data; a tagged plain struct only when its key is sent
example : (bindF .query [(['z'], [['1']])] []
    (.cons ⟨⟨[], ['e'], [], []⟩, true, true⟩ (.struct .nil) .nil) [.struct []]).2 = some .bad := by decide
example : (bindF .query [(['z'], [['1']])] []
    (.cons ⟨⟨[], ['e'], [], []⟩, false, true⟩ (.struct .nil) .nil) [.struct []]).2 = none := by decide
-- the partial operation: an empty value list (not producible by net/http)
example : (bindF .query [(['i','d'], [])] [] exFs exVs).2 = some .panic := by decide

/-- `struct { Doc *multipart.FileHeader `form:"doc"`; All []*multipart.FileHeader `form:"all"`;
     Name string `form:"name"`; M Multi `form:"m"` }` -/
def exFileFs : Fields :=
  .cons ⟨⟨[], [], ['d','o','c'], []⟩, false, true⟩ (.file .ptr)
  (.cons ⟨⟨[], [], ['a','l','l'], []⟩, false, true⟩ (.file .ptrSlice)
  (.cons ⟨⟨[], [], ['n','a','m','e'], []⟩, false, true⟩ (.scalar .str)
  (.cons ⟨⟨[], [], ['m'], []⟩, false, true⟩ .multi .nil)))

def exFileVs : List Val := [.leaf .nil, .leaf .nil, .leaf (.one (.opq ['o'])), .leaf (.many [])]

-- files `doc` (two of them) and `ALL`, values `name=n`, `M=1`, `M=2`: Doc gets the first file, the
-- upload named `ALL` does NOT reach the tag `all` (exact names only), the multi-value field gets
-- both values through the case-insensitive value lookup
example : flatVs (bindF .form [(['n','a','m','e'], [['n']]), (['M'], [['1'], ['2']])]
      [(['d','o','c'], [['a'], ['b']]), (['A','L','L'], [['c']])] exFileFs exFileVs).1
    = flatVs [.leaf (.one (.opq ['a'])), .leaf .nil, .leaf (.one (.opq ['n'])), .leaf (.many [.opq ['1'], .opq ['2']])]
    ∧ (bindF .form [(['n','a','m','e'], [['n']]), (['M'], [['1'], ['2']])]
      [(['d','o','c'], [['a'], ['b']]), (['A','L','L'], [['c']])] exFileFs exFileVs).2 = none := by
  decide +kernel
-- a TEXT under the name of a file field is an error (and the nil pointer is left allocated) …
example : (bindF .form [(['d','o','c'], [['t']])] [] exFileFs exFileVs).2 = some .bad := by decide +kernel
-- … unless a file was uploaded under that name: the field is set and the text is not looked at
example : (bindF .form [(['d','o','c'], [['t']])] [(['d','o','c'], [['a']])] exFileFs exFileVs).2 = none := by
  decide +kernel
-- hypotheses of C09_file_set / C09_file_plain_rejected / C09_multi_all_values are satisfiable
example : fileLookup [(['d','o','c'], [['a'], ['b']])] ['d','o','c'] = some [['a'], ['b']] := by decide
example : (bindS .form [] [(['x'], [['a']])] ⟨⟨[], [], ['f'], []⟩, false, true⟩ (.file .plain) (.leaf (.one (.opq [])))).2
    = some .bad := by decide
example : lookup [(['M'], [['1'], ['2']])] ['m'] = some [['1'], ['2']] := by decide
-- the finer mask: an upload named `ALL` does not select the field tagged `all`, one named `all` does
example : keyed .form [] [(['A','L','L'], [['c']])] ⟨⟨[], [], ['a','l','l'], []⟩, false, true⟩ = false
    ∧ keyed .form [] [(['a','l','l'], [['c']])] ⟨⟨[], [], ['a','l','l'], []⟩, false, true⟩ = true := by decide

/-- GET /:id/:p?id=q1&q=q2 with a urlencoded body `id=f1&f=f2` (GET: the body is not read, the
    form step sees the URL query) into a map that already holds `old` and `id` -/
def exMapReq (method : List Char) : BindReq :=
  { method := method, params := [(['i','d'], [['p','1']]), (['p'], [['p','2']])],
    query := [(['i','d'], [['q','1'], ['q','x']]), (['q'], [['q','2']])],
    hasBody := true, ctype := mForm, json := (.opaque, false), xml := (.opaque, false),
    formBody := some [(['i','d'], [['f','1']]), (['f'], [['f','2']])], multipart := none, files := [], queryOK := true }

def exMapInit : Data := [(['i','d'], [['0']]), (['o','l','d'], [['i']])]

def mapOf : DVal → Data
  | .map _ e => e
  | _ => []

-- POST: path, then the form body merged with the URL query (body first): id = f1, and the entries
-- only one source carries (`p`, `f`, `q`) as well as the old entry survive
example : (bind (.map .str) (.map false exMapInit) (exMapReq ['P','O','S','T'])).2 = .ok
    ∧ mapGet (mapOf (bind (.map .str) (.map false exMapInit) (exMapReq ['P','O','S','T'])).1) ['i','d'] = some [['f','1']]
    ∧ mapGet (mapOf (bind (.map .str) (.map false exMapInit) (exMapReq ['P','O','S','T'])).1) ['p'] = some [['p','2']]
    ∧ mapGet (mapOf (bind (.map .str) (.map false exMapInit) (exMapReq ['P','O','S','T'])).1) ['q'] = some [['q','2']]
    ∧ mapGet (mapOf (bind (.map .str) (.map false exMapInit) (exMapReq ['P','O','S','T'])).1) ['o','l','d'] = some [['i']] := by
  rw [bind_eq_with]
  unfold exMapReq mForm
  lit_chars
  decide +kernel
-- GET: path, then query: id = q1 (first value; both values for map[string][]string)
example : mapGet (mapOf (bind (.map .str) (.map false exMapInit) (exMapReq ['G','E','T'])).1) ['i','d'] = some [['q','1']]
    ∧ mapGet (mapOf (bind (.map .strs) (.map false exMapInit) (exMapReq ['G','E','T'])).1) ['i','d'] = some [['q','1'], ['q','x']]
    ∧ mapGet (mapOf (bind (.map .str) (.map false exMapInit) (exMapReq ['G','E','T'])).1) ['f'] = none := by
  rw [bind_eq_with]
  unfold exMapReq mForm
  lit_chars
  decide +kernel
example : ¬ decoded (exMapReq ['P','O','S','T']) := by
  intro h; exact absurd h.2 (by simp [exMapReq, mediaType_mForm, mediaTypes_ne])
-- the same request with an unparsable URL query: 400, the map is left alone
example : (bind (.map .str) (.map false exMapInit) { exMapReq ['P','O','S','T'] with queryOK := false }).2 = .bad
    ∧ mapGet (mapOf (bind (.map .str) (.map false exMapInit) { exMapReq ['P','O','S','T'] with queryOK := false }).1) ['f'] = none := by
  rw [bind_eq_with]
  unfold exMapReq mForm
  lit_chars
  decide +kernel

-- the client sends the key of length 0 (`?=admin`, body `=admin`): nothing is bound —
-- neither the untagged `IsAdmin`, nor the tagged fields (their tags are not empty)
example : flatVs (bindF .query [([], [['a','d','m','i','n']]), ([], [['1']])] [] exFs exVs).1 = flatVs exVs
    ∧ (bindF .query [([], [['a','d','m','i','n']])] [] exFs exVs).2 = none := by decide +kernel
-- `lookup` WOULD find the empty key if it were asked for the empty name — the walk never asks
example : lookup [([], [['x']])] [] = some [['x']] := by decide

-- ContentLength 0 skips the body whatever it is, -1 and 17 do not
example : (BodyLen.known 0).hasBody = false ∧ (BodyLen.known 17).hasBody = true ∧ BodyLen.unknown.hasBody = true := by decide
example : (bind (.struct exFs) (.struct exVs) { exReq ['P','O','S','T'] mForm true with hasBody := BodyLen.unknown.hasBody }).2 = .ok
    ∧ flatD (bind (.struct exFs) (.struct exVs) { exReq ['P','O','S','T'] mForm true with hasBody := BodyLen.unknown.hasBody }).1
      = flatVs [.leaf (.one (.int 10)), .leaf (.one (.bool false)), .struct [.leaf (.one (.opq ['f']))], .leaf .nil] := by
  rw [bind_eq_with]
  unfold mForm
  lit_chars
  decide +kernel

-- GET /:id?id= — the path gives 10, the query carries `id` with an empty value: 0, not 10;
-- and `n=` clears the nested string that held "o"
example : flatD (bind (.struct exFs) (.struct exVs)
      { exReq ['G','E','T'] [] false with query := [(['i','d'], [[]]), (['n'], [[]])] }).1
    = flatVs [.leaf (.one (.int 0)), .leaf (.one (.bool false)), .struct [.leaf (.one (.opq []))], .leaf .nil] := by
  decide +kernel
example : lookup [(['i','d'], [[]])] ['i','d'] = some [[]] := by decide

-- `X_Is_Admin: 1` does not reach a field tagged `x-is-admin`; `X-IS-ADMIN` does
example : lookup [("X_Is_Admin".toList, [['1']])] "x-is-admin".toList = none := by lit_chars; decide +kernel
example : lookup [("X-IS-ADMIN".toList, [['1']])] "x-is-admin".toList = some [['1']] := by lit_chars; decide +kernel
example : lookup [("X_Is_Admin".toList, [['1']])] "x-is-admin".toList = none :=
  C09_separator_variant_misses _ _ _ 1 '-' '_' (by lit_chars; rfl) (by lit_chars; rfl) (by decide) (by decide +kernel)
-- conversely a tag spelled with `_` is found under its own spelling and not under the dashed one
example : lookup [("X_Legacy_Id".toList, [['7']])] "x_legacy_id".toList = some [['7']]
    ∧ lookup [("X-Legacy-Id".toList, [['7']])] "x_legacy_id".toList = none := by lit_chars; decide +kernel
example : foldEq "userid".toList "user_id".toList = false ∧ foldEq "HTTP_X_ID".toList "x-id".toList = false := by
  lit_chars; decide +kernel
-- the spellings of the XML media types all select the one XML branch
example : mediaType "text/xml; charset=utf-8".toList = mTextXML ∧ mediaType " text/xml".toList = mTextXML
    ∧ mediaType "application/xml ;q=1".toList = mXML := by
  unfold mTextXML mXML
  lit_chars
  decide +kernel
-- a rejected XML document under text/xml: 400 through BindBody and through Bind (POST, path and query fine)
example : decoderRejects { exReq ['P','O','S','T'] "text/xml; charset=utf-8".toList true with xml := (.struct exVs, false) } :=
  Or.inr ⟨Or.inr (by unfold mTextXML; lit_chars; decide +kernel), rfl⟩
example : (bind (.struct exFs) (.struct exVs) { exReq ['P','O','S','T'] "text/xml".toList true with xml := (.struct exVs, false) }).2 = .bad := by
  rw [bind_eq_with]
  lit_chars
  decide +kernel

end C09
