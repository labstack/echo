import EchoModel.C19
import EchoProofs.C19
/-!
# C19 — the retry loop under every configuration

`loopG` (EchoModel/C19.lean) is `ProxyWithConfig`'s loop with the whole configuration surface:
custom `RetryFilter` (any function of call number and error), `TargetProvider` balancers that may
answer errors, websocket attempts (`proxyRaw`), response writers that cannot be hijacked.
Everything here is for ALL filters / provider scripts / liveness patterns / RetryCounts / balancer
states, read off the description of the runs of the loop (`RunG`, `loopG_run` in
EchoProofs/C19.lean); `C19_cfg_refines` ties `loopG` back to `proxyLoop`, so the theorems of
EchoProofs/C19.lean are about the default configuration of the same loop.
-/
namespace C19

/-- For EVERY RetryFilter, provider script, request kind, liveness pattern,
    balancer state: one request causes at most `RetryCount + 1` attempts; the RetryFilter is
    consulted at most `RetryCount` times ("only called when the number of previous retries is less
    than RetryCount"), never more often than there were attempts, and every attempt after the first
    was preceded by a filter call; the target list is not touched. -/
theorem C19_cfg_attempts (env : EnvG) (rc : Nat) (closed : Bool) (k fc : Nat) (b : Bal) (last : Option Nat)
    (hints : List (List Char)) :
    let R := loopG env rc closed k fc b last hints
    R.picks.length ≤ rc + 1 ∧ R.fcalls.length ≤ rc ∧ R.fcalls.length ≤ R.picks.length ∧
    R.picks.length ≤ R.fcalls.length + 1 ∧ R.bal.targets = b.targets :=
  have h := loopG_run env rc closed k fc b last hints
  ⟨h.1.bounds.1, h.1.bounds.2.1, h.1.bounds.2.2.1, h.1.bounds.2.2.2, h.2⟩

/-- an attempt that produced no upstream answer: no target, or a target on which the attempt
    ended with an error -/
def FailedG (env : EnvG) (x : Res) : Prop :=
  x = .pick .nil ∨ ∃ t c e, x = .pick (.tgt t) ∧ attemptErr env c t = some e

theorem attemptErr_alive {env : EnvG} {c : Bool} {t : Target} (hw : env.ws = false) (hb : env.bodyOnce = false)
    (hc : env.canceled = false) (ha : env.alive t = true) : attemptErr env c t = none := by
  rw [attemptErr_http hw, hc, ha, hb]; rfl

theorem Retried.failedG {env : EnvG} {x : Res} : Retried env x → FailedG env x :=
  fun ⟨t, c, e, _, hx, ha, _⟩ => .inr ⟨t, c, e, hx, ha⟩

/-- For every configuration: if the request ends in an error (the
    ErrorHandler is called: the proxy's 502, 499, a provider's error, …) then EVERY attempt failed;
    if an upstream answer is relayed it is the answer of the LAST attempted target, that target is
    alive and a current target, and every earlier attempt failed. -/
theorem C19_cfg_outcome (env : EnvG) (rc : Nat) (closed : Bool) (k fc : Nat) (b : Bal) (last : Option Nat)
    (hints : List (List Char)) :
    let R := loopG env rc closed k fc b last hints
    (∀ e, R.out = .failed e → ∀ x ∈ R.picks, FailedG env x) ∧
    (∀ t, R.out = .relayed t → env.alive t = true ∧ t ∈ b.targets ∧
      R.picks.getLast? = some (.pick (.tgt t)) ∧ ∀ x ∈ R.picks.dropLast, FailedG env x) := by
  intro R
  have h := (loopG_run env rc closed k fc b last hints).1
  refine ⟨fun e ho x hx => ?_, fun t ho => ?_⟩
  · rcases h.all_failed e ho x hx with hx | hx | ⟨t, c, hx, ha⟩
    · exact .inl hx
    · exact hx.failedG
    · exact .inr ⟨t, c, e, hx, ha⟩
  · obtain ⟨ha, hm, hl, hf⟩ := h.relayed_spec t ho
    exact ⟨ha, hm, hl, fun x hx => (hf x hx).failedG⟩

theorem RunG.exhausts {env ts closed r k fc rs fs o} (h : RunG env ts closed r k fc rs fs o)
    (e : Err) (ho : o = .failed e) :
    (env.provider = true ∧ env.provErr (k + rs.length) = some e) ∨
    rs.getLast? = some (.pick .nil) ∨
    rs.length = r + 1 ∨
    (fs.getLast? = some e ∧ env.filter (fc + fs.length - 1) e = false) := by
  induction h with
  | provErr closed r k fc e' hp he => cases ho; exact .inl ⟨hp, he⟩
  | noTarget => exact .inr (.inl rfl)
  | giveUp => exact .inr (.inr (.inl rfl))
  | declined closed m k fc t e' _ _ _ hf => cases ho; exact .inr (.inr (.inr ⟨rfl, hf⟩))
  | retry closed m k fc t e' rs fs o _ _ _ _ _ ih =>
    -- the tail run starts at call `k + 1` and filter call `fc + 1`: the same positions, counted from here
    rcases ih ho with ⟨hp, he⟩ | hl | hl | ⟨hl, hf⟩
    · exact .inl ⟨hp, by rw [List.length_cons, ← Nat.add_assoc, Nat.add_right_comm]; exact he⟩
    · exact .inr (.inl (getLast?_dropLast_cons hl).1)
    · exact .inr (.inr (.inl (congrArg (· + 1) hl)))
    · refine .inr (.inr (.inr ⟨(getLast?_dropLast_cons hl).1, ?_⟩))
      rw [List.length_cons, ← Nat.add_assoc, Nat.add_right_comm]; exact hf
  | relayed | notMember => cases ho

/-- For every configuration, a request that ends in an error `e` ended for
    one of exactly four reasons: the TargetProvider answered `e` instead of a target; the balancer
    had no target; all `RetryCount + 1` attempts were made; or the RetryFilter was asked about `e`
    and declined. -/
theorem C19_cfg_exhausts (env : EnvG) (rc : Nat) (closed : Bool) (k fc : Nat) (b : Bal) (last : Option Nat)
    (hints : List (List Char)) (e : Err) :
    let R := loopG env rc closed k fc b last hints
    R.out = .failed e →
    (env.provider = true ∧ env.provErr (k + R.picks.length) = some e) ∨
    R.picks.getLast? = some (.pick .nil) ∨
    R.picks.length = rc + 1 ∨
    (R.fcalls.getLast? = some e ∧ env.filter (fc + R.fcalls.length - 1) e = false) := by
  intro R ho
  exact (loopG_run env rc closed k fc b last hints).1.exhausts e ho

/-- The default RetryFilter, a plain balancer, any request (HTTP or websocket, any method — the
    model has no method input and the correspondence run checks that the code has none either —,
    any body): when the client gets the proxy's 502 because a target was unreachable, all
    `RetryCount + 1` attempts have been made, and every one of them failed. -/
theorem C19_retry_exhausts (env : EnvG) (hf : env.filter = defaultFilter) (hp : env.provider = false)
    (rc : Nat) (closed : Bool) (k fc : Nat) (b : Bal) (last : Option Nat) (hints : List (List Char)) :
    let R := loopG env rc closed k fc b last hints
    R.out = .failed (.http 502) → R.picks.getLast? ≠ some (.pick .nil) →
    R.picks.length = rc + 1 ∧ ∀ x ∈ R.picks, FailedG env x := by
  intro R ho hl
  refine ⟨?_, (C19_cfg_outcome env rc closed k fc b last hints).1 _ ho⟩
  rcases C19_cfg_exhausts env rc closed k fc b last hints _ ho with ⟨h, _⟩ | h | h | ⟨_, h⟩
  · rw [hp] at h; cases h
  · exact absurd h hl
  · exact h
  · rw [hf] at h; simp [defaultFilter] at h

-- non-vacuity: [dead, dead, live] round robin, RetryCount 1, default filter: two attempts, 502
example : (loopG ⟨true, fun t => t.url == 2, false, false, false, true, false, fun _ => none, defaultFilter⟩ 1 false 0 0
    ⟨[⟨['a'], 0⟩, ⟨['b'], 1⟩, ⟨['c'], 2⟩], 0⟩ none []).picks.length = 2 := by decide
example : (loopG ⟨true, fun t => t.url == 2, false, false, false, true, false, fun _ => none, defaultFilter⟩ 1 false 0 0
    ⟨[⟨['a'], 0⟩, ⟨['b'], 1⟩, ⟨['c'], 2⟩], 0⟩ none []).out = .failed (.http 502) := by decide
-- … a filter that declines at once: one attempt, one filter call
example : ((loopG ⟨true, fun t => t.url == 2, false, false, false, true, false, fun _ => none, fun _ _ => false⟩ 3 false 0 0
    ⟨[⟨['a'], 0⟩, ⟨['b'], 1⟩, ⟨['c'], 2⟩], 0⟩ none []).picks.length,
    (loopG ⟨true, fun t => t.url == 2, false, false, false, true, false, fun _ => none, fun _ _ => false⟩ 3 false 0 0
    ⟨[⟨['a'], 0⟩, ⟨['b'], 1⟩, ⟨['c'], 2⟩], 0⟩ none []).fcalls) = (1, [.http 502]) := by decide
-- … a websocket request over [dead, live] with RetryCount 1 is tunnelled to the live target (F21)
example : (loopG ⟨true, fun t => t.url == 1, false, false, true, true, false, fun _ => none, defaultFilter⟩ 1 false 0 0
    ⟨[⟨['a'], 0⟩, ⟨['b'], 1⟩], 0⟩ none []).out = .relayed ⟨['b'], 1⟩ := by decide

theorem NoProvErr.ne {env : EnvG} {k j : Nat} {e : Err} (hn : NoProvErr env k) (hp : env.provider = true)
    (hj : env.provErr j = some e) : k ≠ j := by
  rintro rfl
  rw [NoProvErr, if_pos hp, hj] at hn
  cases hn

theorem RunG.provider_stop {env ts closed r k fc rs fs o} (h : RunG env ts closed r k fc rs fs o)
    (hp : env.provider = true) (j : Nat) (e : Err) (hj : env.provErr j = some e) (hk : k ≤ j) :
    k + rs.length ≤ j := by
  induction h with
  | provErr => exact hk
  | retry closed m k fc t e' rs fs o hn _ _ _ _ ih =>
    rw [List.length_cons, Nat.add_comm rs.length, ← Nat.add_assoc]
    exact ih (Nat.lt_of_le_of_ne hk (hn.ne hp hj))
  | noTarget closed r k fc hn _ | relayed closed r k fc t hn _ _ | giveUp closed k fc t e' hn _ _
  | declined closed m k fc t e' hn _ _ _ | notMember closed r k fc hn _ =>
    exact Nat.lt_of_le_of_ne hk (hn.ne hp hj)

/-- A balancer that is a `TargetProvider`: if its `j`-th answer for
    a request is an error, the proxy makes at most `j` attempts (no `Next` after that answer), and
    when the very first answer is an error `e` the request ends with `e`, no attempt, no filter
    call, balancer untouched. -/
theorem C19_cfg_provider_error (env : EnvG) (hp : env.provider = true) (rc : Nat) (closed : Bool) (fc : Nat)
    (b : Bal) (last : Option Nat) (hints : List (List Char)) (j : Nat) (e : Err) (hj : env.provErr j = some e) :
    (loopG env rc closed 0 fc b last hints).picks.length ≤ j ∧
    (j = 0 → loopG env rc closed 0 fc b last hints = ⟨b, last, [], [], .failed e⟩) := by
  refine ⟨by simpa using (loopG_run env rc closed 0 fc b last hints).1.provider_stop hp j e hj (Nat.zero_le _), ?_⟩
  intro h0; subst h0
  rw [loopG.eq_def]; simp [hp, hj]

-- non-vacuity: the provider answers (target, target, error 503) over dead targets, RetryCount 5: two attempts, 503
example : (loopG ⟨true, fun _ => false, false, false, false, true, true,
      fun k => if k = 2 then some (.http 503) else none, defaultFilter⟩ 5 false 0 0
    ⟨[⟨['a'], 0⟩, ⟨['b'], 1⟩, ⟨['c'], 2⟩], 0⟩ none []).picks.length = 2 := by decide
example : (loopG ⟨true, fun _ => false, false, false, false, true, true,
      fun k => if k = 2 then some (.http 503) else none, defaultFilter⟩ 5 false 0 0
    ⟨[⟨['a'], 0⟩, ⟨['b'], 1⟩, ⟨['c'], 2⟩], 0⟩ none []).out = .failed (.http 503) := by decide

/-- With the default RetryFilter, a plain balancer and an HTTP request the
    configurable loop IS the loop the theorems of EchoProofs/C19.lean are about: same balancer
    state, same stored index, same picks, same outcome. -/
theorem C19_cfg_refines (g : EnvG) (hw : g.ws = false) (hp : g.provider = false) (hf : g.filter = defaultFilter)
    (rc : Nat) : ∀ closed k fc b last hints,
    (loopG g rc closed k fc b last hints).bal = (proxyLoop ⟨g.rr, g.alive, g.canceled, g.bodyOnce⟩ rc closed b last hints).1 ∧
    (loopG g rc closed k fc b last hints).last = (proxyLoop ⟨g.rr, g.alive, g.canceled, g.bodyOnce⟩ rc closed b last hints).2.1 ∧
    (loopG g rc closed k fc b last hints).picks = (proxyLoop ⟨g.rr, g.alive, g.canceled, g.bodyOnce⟩ rc closed b last hints).2.2.1 ∧
    (loopG g rc closed k fc b last hints).out = outG_of (proxyLoop ⟨g.rr, g.alive, g.canceled, g.bodyOnce⟩ rc closed b last hints).2.2.2 :=
  loopG_default g hw hp hf rc

/-- Round robin with at least two distinct targets, EVERY RetryFilter,
    provider script and request kind: the attempts of one request walk the target list cyclically,
    so a retry never goes to the target that just failed. -/
theorem C19_cfg_next_target (env : EnvG) (hr : env.rr = true) (rc : Nat) (closed : Bool) (k fc : Nat) (b : Bal)
    (last : Option Nat) (hints : List (List Char)) (hnd : b.targets.Nodup) (h2 : 2 ≤ b.targets.length) :
    (∃ i, i < b.targets.length ∧ ChainAt b.targets i (loopG env rc closed k fc b last hints).picks) ∧
    ∀ j a c, (loopG env rc closed k fc b last hints).picks[j]? = some a →
      (loopG env rc closed k fc b last hints).picks[j + 1]? = some c → a ≠ c := by
  have hi := rrIdx_lt b.i last (Nat.zero_lt_of_lt h2)
  have h := loopG_chain env hr rc closed k fc b last hints h2
  exact ⟨⟨_, hi, h⟩, ChainAt.adjacent_ne _ hnd h2 _ _ hi h⟩

/-! ## request targets in absolute form are rewritten like their path -/

theorem afterSchemeSep_scheme (scheme rest : List Char) (hs : ∀ c ∈ scheme, c ≠ ':') :
    afterSchemeSep (scheme ++ "://".toList ++ rest) = some rest := by
  induction scheme with
  | nil => simp [afterSchemeSep]
  | cons c cs ih =>
    obtain ⟨hc, hcs⟩ := List.forall_mem_cons.mp hs
    rw [List.cons_append, List.cons_append, afterSchemeSep, if_neg (by simp [hc])]
    exact ih hcs

theorem fromPathStart_authority (auth pathq : List Char) (ha : ∀ c ∈ auth, c ≠ '/' ∧ c ≠ '?')
    (hp : pathq = [] ∨ pathq.head? = some '/' ∨ pathq.head? = some '?') :
    fromPathStart (auth ++ pathq) = pathq := by
  induction auth with
  | nil =>
    cases pathq with
    | nil => rfl
    | cons c r =>
      have hc : c = '/' ∨ c = '?' := by simpa using hp
      rw [List.nil_append, fromPathStart, if_pos (by simpa using hc)]
  | cons c cs ih =>
    obtain ⟨hc, hcs⟩ := List.forall_mem_cons.mp ha
    rw [List.cons_append, fromPathStart, if_neg (by simp [hc])]
    exact ih hcs

/-- `GET scheme://authority/path?query`: for every scheme (any case),
    every authority (userinfo, host, port — anything without `/` and `?`) and every path-and-query
    the rules are matched against path and query only. -/
theorem C19_rewrite_abs_form (scheme auth pathq : List Char) (hs : scheme ≠ []) (h0 : scheme.head? ≠ some '/')
    (hc : ∀ c ∈ scheme, c ≠ ':') (ha : ∀ c ∈ auth, c ≠ '/' ∧ c ≠ '?')
    (hp : pathq = [] ∨ pathq.head? = some '/' ∨ pathq.head? = some '?') :
    matchInput (scheme ++ "://".toList ++ (auth ++ pathq)) = pathq := by
  have hsep := afterSchemeSep_scheme scheme (auth ++ pathq) hc
  cases scheme with
  | nil => exact absurd rfl hs
  | cons c cs =>
    have hne : c ≠ '/' := fun h => h0 (h ▸ rfl)
    rw [List.cons_append, List.cons_append] at hsep ⊢
    simp only [matchInput, beq_iff_eq, hne, if_false, hsep]
    exact fromPathStart_authority auth pathq ha hp

/-- The authority may be EMPTY: for
    `GET scheme:///path?query`, `GET scheme://` and `GET scheme://?query` (net/http accepts them, the
    Host header names the host) the rules are matched against exactly what follows `://` — the cut is
    at offset 0 of the rest, nothing of the path is swallowed and it is not mistaken for "no path". -/
theorem C19_rewrite_abs_empty_authority (scheme pathq : List Char) (hs : scheme ≠ []) (h0 : scheme.head? ≠ some '/')
    (hc : ∀ c ∈ scheme, c ≠ ':')
    (hp : pathq = [] ∨ pathq.head? = some '/' ∨ pathq.head? = some '?') :
    matchInput (scheme ++ "://".toList ++ pathq) = pathq := by
  have h := C19_rewrite_abs_form scheme [] pathq hs h0 hc (by intro c hcm; cases hcm) hp
  simpa using h

theorem C19_rewrite_origin_form (uri : List Char) (hu : uri.head? = some '/') : matchInput uri = uri := by
  cases uri with
  | nil => simp at hu
  | cons c cs => simp at hu; subst hu; simp [matchInput]

theorem rewrite_eq (rs : List Rule) (uri : List Char) : rewrite rs uri = (rewrite? rs uri).getD uri := by
  induction rs with
  | nil => rfl
  | cons r rs ih =>
    simp only [rewrite, rewrite?]
    cases r.apply uri <;> simp [ih]

/-- The upstream sees the same request target whether the client sent `path?query` or
    `scheme://authority/path?query`; and for origin-form targets `rewriteReq` is the `rewrite` of
    EchoProofs/C19.lean (first match, order irrelevant). -/
theorem C19_rewrite_form_irrelevant (rules : List Rule) (scheme auth pathq : List Char) (hs : scheme ≠ [])
    (h0 : scheme.head? ≠ some '/') (hc : ∀ c ∈ scheme, c ≠ ':') (ha : ∀ c ∈ auth, c ≠ '/' ∧ c ≠ '?')
    (hp : pathq.head? = some '/') :
    rewriteReq rules (scheme ++ "://".toList ++ (auth ++ pathq)) pathq = rewrite rules pathq ∧
    rewriteReq rules pathq pathq = rewrite rules pathq := by
  refine ⟨?_, ?_⟩
  · rw [rewriteReq, C19_rewrite_abs_form scheme auth pathq hs h0 hc ha (Or.inr (Or.inl hp)), rewrite_eq]
  · rw [rewriteReq, C19_rewrite_origin_form pathq hp, rewrite_eq]

/-- A request target that starts with `/` is matched as it is, WHATEVER follows: `://`, `//`, `@`,
    a second `?`, a whole URL as query value or as the rest of the path are ordinary bytes of an
    origin-form target.  So the
    upstream sees `rewrite rules target`, the function the first-match / order theorems
    are about, and the rule is applied once however many attempts the request needs
    (`runSteps` rewrites outside `loopG`). -/
theorem C19_rewrite_origin_never_cut (rules : List Rule) (rest : List Char) :
    matchInput ('/' :: rest) = '/' :: rest ∧
    rewriteReq rules ('/' :: rest) ('/' :: rest) = rewrite rules ('/' :: rest) := by
  have h := C19_rewrite_origin_form ('/' :: rest) rfl
  exact ⟨h, by rw [rewriteReq, h, rewrite_eq]⟩

-- a URL in the query / in the path of an origin-form target
example : rewriteReq [⟨"^/api/*".toList, "/$1".toList⟩] "/api/go?to=http://example.com/landing".toList
    "/api/go?to=http://example.com/landing".toList = "/go?to=http://example.com/landing".toList := by lit_chars; decide +kernel
example : rewriteReq [⟨"^/y/*".toList, "/never/$1".toList⟩] "/proxy/http://x/y/z".toList
    "/proxy/http://x/y/z".toList = "/proxy/http://x/y/z".toList := by lit_chars; decide +kernel
-- a rule whose result matches it again is applied once
example : rewriteReq [⟨"/api/*".toList, "/$1".toList⟩] "/api/api/users".toList "/api/api/users".toList
    = "/api/users".toList := by lit_chars; decide +kernel

example : rewriteReq [⟨"^/api/*".toList, "/v2/$1".toList⟩] "HTTP://u:p@ex.test:80/api/x?q=1".toList
    "/api/x?q=1".toList = "/v2/x?q=1".toList := by lit_chars; decide +kernel

/-! ## `Proxy(balancer)` and the Skipper -/

/-- The middleware made by `Proxy(balancer)`: whatever else the scenario
    record says, a request is attempted at most once, no RetryFilter is consulted and the request
    target reaches the upstream unrewritten. -/
theorem C19_proxy_ctor (sc : Scenario) (hv : sc.viaProxy = true) (b : Bal) (q : ReqIn) (ss : List Step) :
    let R := loopG (envOf sc q) 0 false 0 0 b none q.hints
    runSteps sc b (.request q :: ss) =
      .served R.picks none R.out (match R.out with | .relayed _ => q.pathq | _ => []) :: runSteps sc R.bal ss ∧
    R.picks.length ≤ 1 ∧ R.fcalls = [] := by
  intro R
  have hb := (C19_cfg_attempts (envOf sc q) 0 false 0 0 b none q.hints)
  refine ⟨?_, hb.1, by simpa using hb.2.1⟩
  simp only [runSteps, Scenario.eff, hv, if_true, FilterSpec.custom, rewriteReq, rewrite?, R, Option.getD_none,
    Bool.false_and, Bool.false_eq_true, if_false]
  cases (loopG (envOf sc q) 0 false 0 0 b none q.hints).out <;> rfl

/-- a request the Skipper takes out is invisible to the balancer and to every later request -/
theorem runSteps_skip (sc : Scenario) (hs : sc.eff.skipper = true) (b : Bal) (q : ReqIn) (hq : q.skip = true)
    (ss : List Step) : runSteps sc b (.request q :: ss) = .skipped :: runSteps sc b ss := by
  simp [runSteps, hs, hq]

/-- Whole scenarios (any configuration, any interleaving of requests
    with AddTarget/RemoveTarget, any balancer state): every served request made at most
    `RetryCount + 1` attempts (`RetryCount` = 0 under `Proxy(balancer)`) and consulted the
    RetryFilter at most `RetryCount` times. -/
theorem C19_scenario_attempts (sc : Scenario) : ∀ (steps : List Step) (b : Bal), ∀ x ∈ runSteps sc b steps,
    match x with
    | .served picks fcalls _ _ =>
      picks.length ≤ sc.eff.retryCount + 1 ∧ ∀ fs, fcalls = some fs → fs.length ≤ sc.eff.retryCount
    | _ => True := by
  intro steps
  induction steps with
  | nil => nofun
  | cons st ss ih =>
    intro b
    cases st with
    | add t | remove nm => rw [runSteps]; exact List.forall_mem_cons.mpr ⟨trivial, ih _⟩
    | request q =>
      rw [runSteps]
      split
      · exact List.forall_mem_cons.mpr ⟨trivial, ih _⟩
      · have hb := C19_cfg_attempts (envOf sc q) sc.eff.retryCount false 0 0 b none q.hints
        refine List.forall_mem_cons.mpr ⟨⟨hb.1, fun fs hfs => ?_⟩, ih _⟩
        split at hfs
        · cases hfs; exact hb.2.1
        · cases hfs

/-! ## `Next` never comes back empty-handed while a target is there

The sequential fact behind the nil clause of the concurrent oracle (kind 4) and of the overlapped
`Next` calls (kind 6): by `C19_linearizable` every concurrent history is such an op sequence, and a
target that was added before a call started and is not removed until it returned is a member at the
call's linearization point. -/

/-- For every operation sequence from every state (any
    balancer kind, indices, stored last indices): as long as no operation removes the name of a
    target that is in the list, NO `Next` of the sequence returns `nil`. -/
theorem C19_next_not_nil_while_present (ops : List Op) (t : Target) :
    ∀ s : St, t ∈ s.bal.targets → (∀ o ∈ ops, ¬ o.removesName t.name) →
      ∀ r ∈ (runOps s ops).2, r ≠ .pick .nil :=
  fun s ht hno => (runOps_invariant (P := fun s => t ∈ s.bal.targets) ops
    (fun s hs o ho => ⟨stepOp_kept s o t (hno o ho) hs, fun hr => List.ne_nil_of_mem hs (stepOp_nil_empty hr)⟩)
    s ht).2

-- non-vacuity: a `Next` overlapping a `RemoveTarget("b")`, in its two legal orders — [a,b], index due on
-- the last target, the removal before or after the pick: never nil
example : (runOps ⟨true, ⟨[⟨['a'], 0⟩, ⟨['b'], 1⟩], 1⟩, []⟩ [.next 0 none, .remove ['b']]).2
    = [.pick (.tgt ⟨['b'], 1⟩), .bool true] := by decide
example : (runOps ⟨true, ⟨[⟨['a'], 0⟩, ⟨['b'], 1⟩], 1⟩, []⟩ [.remove ['b'], .next 0 none]).2
    = [.bool true, .pick (.tgt ⟨['a'], 0⟩)] := by decide

end C19
