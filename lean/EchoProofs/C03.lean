import EchoModel.C03
import EchoProofs.Lit
import EchoProofs.Spec.Sound
import EchoProofs.Spec.Allow
/-!
# C03 — 404 / 405 / OPTIONS contract and truthful Allow header (on the reference search)

The Allow value is that of the best position the search remembers; `search_sim` (Spec/Allow.lean) compares the
runs for two methods.
-/
namespace C03
open Router.Spec
open Router (Str routeNotFound Route methodOptions)

/-- **C03_404** — if no registered pattern (of any method, custom not-found routes included)
    can be instantiated to the request path, the answer is the router's 404. -/
theorem C03_404 (es : List Entry) (m path : Str)
    (hno : ∀ e ∈ es, ∀ w, inst e.toks w ≠ some path) : route es m path = .notFound := by
  have hcov : ∀ e, ¬ Covers (initial es) path e := by
    rintro e ⟨w, ts, hmem, hi, _⟩
    obtain ⟨he, rfl⟩ := mem_initial hmem
    exact hno e he w hi
  unfold route
  have hp := search_post m (bound (initial es) + 1) (initial es) path [] none
  generalize search m (bound (initial es) + 1) (initial es) path [] none = x at hp
  obtain ⟨res, b⟩ := x
  cases res with
  | hit e v =>
    obtain ⟨_, w, _, hw⟩ := hp.hit rfl
    exact absurd ⟨w, hw⟩ (hcov e)
  | miss =>
    rcases hp.best with rfl | ⟨_, bl, rfl, hc⟩
    · rfl
    · cases bl with
      | nil => simp [finish, findNF, isHandler]
      | cons e0 rest => exact absurd (hc e0 List.mem_cons_self) (hcov e0)

/-- **C03_allow_lists_options** — a 405 (204 for OPTIONS) outcome carries a non-empty Allow value that
    lists OPTIONS. -/
theorem C03_allow_lists_options (es : List Entry) (m path : Str) (allow : List Str)
    (h : route es m path = .methodNotAllowed allow) : allow ≠ [] ∧ methodOptions ∈ allow := by
  obtain ⟨b, _, _, _, rfl⟩ := finish_mna h
  simp [allowOf]

/-- **C03_allow_truthful** — every method the Allow header lists besides OPTIONS, sent to the
    same path, is dispatched to a handler registered for exactly that method. -/
theorem C03_allow_truthful (es : List Entry) (m path : Str) (allow : List Str)
    (h : route es m path = .methodNotAllowed allow) (m' : Str) (hm' : m' ∈ allow)
    (hopt : m' ≠ methodOptions) :
    ∃ e v, route es m' path = .dispatch e v ∧ e.method = m' ∧ e.method ≠ routeNotFound := by
  obtain ⟨b, hs, _, _, rfl⟩ := finish_mna h
  have hmem : ∃ e ∈ b, e.method = m' ∧ m' ≠ routeNotFound := by
    simp only [allowOf, List.mem_cons, List.mem_filter, List.mem_map] at hm'
    rcases hm' with rfl | ⟨⟨e, he, rfl⟩, hcond⟩
    · exact absurd rfl hopt
    · simp only [ne_eq, decide_eq_true_eq] at hcond
      exact ⟨e, he, rfl, hcond.2⟩
  obtain ⟨e, he, hme, hne⟩ := hmem
  have hsim := search_sim m m' (bound (initial es) + 1) (initial es) path []
  rw [hs] at hsim
  obtain ⟨e', v, hh, hmeth⟩ := ((hsim rfl).2 b rfl).1 ⟨e, he, hme⟩ hne
  exact ⟨e', v, finish_hit hh, hmeth, by rw [hmeth]; exact hne⟩

/-- **C03_allow_method_independent** — two unmatched methods get the same Allow value for the
    same path; in particular an OPTIONS request gets the Allow of the 405 answer. -/
theorem C03_allow_method_independent (es : List Entry) (m m' path : Str) (a a' : List Str)
    (h : route es m path = .methodNotAllowed a) (h' : route es m' path = .methodNotAllowed a') :
    a = a' := by
  obtain ⟨b, hs, _, _, rfl⟩ := finish_mna h
  obtain ⟨b', hs', _, _, rfl⟩ := finish_mna h'
  have hsim := search_sim m m' (bound (initial es) + 1) (initial es) path []
  rw [hs, hs'] at hsim
  have := ((hsim rfl).2 b rfl).2 rfl
  simp only [Option.some.injEq] at this
  rw [this]

/-- **C03_status** — the status the client sees when no handler of the table runs: 404 with
    no Allow, or — for a path served only for other methods — 204 for OPTIONS and 405
    otherwise, both with the Allow value of the position. -/
theorem C03_status (rs : List Route) (m path : Str) (code : Nat) (allow : List Str)
    (h : C03.answer rs m path = .status code allow) :
    (code = 404 ∧ allow = [] ∧ routeTable rs m path = .notFound) ∨
    (routeTable rs m path = .methodNotAllowed allow ∧
      ((m = methodOptions ∧ code = 204) ∨ (m ≠ methodOptions ∧ code = 405))) := by
  unfold C03.answer C03.respond at h
  cases hr : routeTable rs m path with
  | dispatch e v => simp [hr] at h
  | notFound =>
    simp only [hr, Answer.status.injEq] at h
    left; exact ⟨h.1.symm, h.2.symm, rfl⟩
  | methodNotAllowed al =>
    simp only [hr] at h
    right
    by_cases hm : m = methodOptions
    · simp only [hm, if_true, Answer.status.injEq] at h
      obtain ⟨rfl, rfl⟩ := h
      exact ⟨rfl, Or.inl ⟨hm, rfl⟩⟩
    · simp only [hm, if_false, Answer.status.injEq] at h
      obtain ⟨rfl, rfl⟩ := h
      exact ⟨rfl, Or.inr ⟨hm, rfl⟩⟩

/-- **C03_custom_404_wins** — when the search fails and the best position carries a custom
    not-found route, that handler runs (never 405). -/
theorem C03_custom_404_wins (b : List Entry) (e : Entry) (h : findNF b = some e) :
    finish (.miss, some b) = .dispatch e (e.pnames.map fun _ => []) := by
  simp [finish, h]

def tbl (l : List (String × String)) : List Route :=
  l.zipIdx.map fun ((m, p), i) => (⟨m.toList, p.toList, i⟩ : Route)

example : C03.answer (tbl [("GET", "/a/:id"), ("POST", "/a/b")]) "PUT".toList "/a/b".toList
    = .status 405 ["OPTIONS".toList, "POST".toList] := by
  simp only [tbl, List.zipIdx_cons, List.zipIdx_nil, List.map_cons, List.map_nil]
  lit_chars
  decide +kernel
example : C03.answer (tbl [("GET", "/a/:id"), ("POST", "/a/b")]) "OPTIONS".toList "/a/b".toList
    = .status 204 ["OPTIONS".toList, "POST".toList] := by
  simp only [tbl, List.zipIdx_cons, List.zipIdx_nil, List.map_cons, List.map_nil]
  lit_chars
  decide +kernel
example : C03.answer (tbl [("GET", "/a/:id"), ("POST", "/a/b")]) "GET".toList "/x".toList
    = .status 404 [] := by
  simp only [tbl, List.zipIdx_cons, List.zipIdx_nil, List.map_cons, List.map_nil]
  lit_chars
  decide +kernel

end C03
