import EchoModel.C06Nest
import EchoProofs.C06Hooks
/-!
# C06 — a Response whose writer is a Response: theorems

* `C06N_outer_refines` — whatever the tower of Responses above it does, and whichever layer a
  handler program addresses, the Response next to the underlying writer (layer 0) only ever sees
  a sequence of calls of its own public operations: the run, projected onto layer 0 and the
  underlying writer, IS a run of the single-Response model `C06H` on some program.  An inner
  Response is just another handler program for the outer one.
* `C06N_outer_inv`, `C06N_outer_bookkeeping`, `C06N_outer_after_hooks_each_write`,
  `C06N_outer_before_hooks_not_after_headers` — hence everything proved for a single Response
  holds for the outer one: at most one `WriteHeader` reaches the writer, `Committed` tells whether
  it did, `Status` / `Size` are what was sent, its before-hooks run before that `WriteHeader` and
  never afterwards, its after-hooks after each body write.
* `C06N_down` — for every program: a layer that says `Committed` is right about the wire (every
  layer below it, down to the writer, is committed too) and no layer counts more bytes than the
  layer below it.
* `C06N_pure_nesting_agrees` — when the status / body operations all go through the top layer
  (an application mounted inside another one, the outer layers only registering hooks), all
  layers agree: same `Committed`, same `Size`, and once committed the same `Status`.
-/
namespace C06N

/-! ## frame: writer number `k` touches only the layers below `k` -/

@[simp] theorem setLayer_same (s : St) (k : Nat) (l : Layer) : (setLayer s k l).layer k = l :=
  if_pos rfl
theorem setLayer_ne (s : St) {k j : Nat} (l : Layer) (h : j ≠ k) : (setLayer s k l).layer j = s.layer j :=
  if_neg h
@[simp] theorem emit_layer (s : St) (e : Ev) : (emit s e).layer = s.layer := rfl
@[simp] theorem emits_layer (s : St) (es : List Ev) : (emits s es).layer = s.layer := rfl
@[simp] theorem setLayer_hdrs (s : St) (k : Nat) (l : Layer) : (setLayer s k l).hdrs = s.hdrs := rfl
@[simp] theorem setLayer_body (s : St) (k : Nat) (l : Layer) : (setLayer s k l).body = s.body := rfl
@[simp] theorem setLayer_trace (s : St) (k : Nat) (l : Layer) : (setLayer s k l).trace = s.trace := rfl
@[simp] theorem emit_hdrs (s : St) (e : Ev) : (emit s e).hdrs = s.hdrs := rfl
@[simp] theorem emit_body (s : St) (e : Ev) : (emit s e).body = s.body := rfl
@[simp] theorem emit_trace (s : St) (e : Ev) : (emit s e).trace = s.trace ++ [e] := rfl
@[simp] theorem emits_hdrs (s : St) (es : List Ev) : (emits s es).hdrs = s.hdrs := rfl
@[simp] theorem emits_body (s : St) (es : List Ev) : (emits s es).body = s.body := rfl
@[simp] theorem emits_trace (s : St) (es : List Ev) : (emits s es).trace = s.trace ++ es := rfl

theorem wh_of_committed {k : Nat} {s : St} (h : (s.layer k).committed = true) (c : Nat) :
    wh (k + 1) s c = emit s (.warn k) := by
  rw [wh, if_pos h]

theorem wh_layer_ge (k : Nat) (s : St) (c j : Nat) (hj : k ≤ j) : (wh k s c).layer j = s.layer j := by
  induction k generalizing s with
  | zero => rfl
  | succ k ih =>
    have hne : j ≠ k := by omega
    rw [wh]
    split
    · rfl
    · exact (setLayer_ne _ _ hne).trans ((ih _ (by omega)).trans (setLayer_ne _ _ hne))

/-- the status an implicit commit sends: `if r.Status == 0 { r.Status = http.StatusOK }` -/
def Layer.implicitStatus (l : Layer) : Nat := if l.status = 0 then 200 else l.status

theorem commit_of_uncommitted {k : Nat} {s : St} (h : (s.layer k).committed = false) :
    commit k s = wh (k + 1) s (s.layer k).implicitStatus := by
  rw [commit, h]
  rfl

theorem commit_of_committed (k : Nat) (s : St) (h : (s.layer k).committed = true) : commit k s = s :=
  if_pos h

theorem commit_layer_ge (k : Nat) (s : St) (j : Nat) (h : k + 1 ≤ j) : (commit k s).layer j = s.layer j := by
  unfold commit
  split
  · rfl
  · exact wh_layer_ge _ _ _ _ h

theorem wr_layer_ge (k : Nat) (s : St) (n j : Nat) (hj : k ≤ j) : (wr k s n).layer j = s.layer j := by
  induction k generalizing s with
  | zero => rfl
  | succ k ih =>
    rw [wr]
    exact (setLayer_ne _ _ (by omega)).trans ((ih _ (by omega)).trans (commit_layer_ge _ _ _ hj))

theorem fl_layer_ge : ∀ (k : Nat) (s : St) (j : Nat), k ≤ j → (fl k s).layer j = s.layer j := by
  intro k
  induction k with
  | zero => intro s j _; rfl
  | succ k ih =>
    intro s j hj
    rw [fl]
    exact (ih _ _ (by omega)).trans (commit_layer_ge _ _ _ hj)

/-! ## projection onto layer 0 and the underlying writer -/

def projEv : Ev → Option C06H.Ev
  | .regB 0 h => some (.regB h)
  | .regA 0 h => some (.regA h)
  | .runB 0 h => some (.runB h)
  | .runA 0 h => some (.runA h)
  | .hdr c => some (.hdr c)
  | .body k => some (.body k)
  | .rflush => some .rflush
  | .warn 0 => some .warn
  | _ => none

/-- an observer hook -/
def mk (h : Nat) : C06H.Hook := ⟨h, none⟩

def proj (s : St) : C06H.St :=
  { committed := (s.layer 0).committed, status := (s.layer 0).status, size := (s.layer 0).size,
    before := (s.layer 0).before.map mk, after := (s.layer 0).after.map mk,
    hdrs := s.hdrs, body := s.body, trace := s.trace.filterMap projEv }

theorem proj_congr {s t : St} (hl : t.layer 0 = s.layer 0) (hh : t.hdrs = s.hdrs) (hb : t.body = s.body)
    (ht : t.trace.filterMap projEv = s.trace.filterMap projEv) : proj t = proj s := by
  simp only [proj, hl, hh, hb, ht]

theorem proj_emits_hidden (s : St) {es : List Ev} (h : es.filterMap projEv = []) :
    proj (emits s es) = proj s :=
  proj_congr rfl rfl rfl (by rw [emits_trace, List.filterMap_append, h, List.append_nil])

theorem proj_emit_hidden (s : St) {e : Ev} (h : projEv e = none) : proj (emit s e) = proj s :=
  proj_emits_hidden s (es := [e]) (List.filterMap_cons_none h)

theorem proj_emit_shown (s : St) {e : Ev} {e' : C06H.Ev} (h : projEv e = some e') :
    proj (emit s e) = C06H.emit (proj s) e' := by
  unfold proj C06H.emit
  rw [emit_trace, List.filterMap_append, List.filterMap_cons_some h]
  rfl

theorem filterMap_hidden {f : Nat → Ev} (hf : ∀ h, projEv (f h) = none) (l : List Nat) :
    (l.map f).filterMap projEv = [] := by
  rw [List.filterMap_map]
  exact List.filterMap_eq_nil_iff.mpr fun h _ => hf h

theorem proj_setLayer_succ (s : St) (k : Nat) (l : Layer) : proj (setLayer s (k + 1) l) = proj s :=
  proj_congr (setLayer_ne _ _ (Nat.succ_ne_zero k).symm) rfl rfl rfl

theorem foldl_emit (es : List C06H.Ev) : ∀ t : C06H.St,
    es.foldl C06H.emit t = { t with trace := t.trace ++ es } := by
  induction es with
  | nil => intro t; simp
  | cons e es ih => intro t; simp [ih, C06H.emit]

/-- observer hooks only show up in the trace -/
theorem foldl_fireB (l : List Nat) (t : C06H.St) :
    (l.map mk).foldl C06H.fireB t = { t with trace := t.trace ++ l.map C06H.Ev.runB } := by
  rw [← foldl_emit, List.foldl_map, List.foldl_map]
  rfl

theorem foldl_fireA (l : List Nat) (t : C06H.St) :
    (l.map mk).foldl C06H.fireA t = { t with trace := t.trace ++ l.map C06H.Ev.runA } := by
  rw [← foldl_emit, List.foldl_map, List.foldl_map]
  rfl

theorem filterMap_shown {f : Nat → Ev} {g : Nat → C06H.Ev} (hf : ∀ h, projEv (f h) = some (g h))
    (l : List Nat) : (l.map f).filterMap projEv = l.map g := by
  rw [List.filterMap_map, show projEv ∘ f = fun h => some (g h) from funext hf]
  exact congrFun List.filterMap_eq_map' l

theorem proj_wh1 (s : St) (c : Nat) : proj (wh 1 s c) = C06H.writeHeader (proj s) c := by
  unfold wh C06H.writeHeader
  by_cases hc : (s.layer 0).committed = true
  · simp [hc, proj, C06H.emit, projEv]
  · simp only [hc, Bool.false_eq_true, if_false, proj, wh]
    simp only [C06H.forward, C06H.runBefore, C06H.emit, foldl_fireB, setLayer, emit, emits,
      List.filterMap_append, filterMap_shown (f := Ev.runB 0) (g := C06H.Ev.runB) fun _ => rfl, projEv, if_true,
      List.filterMap_cons, List.filterMap_nil, List.append_assoc]

theorem proj_commit0 (s : St) : proj (commit 0 s) = C06H.ensureCommitted (proj s) := by
  unfold commit C06H.ensureCommitted
  by_cases hc : (s.layer 0).committed = true
  · rw [if_pos hc, if_pos (show (proj s).committed = true from hc)]
  · rw [if_neg hc, if_neg (show ¬(proj s).committed = true from hc)]
    exact proj_wh1 s _

theorem proj_wr1 (s : St) (n : Nat) : proj (wr 1 s n) = C06H.write (proj s) n := by
  unfold C06H.write wr
  rw [← proj_commit0]
  generalize commit 0 s = t
  simp only [wr, C06H.runAfter, C06H.putBody, C06H.emit, proj, foldl_fireA, setLayer, emit, emits,
    List.filterMap_append, filterMap_shown (f := Ev.runA 0) (g := C06H.Ev.runA) fun _ => rfl, projEv,
    if_true, List.filterMap_cons, List.filterMap_nil, List.append_assoc]

theorem proj_fl1 (s : St) : proj (fl 1 s) = C06H.flush (proj s) := by
  unfold C06H.flush fl
  rw [← proj_commit0]
  generalize commit 0 s = t
  simp only [fl, C06H.emit, proj, emit, List.filterMap_append, projEv, List.filterMap_cons,
    List.filterMap_nil]

/-- the first half of `JSON` on layer `k`: the status is preset, or refused with a warning -/
def preset (s : St) (k c : Nat) : St :=
  if (s.layer k).committed then emit s (.warn k) else setLayer s k { s.layer k with status := c }

theorem proj_preset0 (s : St) (c : Nat) : proj (preset s 0 c) = C06H.step (proj s) (.json c 0 false) := by
  unfold preset
  by_cases hc : (s.layer 0).committed = true
  · rw [if_pos hc]
    exact (proj_emit_shown s rfl).trans (if_pos (show (proj s).committed = true from hc)).symm
  · rw [if_neg hc]
    exact (if_neg (show ¬(proj s).committed = true from hc)).symm

theorem proj_before0 (s : St) (h : Nat) :
    proj (step s (.before 0 h)) = C06H.step (proj s) (.before (mk h)) := by
  refine (proj_emit_shown _ rfl).trans (congrArg (C06H.emit · _) ?_)
  unfold proj
  rw [setLayer_same, List.map_append]
  rfl

theorem proj_after0 (s : St) (h : Nat) :
    proj (step s (.after 0 h)) = C06H.step (proj s) (.after (mk h)) := by
  refine (proj_emit_shown _ rfl).trans (congrArg (C06H.emit · _) ?_)
  unfold proj
  rw [setLayer_same, List.map_append]
  rfl

/-! ## the refinement: what reaches layer 0 is a program of its own operations -/

/-- `b` is reached from `a` by calling operations of the single-Response model -/
def Calls (a b : C06H.St) : Prop := ∃ ops : List C06H.Op, b = C06H.run a ops

theorem Calls.of_eq {a b : C06H.St} (h : b = a) : Calls a b := ⟨[], h⟩

theorem Calls.trans' {a b c : C06H.St} (h1 : Calls a b) (h2 : Calls b c) : Calls a c := by
  obtain ⟨o1, rfl⟩ := h1
  obtain ⟨o2, rfl⟩ := h2
  exact ⟨o1 ++ o2, (List.foldl_append ..).symm⟩

theorem Calls.step' {a b : C06H.St} (op : C06H.Op) (h : b = C06H.step a op) : Calls a b := ⟨[op], h⟩

theorem calls_wh (k : Nat) (s : St) (c : Nat) : Calls (proj s) (proj (wh (k + 1) s c)) := by
  induction k generalizing s with
  | zero => exact .step' (.writeHeader c) (proj_wh1 s c)
  | succ k ih =>
    rw [wh]
    split
    · exact .of_eq (proj_emit_hidden _ rfl)
    · rw [proj_setLayer_succ]
      refine .trans' (.of_eq ?_) (ih _)
      rw [proj_setLayer_succ]
      exact proj_emits_hidden _ (filterMap_hidden (fun _ => rfl) _)

theorem calls_commit (k : Nat) (s : St) : Calls (proj s) (proj (commit k s)) := by
  unfold commit
  split
  · exact .of_eq rfl
  · exact calls_wh _ _ _

theorem calls_wr (k : Nat) (s : St) (n : Nat) : Calls (proj s) (proj (wr (k + 1) s n)) := by
  induction k generalizing s with
  | zero => exact .step' (.write n) (proj_wr1 s n)
  | succ k ih =>
    rw [wr, proj_emits_hidden _ (filterMap_hidden (fun _ => rfl) _), proj_setLayer_succ]
    exact (calls_commit _ _).trans' (ih _)

theorem calls_fl (k : Nat) (s : St) : Calls (proj s) (proj (fl (k + 1) s)) := by
  induction k generalizing s with
  | zero => exact .step' .flush (proj_fl1 s)
  | succ k ih => exact (calls_commit _ _).trans' (ih _)

theorem calls_preset (s : St) (k c : Nat) : Calls (proj s) (proj (preset s k c)) := by
  cases k with
  | zero => exact .step' _ (proj_preset0 s c)
  | succ k =>
    unfold preset
    split
    · exact .of_eq (proj_emit_hidden _ rfl)
    · exact .of_eq (proj_setLayer_succ _ _ _)

theorem calls_step (s : St) (op : Op) : Calls (proj s) (proj (step s op)) := by
  cases op with
  | before k h =>
    cases k with
    | zero => exact .step' _ (proj_before0 s h)
    | succ k => exact .of_eq ((proj_emit_hidden _ rfl).trans (proj_setLayer_succ _ _ _))
  | after k h =>
    cases k with
    | zero => exact .step' _ (proj_after0 s h)
    | succ k => exact .of_eq ((proj_emit_hidden _ rfl).trans (proj_setLayer_succ _ _ _))
  | writeHeader k c => exact calls_wh _ _ _
  | write k n => exact calls_wr _ _ _
  | flush k => exact calls_fl _ _
  | blob k c n => exact (calls_wh _ _ _).trans' (calls_wr _ _ _)
  | json k c n ok =>
    cases ok with
    | false => exact calls_preset s k c
    | true => exact (calls_preset s k c).trans' (calls_wr _ _ _)

/-- **C06N_outer_refines** — a tower of Responses of any height, a handler program addressing
    any of its layers: what the Response next to the underlying writer and that writer go through
    is a run of the single-Response model on some program of ITS operations. -/
theorem C06N_outer_refines (p : Nat → Nat) (prog : List Op) :
    ∃ ops : List C06H.Op, proj (run (init p) prog) = C06H.run (C06H.init (p 0)) ops :=
  prog.foldlRecOn (motive := fun s => Calls (C06H.init (p 0)) (proj s)) step (.of_eq rfl)
    fun s h op _ => h.trans' (calls_step s op)

/-- **C06N_outer_inv** — so the invariant of the single-Response model holds for it. -/
theorem C06N_outer_inv (p : Nat → Nat) (prog : List Op) : C06H.Inv (proj (run (init p) prog)) := by
  obtain ⟨ops, h⟩ := C06N_outer_refines p prog
  rw [h]
  exact C06H.C06H_inv _ _

/-- **C06N_outer_bookkeeping** — spelled out: whichever layers the program addressed, the outer
    Response's `Committed` tells whether the (one) `WriteHeader` reached the underlying writer, it
    carried `Status`, `Size` is the number of body bytes the writer got, and the events of layer 0
    and of the writer form a trace the hook specification accepts. -/
theorem C06N_outer_bookkeeping (p : Nat → Nat) (prog : List Op) :
    let s := run (init p) prog
    ((s.layer 0).committed = true → s.hdrs = [(s.layer 0).status]) ∧
    ((s.layer 0).committed = false → s.hdrs = [] ∧ s.body = 0) ∧
    (s.layer 0).size = s.body ∧
    C06H.traceOK (s.trace.filterMap projEv) = true := by
  intro s
  have h := C06N_outer_inv p prog
  obtain ⟨ops, he⟩ := C06N_outer_refines p prog
  exact ⟨h.sent, h.unsent, h.size, (congrArg (fun t => C06H.traceOK t.trace) he).trans (C06H.C06H_trace_ok (p 0) ops)⟩

/-- **C06N_outer_after_hooks_each_write** — every after-hook the outer Response had when a body
    write reached the underlying writer runs after that write, whoever issued the write. -/
theorem C06N_outer_after_hooks_each_write (p : Nat → Nat) (prog : List Op) (pre post : List C06H.Ev) (k : Nat)
    (htr : (run (init p) prog).trace.filterMap projEv = pre ++ .body k :: post) :
    C06H.regAs pre <+: C06H.runAs post := by
  obtain ⟨ops, he⟩ := C06N_outer_refines p prog
  exact C06H.C06H_after_hooks_each_write (p 0) ops pre post k ((congrArg C06H.St.trace he).symm.trans htr)

/-- **C06N_outer_before_hooks_not_after_headers** — after the `WriteHeader` that reached the
    underlying writer no before-hook of the outer Response runs and no second `WriteHeader`
    arrives there. -/
theorem C06N_outer_before_hooks_not_after_headers (p : Nat → Nat) (prog : List Op) (pre post : List C06H.Ev)
    (c : Nat) (htr : (run (init p) prog).trace.filterMap projEv = pre ++ .hdr c :: post) :
    C06H.runBs post = [] ∧ C06H.hdrsOf post = [] := by
  obtain ⟨ops, he⟩ := C06N_outer_refines p prog
  exact C06H.C06H_before_hooks_not_after_headers (p 0) ops pre post c ((congrArg C06H.St.trace he).symm.trans htr)

/-! ## what the writer calls do to the layers

On a tower whose `Committed` flags are downward closed (`Down`, an invariant) each call has a
closed form: `WriteHeader(c)` on writer `k` commits, with status `c`, exactly the layers below `k`
that were not committed yet; `Write` and `Flush` are that commit followed by a call that only
counts bytes. -/

/-- a layer after a `WriteHeader(c)` passed through it -/
def Layer.commitWith (l : Layer) (c : Nat) : Layer :=
  if l.committed then l else { l with status := c, committed := true }

theorem Layer.commitWith_of_committed {l : Layer} (h : l.committed = true) (c : Nat) :
    l.commitWith c = l := if_pos h

theorem Layer.commitWith_of_uncommitted {l : Layer} (h : l.committed = false) (c : Nat) :
    l.commitWith c = { l with status := c, committed := true } := by
  rw [commitWith, h]; rfl

@[simp] theorem Layer.commitWith_committed (l : Layer) (c : Nat) : (l.commitWith c).committed = true := by
  unfold commitWith
  split
  · assumption
  · rfl

@[simp] theorem Layer.commitWith_size (l : Layer) (c : Nat) : (l.commitWith c).size = l.size := by
  unfold commitWith
  split <;> rfl

/-- a layer after `n` more body bytes passed through it -/
def Layer.count (l : Layer) (n : Nat) : Layer := { l with size := l.size + n }

def Down (s : St) : Prop := ∀ k, (s.layer (k + 1)).committed = true → (s.layer k).committed = true

theorem Down.chain {s : St} (h : Down s) {k j : Nat} (hj : j ≤ k) :
    (s.layer k).committed = true → (s.layer j).committed = true := by
  induction hj with
  | refl => exact id
  | step _ ih => exact fun hc => ih (h _ hc)

/-- after a call on writer `k`: every layer below `k` is committed, the flags from `k` on are as
    they were (`k = 0`: no flag has changed) -/
theorem Down.of_below {s t : St} (h : Down s) (k : Nat) (hlt : ∀ j, j < k → (t.layer j).committed = true)
    (hge : ∀ j, k ≤ j → (t.layer j).committed = (s.layer j).committed) : Down t := by
  intro i hi
  by_cases hik : i < k
  · exact hlt i hik
  · have hki := Nat.le_of_not_lt hik
    rw [hge i hki]
    rw [hge (i + 1) (Nat.le_succ_of_le hki)] at hi
    exact h i hi

theorem setLayer_congr {α : Type} (f : Layer → α) {s : St} {k : Nat} {l : Layer} (e : f l = f (s.layer k))
    (i : Nat) : f ((setLayer s k l).layer i) = f (s.layer i) := by
  by_cases ei : i = k
  · rw [ei, setLayer_same, e]
  · rw [setLayer_ne _ _ ei]

theorem Down.of_committed_eq {s t : St} (h : Down s)
    (e : ∀ j, (t.layer j).committed = (s.layer j).committed) : Down t :=
  h.of_below 0 (fun _ hj => absurd hj (Nat.not_lt_zero _)) fun j _ => e j

theorem Down.setLayer {s : St} (h : Down s) {k : Nat} {l : Layer} (e : l.committed = (s.layer k).committed) :
    Down (setLayer s k l) :=
  h.of_committed_eq (setLayer_congr Layer.committed e)

theorem ite_lt_succ {α : Type} {j k : Nat} (ej : j ≠ k) (a b : α) :
    (if j < k then a else b) = if j < k + 1 then a else b :=
  ite_congr (propext ⟨Nat.lt_succ_of_lt, fun h => Nat.lt_of_le_of_ne (Nat.le_of_lt_succ h) ej⟩)
    (fun _ => rfl) (fun _ => rfl)

/-- `wh (k + 1)` with the frame applied to its inner call -/
theorem wh_of_uncommitted (k : Nat) (s : St) (c : Nat) (hc : (s.layer k).committed = false) :
    wh (k + 1) s c =
      setLayer (wh k (setLayer (emits s ((s.layer k).before.map (.runB k))) k { s.layer k with status := c }) c) k
        { s.layer k with status := c, committed := true } := by
  rw [wh, hc, if_neg Bool.false_ne_true]
  show setLayer _ k { (wh k _ c).layer k with committed := true } = _
  rw [wh_layer_ge _ _ _ _ (Nat.le_refl k), emits_layer, setLayer_same]

theorem wh_layer (k : Nat) (s : St) (c : Nat) (h : Down s) (j : Nat) :
    (wh k s c).layer j = if j < k then (s.layer j).commitWith c else s.layer j := by
  induction k generalizing s with
  | zero => rfl
  | succ k ih =>
    cases hc : (s.layer k).committed with
    | true =>
      rw [wh_of_committed hc]
      split
      · rename_i hj
        exact (Layer.commitWith_of_committed (h.chain (Nat.le_of_lt_succ hj) hc) c).symm
      · rfl
    | false =>
      rw [wh_of_uncommitted k s c hc]
      by_cases ej : j = k
      · rw [ej, setLayer_same, if_pos (Nat.lt_succ_self k), Layer.commitWith_of_uncommitted hc]
      · have hd : Down (setLayer (emits s ((s.layer k).before.map (.runB k))) k { s.layer k with status := c }) :=
          Down.setLayer (s := emits s _) h rfl
        rw [setLayer_ne _ _ ej, ih _ hd, setLayer_ne _ _ ej, ite_lt_succ ej]
        rfl

theorem wh_down {k : Nat} {s : St} (c : Nat) (h : Down s) : Down (wh k s c) :=
  h.of_below k (fun j hj => by rw [wh_layer k s c h, if_pos hj]; exact Layer.commitWith_committed _ _)
    (fun j hj => by rw [wh_layer_ge _ _ _ _ hj])

/-- as far as the layers go, the implicit commit of layer `k` is a `WriteHeader` on it (a
    refused one if the layer is committed) -/
theorem commit_layer (k : Nat) (s : St) :
    (commit k s).layer = (wh (k + 1) s (s.layer k).implicitStatus).layer := by
  cases hc : (s.layer k).committed with
  | true =>
    rw [commit_of_committed k s hc, wh_of_committed hc]
    rfl
  | false => rw [commit_of_uncommitted hc]

theorem commit_committed {k : Nat} {s : St} (h : Down s) {j : Nat} (hj : j < k + 1) :
    ((commit k s).layer j).committed = true := by
  rw [commit_layer, wh_layer _ _ _ h, if_pos hj]
  exact Layer.commitWith_committed _ _

theorem fl_of_committed (k : Nat) (s : St) (h : ∀ j, j < k → (s.layer j).committed = true) :
    (fl k s).layer = s.layer := by
  induction k with
  | zero => rfl
  | succ k ih =>
    rw [fl, commit_of_committed k s (h k (Nat.lt_succ_self k))]
    exact ih fun i hi => h i (Nat.lt_succ_of_lt hi)

theorem wr_of_committed (k : Nat) (s : St) (n : Nat) (h : ∀ j, j < k → (s.layer j).committed = true)
    (j : Nat) : (wr k s n).layer j = if j < k then (s.layer j).count n else s.layer j := by
  induction k with
  | zero => rfl
  | succ k ih =>
    rw [wr, commit_of_committed k s (h k (Nat.lt_succ_self k))]
    show (setLayer _ k (((wr k s n).layer k).count n)).layer j = _
    by_cases ej : j = k
    · rw [ej, setLayer_same, if_pos (Nat.lt_succ_self k), wr_layer_ge _ _ _ _ (Nat.le_refl k)]
    · rw [setLayer_ne _ _ ej, ih fun i hi => h i (Nat.lt_succ_of_lt hi), ite_lt_succ ej]

theorem fl_succ_layer (k : Nat) {s : St} (h : Down s) :
    (fl (k + 1) s).layer = (wh (k + 1) s (s.layer k).implicitStatus).layer := by
  rw [fl, ← commit_layer]
  exact fl_of_committed k _ fun j hj => commit_committed h (Nat.lt_succ_of_lt hj)

theorem wr_succ_layer (k : Nat) {s : St} (n : Nat) (h : Down s) (j : Nat) :
    (wr (k + 1) s n).layer j =
      if j < k + 1 then ((wh (k + 1) s (s.layer k).implicitStatus).layer j).count n
      else (wh (k + 1) s (s.layer k).implicitStatus).layer j := by
  have hc : ∀ j, j < k + 1 → ((commit k s).layer j).committed = true := fun _ => commit_committed h
  rw [← commit_layer, ← wr_of_committed (k + 1) (commit k s) n hc, wr, wr,
    commit_of_committed k (commit k s) (hc k (Nat.lt_succ_self k))]

theorem fl_down (k : Nat) {s : St} (h : Down s) : Down (fl (k + 1) s) := fun i => by
  rw [fl_succ_layer k h]
  exact wh_down _ h i

theorem wr_down (k : Nat) {s : St} (n : Nat) (h : Down s) : Down (wr (k + 1) s n) :=
  (wh_down _ h).of_committed_eq fun j => by
    rw [wr_succ_layer k n h]
    split <;> rfl

theorem preset_down {s : St} (k c : Nat) (h : Down s) : Down (preset s k c) := by
  unfold preset
  split
  · exact h
  · exact h.setLayer rfl

theorem step_down (s : St) (op : Op) (h : Down s) : Down (step s op) := by
  cases op with
  | before k _ | after k _ => exact h.setLayer rfl
  | writeHeader k c => exact wh_down c h
  | write k n => exact wr_down k n h
  | flush k => exact fl_down k h
  | blob k c n => exact wr_down k n (wh_down c h)
  | json k c n ok =>
    cases ok with
    | false => exact preset_down k c h
    | true => exact wr_down k _ (preset_down k c h)

theorem init_down (p : Nat → Nat) : Down (init p) := fun _ h => Bool.noConfusion h

/-! ### sizes -/

def SizeLe (s : St) : Prop := ∀ k, (s.layer (k + 1)).size ≤ (s.layer k).size

theorem SizeLe.chain {s : St} (h : SizeLe s) {k j : Nat} (hj : j ≤ k) : (s.layer k).size ≤ (s.layer j).size := by
  induction hj with
  | refl => exact Nat.le_refl _
  | step _ ih => exact Nat.le_trans (h _) ih

/-- after a call on writer `k` that wrote `n` bytes: they are counted on every layer below `k`, the
    sizes from `k` on are as they were (`k = 0`: no size has changed) -/
theorem SizeLe.of_below {s t : St} (h : SizeLe s) (k n : Nat)
    (hlt : ∀ j, j < k → (t.layer j).size = (s.layer j).size + n)
    (hge : ∀ j, k ≤ j → (t.layer j).size = (s.layer j).size) : SizeLe t := by
  intro i
  have := h i
  by_cases h1 : i + 1 < k
  · rw [hlt _ h1, hlt i (Nat.lt_of_succ_lt h1)]
    exact Nat.add_le_add_right this n
  · rw [hge _ (Nat.le_of_not_lt h1)]
    by_cases h2 : i < k
    · rw [hlt i h2]
      exact Nat.le_trans this (Nat.le_add_right _ n)
    · rw [hge i (Nat.le_of_not_lt h2)]
      exact this

theorem SizeLe.of_size_eq {s t : St} (h : SizeLe s) (e : ∀ j, (t.layer j).size = (s.layer j).size) : SizeLe t :=
  h.of_below 0 0 (fun _ hj => absurd hj (Nat.not_lt_zero _)) fun j _ => e j

theorem wh_size {k : Nat} {s : St} (c : Nat) (h : Down s) (j : Nat) :
    ((wh k s c).layer j).size = (s.layer j).size := by
  rw [wh_layer k s c h]
  split
  · exact Layer.commitWith_size _ _
  · rfl

theorem wr_sizeLe (k : Nat) {s : St} (n : Nat) (h : Down s) (hs : SizeLe s) : SizeLe (wr (k + 1) s n) :=
  (hs.of_size_eq (wh_size _ h)).of_below (k + 1) n
    (fun j hj => by rw [wr_succ_layer k n h, if_pos hj]; rfl)
    (fun j hj => by rw [wr_succ_layer k n h, if_neg (Nat.not_lt_of_le hj)])

theorem preset_sizeLe {s : St} (k c : Nat) (hs : SizeLe s) : SizeLe (preset s k c) := by
  unfold preset
  split
  · exact hs
  · exact hs.of_size_eq (setLayer_congr Layer.size rfl)

theorem step_sizeLe (s : St) (op : Op) (h : Down s) (hs : SizeLe s) : SizeLe (step s op) := by
  cases op with
  | before k _ | after k _ => exact hs.of_size_eq (setLayer_congr Layer.size rfl)
  | writeHeader k c => exact hs.of_size_eq (wh_size c h)
  | write k n => exact wr_sizeLe k n h hs
  | flush k => exact hs.of_size_eq fun j => by rw [step, fl_succ_layer k h]; exact wh_size _ h j
  | blob k c n => exact wr_sizeLe k n (wh_down c h) (hs.of_size_eq (wh_size c h))
  | json k c n ok =>
    cases ok with
    | false => exact preset_sizeLe k c hs
    | true => exact wr_sizeLe k _ (preset_down k c h) (preset_sizeLe k c hs)

/-- **C06N_down** — for every program on a tower of any height: if a layer says `Committed`
    then so does every layer below it, and no layer counts more body bytes than a layer below it. -/
theorem C06N_down (p : Nat → Nat) (prog : List Op) (k j : Nat) (hj : j ≤ k) :
    let s := run (init p) prog
    ((s.layer k).committed = true → (s.layer j).committed = true) ∧ (s.layer k).size ≤ (s.layer j).size := by
  intro s
  have ⟨hd, hs⟩ : Down s ∧ SizeLe s :=
    prog.foldlRecOn (motive := fun s => Down s ∧ SizeLe s) step ⟨init_down p, fun _ => Nat.le_refl _⟩
      fun s h op _ => ⟨step_down s op h.1, step_sizeLe s op h.1 h.2⟩
  exact ⟨hd.chain hj, hs.chain hj⟩

/-- **C06N_committed_layer_is_right_about_the_wire** — together with the outer invariant: any
    layer that says `Committed` is right (exactly one `WriteHeader` reached the underlying writer)
    and no layer's `Size` exceeds the bytes the writer got. -/
theorem C06N_committed_layer_is_right_about_the_wire (p : Nat → Nat) (prog : List Op) (k : Nat) :
    let s := run (init p) prog
    ((s.layer k).committed = true → s.hdrs = [(s.layer 0).status]) ∧ (s.layer k).size ≤ s.body := by
  intro s
  obtain ⟨h1, h2⟩ := C06N_down p prog k 0 (Nat.zero_le k)
  obtain ⟨b1, _, b3, _⟩ := C06N_outer_bookkeeping p prog
  exact ⟨fun hc => b1 (h1 hc), b3 ▸ h2⟩

/-! ## an application mounted inside another one: all layers agree -/

/-- status / body operations go through the top layer of a tower of height `d`; hooks may be
    registered on any layer (the outer application's middleware holds the outer context) -/
def TopOnly (d : Nat) : Op → Prop
  | .before _ _ => True
  | .after _ _ => True
  | .writeHeader k _ => k + 1 = d
  | .write k _ => k + 1 = d
  | .flush k => k + 1 = d
  | .blob k _ _ => k + 1 = d
  | .json k _ _ _ => k + 1 = d

def Agree (d : Nat) (s : St) : Prop := ∀ k, k < d →
  (s.layer k).committed = (s.layer 0).committed ∧ (s.layer k).size = (s.layer 0).size ∧
  ((s.layer 0).committed = true → (s.layer k).status = (s.layer 0).status)

/-- what `Agree` asks of a layer `l` and layer 0 -/
def Layer.Agrees (l l0 : Layer) : Prop :=
  l.committed = l0.committed ∧ l.size = l0.size ∧ (l0.committed = true → l.status = l0.status)

theorem Layer.Agrees.commitWith {l l0 : Layer} (h : l.Agrees l0) (c : Nat) :
    (l.commitWith c).Agrees (l0.commitWith c) := by
  cases h0 : l0.committed with
  | true => rwa [commitWith_of_committed (h.1.trans h0), commitWith_of_committed h0]
  | false =>
    rw [commitWith_of_uncommitted (h.1.trans h0), commitWith_of_uncommitted h0]
    exact ⟨rfl, h.2.1, fun _ => rfl⟩

theorem Layer.Agrees.count {l l0 : Layer} (h : l.Agrees l0) (n : Nat) : (l.count n).Agrees (l0.count n) :=
  ⟨h.1, congrArg (· + n) h.2.1, h.2.2⟩

/-- a call through the top layer does the same to every layer of the tower -/
theorem agree_map {d : Nat} {s t : St} {F : Layer → Layer} (h : Agree d s)
    (hF : ∀ {l l0 : Layer}, l.Agrees l0 → (F l).Agrees (F l0)) (ht : ∀ j, j < d → t.layer j = F (s.layer j)) :
    Agree d t := by
  intro k hk
  rw [ht k hk, ht 0 (Nat.zero_lt_of_lt hk)]
  exact hF (h k hk)

theorem agree_setLayer {d : Nat} {s : St} {k : Nat} {l : Layer} (h : Agree d s)
    (e1 : l.committed = (s.layer k).committed) (e2 : l.size = (s.layer k).size)
    (e3 : (s.layer 0).committed = true → l.status = (s.layer k).status) : Agree d (setLayer s k l) := by
  intro j hj
  have c := setLayer_congr Layer.committed e1
  have z := setLayer_congr Layer.size e2
  rw [c j, c 0, z j, z 0]
  refine ⟨(h j hj).1, (h j hj).2.1, fun h0 => ?_⟩
  have st := setLayer_congr Layer.status (e3 h0)
  rw [st j, st 0]
  exact (h j hj).2.2 h0

theorem wh_agree {k : Nat} {s : St} (c : Nat) (hd : Down s) (h : Agree k s) : Agree k (wh k s c) :=
  agree_map h (·.commitWith c) fun j hj => by rw [wh_layer k s c hd, if_pos hj]

theorem wr_agree (k : Nat) {s : St} (n : Nat) (hd : Down s) (h : Agree (k + 1) s) :
    Agree (k + 1) (wr (k + 1) s n) :=
  agree_map (wh_agree _ hd h) (·.count n) fun j hj => by rw [wr_succ_layer k n hd, if_pos hj]

theorem fl_agree (k : Nat) {s : St} (hd : Down s) (h : Agree (k + 1) s) : Agree (k + 1) (fl (k + 1) s) :=
  fun j hj => by
    rw [fl_succ_layer k hd]
    exact wh_agree _ hd h j hj

/-- a status preset on the top layer of an uncommitted tower is not yet anybody's report -/
theorem preset_agree (k : Nat) {s : St} (c : Nat) (h : Agree (k + 1) s) : Agree (k + 1) (preset s k c) := by
  unfold preset
  split
  · exact h
  · rename_i hc
    refine agree_setLayer h rfl rfl fun h0 => absurd ?_ hc
    exact (h k (Nat.lt_succ_self k)).1.trans h0

theorem step_agree (d : Nat) (s : St) (op : Op) (ht : TopOnly d op) (hd : Down s) (h : Agree d s) :
    Agree d (step s op) := by
  cases op with
  | before k _ | after k _ => exact agree_setLayer h rfl rfl fun _ => rfl
  | writeHeader k c => cases ht; exact wh_agree c hd h
  | write k n => cases ht; exact wr_agree k n hd h
  | flush k => cases ht; exact fl_agree k hd h
  | blob k c n => cases ht; exact wr_agree k n (wh_down c hd) (wh_agree c hd h)
  | json k c n ok =>
    cases ht
    cases ok with
    | false => exact preset_agree k c h
    | true => exact wr_agree k _ (preset_down k c hd) (preset_agree k c h)

/-- **C06N_pure_nesting_agrees** — an application mounted inside another one (a tower of `d`
    Responses; the handler program sends status and body through the top layer, hooks may sit on
    any layer): every layer reports the same `Committed` and the same `Size`, and once committed
    the same `Status` — which, by `C06N_outer_bookkeeping`, are what the underlying writer got. -/
theorem C06N_pure_nesting_agrees (d : Nat) (p : Nat → Nat) (prog : List Op)
    (h : ∀ op ∈ prog, TopOnly d op) : Agree d (run (init p) prog) :=
  (prog.foldlRecOn (motive := fun s => Down s ∧ Agree d s) step
    ⟨init_down p, fun _ _ => ⟨rfl, rfl, fun hx => Bool.noConfusion hx⟩⟩
    fun s hs op hop => ⟨step_down s op hs.1, step_agree d s op (h op hop) hs.1 hs.2⟩).2

/-! ## non-vacuity -/

/-- echo mounted inside echo: the inner handler answers 201 + 5 bytes, an outer middleware has a
    before- and an after-hook and tries a late NoContent(202) -/
def demoNested : List Op := [.before 0 1, .after 0 2, .blob 1 201 5, .writeHeader 0 202]

example : (run (init fun _ => 200) demoNested).trace
    = [.regB 0 1, .regA 0 2, .runB 0 1, .hdr 201, .body 5, .runA 0 2, .warn 0] := by decide +kernel
example : let s := run (init fun _ => 200) demoNested
    (s.layer 0).committed = true ∧ (s.layer 0).status = 201 ∧ (s.layer 0).size = 5 ∧
    (s.layer 1).committed = true ∧ (s.layer 1).status = 201 ∧ (s.layer 1).size = 5 ∧ s.hdrs = [201] := by decide +kernel
/-- the first three operations meet `TopOnly 2`, the late outer status write does not (and is ignored) -/
example : ∀ op ∈ demoNested.take 3, TopOnly 2 op := by
  intro op h
  simp only [demoNested, List.take, List.mem_cons, List.not_mem_nil, or_false] at h
  rcases h with rfl | rfl | rfl <;> simp [TopOnly]
/-- three layers, the middle one preset by a failed JSON, the write comes from the innermost:
    the preset of the middle layer is not what goes out -/
example : let s := run (init fun k => if k = 2 then 0 else 200) [.json 1 500 0 false, .write 2 3]
    s.hdrs = [200] ∧ (s.layer 0).status = 200 ∧ (s.layer 1).status = 200 ∧ (s.layer 2).status = 200 := by decide +kernel
/-- an outer layer committed first: the inner layer's own view (404) is not what the wire got,
    the outer one's is — and the inner layer is still right that the headers are out -/
example : let s := run (init fun _ => 200) [.writeHeader 0 201, .blob 1 404 2]
    s.hdrs = [201] ∧ (s.layer 0).status = 201 ∧ (s.layer 0).size = 2 ∧ (s.layer 1).status = 404 := by decide +kernel
/-- what the seeded change does (the inner Response writes around the outer one: the outer
    bookkeeping never hears of it) is not a behaviour of the model: in the model the outer layer
    is committed as soon as anything reached the writer -/
example : (run (init fun _ => 200) [.blob 1 201 5]).layer 0
    = { committed := true, status := 201, size := 5 } := by decide +kernel

end C06N
