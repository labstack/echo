import EchoProofs.C18
/-!
# C18 — several stores, several limiter instances on one request path

Theorems about `chainAllow` / `stepC` / `runC` (`EchoModel/C18.lean`): a process with any
number of `RateLimiterMemoryStore`s and routes whose handlers sit behind a *chain* of
`RateLimiterWithConfig` instances (group + route, two on one route, two instances on one store).

The decisions any one store takes during a run are those a store of its own takes on the calls it
received (`C18_chain_projection`), so the per-identifier bound of `C18_window` holds for every store
of every chain on its own: a strict limiter on a route bounds the route's handler whatever a coarse
limiter in front of it does.  A refused request changes nobody's level.
-/
namespace C18

set_option linter.unusedSectionVars false

variable {α : Type} [DecidableEq α]

/-! ## one request through a chain -/

theorem setStore_self (sts : Nat → Store α) (k : Nat) (st : Store α) : setStore sts k st k = st :=
  if_pos rfl

theorem setStore_ne (sts : Nat → Store α) {j k : Nat} (st : Store α) (h : j ≠ k) :
    setStore sts k st j = sts j := if_neg h

theorem chainAllow_ran (cs : Nat → Cfg) (chain : List Nat) (id : α) (t : Nat) :
    ∀ sts : Nat → Store α,
      ((chainAllow cs sts chain id t).2.1 = true ↔
        (chainAllow cs sts chain id t).2.2 = chain.map (fun k => (k, true))) ∧
      ((chainAllow cs sts chain id t).2.1 = false →
        ∃ pre k post, chain = pre ++ k :: post ∧
          (chainAllow cs sts chain id t).2.2 = pre.map (fun k => (k, true)) ++ [(k, false)]) := by
  induction chain with
  | nil => intro sts; exact ⟨⟨fun _ => rfl, fun _ => rfl⟩, fun h => nomatch h⟩
  | cons k ks ih =>
    intro sts
    cases h : (allow (cs k) (sts k) id t).2 with
    | true =>
      rw [chainAllow, if_pos h]
      obtain ⟨ih1, ih2⟩ := ih (setStore sts k (allow (cs k) (sts k) id t).1)
      refine ⟨ih1.trans ⟨congrArg _, List.tail_eq_of_cons_eq⟩, fun hf => ?_⟩
      obtain ⟨pre, j, post, hc, hl⟩ := ih2 hf
      exact ⟨k :: pre, j, post, congrArg _ hc, congrArg _ hl⟩
    | false =>
      rw [chainAllow, if_neg (Bool.eq_false_iff.mp h)]
      exact ⟨⟨fun h => (nomatch h), fun h => (nomatch h)⟩, fun _ => ⟨[], k, ks, rfl, rfl⟩⟩

/-- `log` lists, in order, the stores consulted for `(id, t)` with their answers, each store updated
    as it answers; `sts'` are the states afterwards.  Every event's log is of this kind
    (`stepC_consulted`), so what a store is asked can be read off the log alone. -/
inductive Consulted (cs : Nat → Cfg) (id : α) (t : Nat) :
    (Nat → Store α) → List (Nat × Bool) → (Nat → Store α) → Prop
  | nil (sts : Nat → Store α) : Consulted cs id t sts [] sts
  | cons {sts sts' : Nat → Store α} {k : Nat} {d : Bool} {log : List (Nat × Bool)}
      (hd : (allow (cs k) (sts k) id t).2 = d)
      (h : Consulted cs id t (setStore sts k (allow (cs k) (sts k) id t).1) log sts') :
      Consulted cs id t sts ((k, d) :: log) sts'

theorem chainAllow_consulted (cs : Nat → Cfg) (chain : List Nat) (id : α) (t : Nat) :
    ∀ sts : Nat → Store α,
      Consulted cs id t sts (chainAllow cs sts chain id t).2.2 (chainAllow cs sts chain id t).1 := by
  induction chain with
  | nil => exact .nil
  | cons k ks ih =>
    intro sts
    cases h : (allow (cs k) (sts k) id t).2 with
    | true => rw [chainAllow, if_pos h]; exact .cons h (ih _)
    | false => rw [chainAllow, if_neg (Bool.eq_false_iff.mp h)]; exact .cons h (.nil _)

theorem Consulted.untouched {cs : Nat → Cfg} {id : α} {t : Nat} {sts sts' : Nat → Store α}
    {log : List (Nat × Bool)} (h : Consulted cs id t sts log sts') {j : Nat}
    (hj : j ∉ log.map (·.1)) : sts' j = sts j := by
  induction h with
  | nil => rfl
  | cons _ _ ih =>
    rw [ih (fun hm => hj (List.mem_cons_of_mem _ hm))]
    exact setStore_ne _ _ (fun hjk => hj (hjk ▸ List.mem_cons_self))

/-- One request (not skipped, identifier extracted) behind a chain of
    `RateLimiterWithConfig` instances: the handler runs (200) iff every instance of the chain, in
    registration order, was consulted and admitted; otherwise the answer is 429, the instances up
    to the first refusal were consulted and nothing behind it; a store that was not consulted is
    exactly as before; with a `BeforeFunc` every instance that was reached called it once. -/
theorem C18_chain_middleware (cs : Nat → Cfg) (b : Bool) (sts : Nat → Store α) (e : EvC α)
    (h : e.kind = .http) :
    ((stepC cs b sts e).2.ran = true ↔
      (chainAllow cs sts e.chain e.id e.t).2.2 = e.chain.map (fun k => (k, true))) ∧
    ((stepC cs b sts e).2.ran = true → (stepC cs b sts e).2.status = 200) ∧
    ((stepC cs b sts e).2.ran = false → (stepC cs b sts e).2.status = 429 ∧
      ∃ pre k post, e.chain = pre ++ k :: post ∧
        (chainAllow cs sts e.chain e.id e.t).2.2 = pre.map (fun k => (k, true)) ++ [(k, false)]) ∧
    (∀ j, j ∉ (chainAllow cs sts e.chain e.id e.t).2.2.map (·.1) → (stepC cs b sts e).1 j = sts j) ∧
    (stepC cs b sts e).2.before = (if b then (chainAllow cs sts e.chain e.id e.t).2.2.length else 0) := by
  obtain ⟨h1, h2⟩ := chainAllow_ran cs e.chain e.id e.t sts
  simp only [stepC, h]
  exact ⟨h1, fun hr => if_pos hr, fun hr => ⟨if_neg (by rw [hr]; exact Bool.false_ne_true), h2 hr⟩,
    fun j hj => (chainAllow_consulted cs e.chain e.id e.t sts).untouched hj, trivial⟩

/-! ## projection on one store -/

/-- which stores an event consults, in order, with their decisions -/
def logC (cs : Nat → Cfg) (sts : Nat → Store α) (e : EvC α) : List (Nat × Bool) :=
  match e.kind with
  | .http => (chainAllow cs sts e.chain e.id e.t).2.2
  | .direct =>
    match e.chain with
    | k :: _ => [(k, (allow (cs k) (sts k) e.id e.t).2)]
    | [] => []
  | _ => []

/-- the calls of one event that went to store `k`, as `((instant, identifier), decision)` -/
def callsK (k : Nat) (e : EvC α) (log : List (Nat × Bool)) : List ((Nat × α) × Bool) :=
  (log.filter (fun p => p.1 = k)).map (fun p => ((e.t, e.id), p.2))

/-- everything store `k` was asked during a run, with what it answered -/
def traceC (cs : Nat → Cfg) (b : Bool) (k : Nat) : (Nat → Store α) → List (EvC α) → List ((Nat × α) × Bool)
  | _, [] => []
  | sts, e :: es => callsK k e (logC cs sts e) ++ traceC cs b k (stepC cs b sts e).1 es

/-- no call of the run has an out-of-order `AllowN` reading -/
def NoSkewC : List (EvC α) → Prop
  | [] => True
  | e :: es => (∀ tb, e.kind ≠ .directAt tb) ∧ NoSkewC es

theorem decisions_append (c : Cfg) (a b : List (Nat × α)) : ∀ st : Store α,
    decisions c st (a ++ b) = decisions c st a ++ decisions c (after c st a) b := by
  induction a with
  | nil => intro st; rfl
  | cons e a ih => intro st; simp [decisions, after, ih]

theorem after_append (c : Cfg) (a b : List (Nat × α)) : ∀ st : Store α,
    after c st (a ++ b) = after c (after c st a) b := by
  induction a with
  | nil => intro st; rfl
  | cons e a ih => intro st; simp [after, ih]

theorem admittedIn_append (c : Cfg) (id : α) (t1 t2 : Nat) (a b : List (Nat × α)) : ∀ st : Store α,
    admittedIn c id t1 t2 st (a ++ b) =
      admittedIn c id t1 t2 st a + admittedIn c id t1 t2 (after c st a) b := by
  induction a with
  | nil => intro st; simp [admittedIn, after]
  | cons e a ih => intro st; simp [admittedIn, after, ih, Nat.add_assoc]

theorem Consulted.proj {cs : Nat → Cfg} {id : α} {t : Nat} {sts sts' : Nat → Store α}
    {log : List (Nat × Bool)} (h : Consulted cs id t sts log sts') (k : Nat) :
    let tr := (log.filter (fun p => p.1 = k)).map (fun p => (((t, id) : Nat × α), p.2))
    decisions (cs k) (sts k) (tr.map (·.1)) = tr.map (·.2) ∧
    after (cs k) (sts k) (tr.map (·.1)) = sts' k := by
  induction h with
  | nil => exact ⟨rfl, rfl⟩
  | @cons sts _ j _ _ hd _ ih =>
    by_cases hk : j = k
    · subst hk
      rw [setStore_self] at ih
      simp only [List.filter_cons, decide_true, ite_true, List.map_cons, decisions, after, hd,
        List.cons.injEq, true_and]
      exact ih
    · rw [setStore_ne _ _ (Ne.symm hk)] at ih
      simp only [List.filter_cons, hk, decide_false]
      exact ih

theorem stepC_consulted (cs : Nat → Cfg) (b : Bool) (sts : Nat → Store α) (e : EvC α)
    (hns : ∀ tb, e.kind ≠ .directAt tb) :
    Consulted cs e.id e.t sts (logC cs sts e) (stepC cs b sts e).1 := by
  obtain ⟨t, kind, id, chain⟩ := e
  cases kind with
  | http => exact chainAllow_consulted cs chain id t sts
  | httpErr => cases chain <;> exact .nil _
  | httpSkip => exact .nil _
  | directAt tb => exact absurd rfl (hns tb)
  | direct =>
    cases chain with
    | nil => exact .nil _
    | cons j js => exact .cons rfl (.nil _)

/-- In a process with any number of stores and any stacking of
    limiter instances, the decisions store `k` takes during a run are exactly the decisions
    `RateLimiterMemoryStore.Allow` takes when the calls store `k` received are made to a store
    of its own (event by event its state is that store's state too: `Consulted.proj`).  So
    everything proved for one store (`C18_window`, `C18_independent`, `C18_refusal_store`,
    `C18_expiry_one_burst`) holds for every store of the process on its own call history. -/
theorem C18_chain_projection (cs : Nat → Cfg) (b : Bool) (k : Nat) (es : List (EvC α)) :
    ∀ sts : Nat → Store α, NoSkewC es →
      decisions (cs k) (sts k) ((traceC cs b k sts es).map (·.1)) = (traceC cs b k sts es).map (·.2) := by
  induction es with
  | nil => intro sts _; rfl
  | cons e es ih =>
    intro sts hns
    obtain ⟨h1, h2⟩ := (stepC_consulted cs b sts e hns.1).proj k
    simp only [traceC, callsK, List.map_append, decisions_append, h1, h2]
    rw [ih _ hns.2]

/-! ## the bound for a handler behind a chain -/

/-- number of requests of `id` with instant in `[t1,t2]` that reached a handler whose chain
    contains a limiter on store `k` -/
def ranVia (cs : Nat → Cfg) (b : Bool) (k : Nat) (id : α) (t1 t2 : Nat) :
    (Nat → Store α) → List (EvC α) → Nat
  | _, [] => 0
  | sts, e :: es =>
    (if e.kind = .http ∧ k ∈ e.chain ∧ e.id = id ∧ (stepC cs b sts e).2.ran = true ∧ t1 ≤ e.t ∧ e.t ≤ t2
      then 1 else 0) + ranVia cs b k id t1 t2 (stepC cs b sts e).1 es

theorem admittedIn_pos_of_mem (c : Cfg) (id : α) (t t1 t2 : Nat) (h1 : t1 ≤ t) (h2 : t ≤ t2)
    (tr : List ((Nat × α) × Bool)) (st : Store α)
    (hdec : decisions c st (tr.map (·.1)) = tr.map (·.2))
    (hmem : ((t, id), true) ∈ tr) :
    1 ≤ admittedIn c id t1 t2 st (tr.map (·.1)) := by
  rw [admittedIn_eq_count, hdec, ← List.zip_of_prod rfl rfl]
  apply List.length_pos_of_mem (a := ((t, id), true))
  simp only [List.mem_filter, decide_eq_true_eq]
  exact ⟨hmem, by simp [h1, h2]⟩

theorem ranVia_le (cs : Nat → Cfg) (b : Bool) (k : Nat) (id : α) (t1 t2 : Nat) (es : List (EvC α)) :
    ∀ sts : Nat → Store α, NoSkewC es →
      ranVia cs b k id t1 t2 sts es ≤
        admittedIn (cs k) id t1 t2 (sts k) ((traceC cs b k sts es).map (·.1)) := by
  induction es with
  | nil => intro sts _; simp [ranVia, traceC, admittedIn]
  | cons e es ih =>
    intro sts hns
    obtain ⟨h1, h2⟩ := (stepC_consulted cs b sts e hns.1).proj k
    simp only [ranVia, traceC, callsK, List.map_append, admittedIn_append, h2]
    have ih' := ih (stepC cs b sts e).1 hns.2
    by_cases hc : e.kind = .http ∧ k ∈ e.chain ∧ e.id = id ∧ (stepC cs b sts e).2.ran = true ∧ t1 ≤ e.t ∧ e.t ≤ t2
    · rw [if_pos hc]
      obtain ⟨hk, hmem, hid, hran, ht1, ht2⟩ := hc
      have hlog := (C18_chain_middleware cs b sts e hk).1.mp hran
      have hin : ((e.t, id), true) ∈ callsK k e (logC cs sts e) := by
        simp only [callsK, logC, hk, hlog, List.mem_map, List.mem_filter, decide_eq_true_eq]
        exact ⟨(k, true), ⟨⟨k, hmem, rfl⟩, rfl⟩, by simp [hid]⟩
      exact Nat.add_le_add (admittedIn_pos_of_mem (cs k) id e.t t1 t2 ht1 ht2 _ (sts k) h1 hin) ih'
    · rw [if_neg hc, Nat.zero_add]; exact Nat.le_trans ih' (Nat.le_add_left _ _)

def MonoEvC : Nat → List (EvC α) → Prop
  | _, [] => True
  | now, e :: es => now ≤ e.t ∧ MonoEvC e.t es

theorem mono_callsK (k : Nat) (e : EvC α) (log : List (Nat × Bool)) (rest : List (Nat × α)) (now : Nat)
    (h1 : now ≤ e.t) (h2 : Mono e.t rest) : Mono now ((callsK k e log).map (·.1) ++ rest) := by
  unfold callsK
  induction log generalizing now with
  | nil => exact h2.weaken h1
  | cons p log ih =>
    simp only [List.filter_cons]
    split
    · simp only [List.map_cons, List.cons_append]
      exact ⟨h1, ih e.t (Nat.le_refl _)⟩
    · exact ih now h1

theorem mono_traceC (cs : Nat → Cfg) (b : Bool) (k : Nat) (es : List (EvC α)) :
    ∀ (sts : Nat → Store α) (now : Nat), MonoEvC now es → Mono now ((traceC cs b k sts es).map (·.1)) := by
  induction es with
  | nil => intro _ _ _; trivial
  | cons e es ih =>
    intro sts now hm
    simp only [traceC, List.map_append]
    exact mono_callsK k e _ _ now hm.1 (ih _ e.t hm.2)

/-- Any number of stores (all constructed at `t0`), any mix of direct
    calls and requests over routes with any chains of limiter instances, on a clock that never
    goes back: for every store `k` with `ExpiresIn·rate ≥ burst`, every identifier and every
    interval `[t1,t2]`, the handlers whose chain contains a limiter on store `k` ran at most
    `burst_k + rate_k·(t2 − t1 + 1 ns)` times for that identifier — whatever the other limiters
    of the chain and the other stores of the process did. -/
theorem C18_window_chain (cs : Nat → Cfg) (b : Bool) (k : Nat)
    (hexp : (cs k).full ≤ (((cs k).expiresIn * (cs k).rateNum : Nat) : Int))
    (t0 : Nat) (es : List (EvC α)) (hm : MonoEvC 0 es) (hns : NoSkewC es) (id : α) (t1 t2 : Nat) :
    ranVia cs b k id t1 t2 (fun _ => Store.init t0) es * (cs k).scale
      ≤ (cs k).burst * (cs k).scale + (cs k).rateNum * (t2 - t1 + 1) := by
  have h1 := ranVia_le cs b k id t1 t2 es (fun _ => Store.init t0) hns
  have h2 := C18_window (cs k) hexp t0 _ (mono_traceC cs b k es (fun _ => Store.init t0) 0 hm) id t1 t2
  exact Nat.le_trans (Nat.mul_le_mul_right _ h1) h2

/-! ## a denied request costs nothing

`rate.Limiter.AllowN` changes the limiter only when it admits (`reserveN` with `maxFutureReserve = 0`
does not book anything for a refused request), and the middleware does nothing else on a denial
than answering 429: however often an identifier is refused, its allowance refills as if those
requests had never been made. -/

/-- A request that the middleware refuses (429, handler not run) leaves the
    level of EVERY identifier's bucket, the refused one included, at every later instant exactly
    where it was: refusals cannot prolong a refusal. -/
theorem C18_denied_free (c : Cfg) (hexp : c.full ≤ ((c.expiresIn * c.rateNum : Nat) : Int))
    (st : Store α) (now : Nat) (hinv : Inv c st now) (id : α) (t : Nat)
    (hden : (step c st ⟨t, .http, id⟩).2.ran = false) (i : α) (τ : Nat) (hτ : t ≤ τ) :
    (step c st ⟨t, .http, id⟩).2.status = 429 ∧
    level c ((step c st ⟨t, .http, id⟩).1.visitors i) τ = level c (st.visitors i) τ := by
  obtain ⟨hran, hst, h429, _⟩ := (C18_middleware c st t id).1
  rw [hran] at hden
  refine ⟨h429 hden, ?_⟩
  rw [hst, allow_level c hexp st now hinv id t i τ hτ]
  simp [hden]

def admittedOnly (c : Cfg) : Bucket → List Nat → List Nat
  | _, [] => []
  | b, t :: ts =>
    if (allowN c b t).2 then t :: admittedOnly c (allowN c b t).1 ts else admittedOnly c (allowN c b t).1 ts

/-- For one identifier's bucket and ANY arrival pattern: the requests that were admitted are
    admitted just the same when the refused requests between them are left out (a refused request
    leaves the bucket as it was: `allowN_refused`).  With `C18_independent_bucket` /
    `C18_chain_projection` this is a statement about every identifier of every store. -/
theorem C18_denied_free_history (c : Cfg) (ts : List Nat) : ∀ b : Bucket,
    bucketRun c b (admittedOnly c b ts) = (admittedOnly c b ts).map (fun _ => true) ∧
    (admittedOnly c b ts).length = ((bucketRun c b ts).filter (· = true)).length := by
  induction ts with
  | nil => intro b; simp [admittedOnly, bucketRun]
  | cons t ts ih =>
    intro b
    by_cases h : (allowN c b t).2 = true
    · simp only [admittedOnly, h, ite_true, bucketRun, List.map_cons, List.filter_cons, decide_true,
        List.length_cons]
      obtain ⟨h1, h2⟩ := ih (allowN c b t).1
      exact ⟨by rw [h1], by rw [h2]⟩
    · have hf : (allowN c b t).2 = false := by simpa using h
      simp only [admittedOnly, hf, Bool.false_eq_true, ite_false, bucketRun, List.filter_cons,
        decide_false]
      rw [allowN_refused c b t hf]
      exact ih b

/-- rate 1/s, burst 2: two admitted and three refused at t = 0, back at 1.5 s: admitted -/
example : bucketRun (mkCfg ⟨1, 1, 2, 0⟩) (fresh (mkCfg ⟨1, 1, 2, 0⟩)) [0, 0, 0, 0, 0, 1500000000] =
    [true, true, false, false, false, true] := by decide +kernel
example : (runC (fun _ => mkCfg ⟨1, 1, 2, 0⟩) false (fun _ => Store.init 0)
    [⟨0, .http, 7, [0]⟩, ⟨0, .http, 7, [0]⟩, ⟨0, .http, 7, [0]⟩, ⟨0, .http, 7, [0]⟩, ⟨0, .http, 7, [0]⟩,
     ⟨1500000000, .http, 7, [0]⟩]).map (·.status) = [200, 200, 429, 429, 429, 200] := by decide +kernel

/-! ## non-vacuity: a coarse limiter on the group, a strict one on the route -/

def cfgCoarse : Cfg := mkCfg ⟨100, 1, 100, 0⟩
def cfgStrict : Cfg := mkCfg ⟨1, 1, 2, 0⟩
def twoStores : Nat → Cfg := fun k => if k = 0 then cfgCoarse else cfgStrict

/-- five requests of one identifier at one instant over the route behind [coarse, strict]: two
    reach the handler; then over a route with two instances on the coarse store -/
def histStacked : List (EvC Nat) :=
  [⟨0, .http, 7, [0, 1]⟩, ⟨0, .http, 7, [0, 1]⟩, ⟨0, .http, 7, [0, 1]⟩, ⟨0, .http, 7, [0, 1]⟩,
   ⟨0, .http, 7, [0, 1]⟩, ⟨0, .http, 7, [0, 0]⟩, ⟨0, .httpErr, 7, [0, 1]⟩, ⟨0, .httpSkip, 7, [0, 1]⟩]

example : runC twoStores true (fun _ => Store.init 0) histStacked =
    [⟨true, 200, 2⟩, ⟨true, 200, 2⟩, ⟨false, 429, 2⟩, ⟨false, 429, 2⟩, ⟨false, 429, 2⟩,
     ⟨true, 200, 2⟩, ⟨false, 403, 1⟩, ⟨true, 200, 0⟩] := by decide +kernel

example : (traceC twoStores true 1 (fun _ => Store.init 0) histStacked).map (·.2) =
    [true, true, false, false, false] := by decide +kernel

example : ranVia twoStores true 1 7 0 0 (fun _ => Store.init 0) histStacked = 2 ∧
    MonoEvC 0 histStacked ∧ NoSkewC histStacked ∧
    (twoStores 1).full ≤ (((twoStores 1).expiresIn * (twoStores 1).rateNum : Nat) : Int) := by
  refine ⟨by decide +kernel, ?_, ?_, by decide +kernel⟩
  · simp [MonoEvC, histStacked]
  · simp [NoSkewC, histStacked]

end C18
