import EchoProofs.Tree.Covered
import EchoProofs.Lit
/-!
# C04 — group middleware covers the whole prefix

"Group middleware runs for every request under the group's prefix that is not claimed by a route
registered outside the group — including requests that end in 404 inside the group."

Mechanism: `Group.Use` registers two `RouteNotFound` catch-all routes, `prefix` and `prefix/*`, that carry
the group's middleware list.  So the router never answers a request under the prefix with its OWN 404 / 405 /
OPTIONS handler (which would carry no group middleware): the request is always dispatched to a *registered
route* — one of the group's catch-alls at the latest.  The registration invariant `CInv` says that every group
with a non-empty middleware list has its two catch-all routes, with exactly that list, among the routes.

Hypotheses on the program, beyond `PfxOKOp`: `NoHostTwice` (an `Echo.Host(name)` call installs a FRESH router
for `name`, dropping the catch-alls of groups already created under it) and `NoEmptyHost` (the model files
the default router under the empty host name, so `Host("")` would drop the default router's routes; with
`ops = [.group none "/g" [3], .host [] []]` the statement is false in the model).
-/
namespace C04
open Router Router.Spec Router.Tree

/-- the two catch-all routes of group `g`, with the group's current middleware list, are registered -/
def CatchAll (c : Cfg) (g : Group) : Prop :=
  (⟨g.host, routeNotFound, normalizeSlash g.pfx, 0, true, g.mws⟩ : RouteRec) ∈ c.routes
  ∧ (⟨g.host, routeNotFound, normalizeSlash (g.pfx ++ "/*".toList), 0, true, g.mws⟩ : RouteRec) ∈ c.routes

structure CInv (c : Cfg) : Prop where
  hostOK : ∀ g ∈ c.groups, g.host = [] ∨ g.host ∈ c.hosts
  pfxOK : ∀ g ∈ c.groups, PfxOK g.pfx
  cover : ∀ g ∈ c.groups, g.mws ≠ [] → CatchAll c g

def hostName : Op → Option Str
  | .host n _ => some n
  | _ => none

def hostNames (ops : List Op) : List Str := ops.filterMap hostName

def NoHostTwice (ops : List Op) : Prop := (hostNames ops).Nodup
/-- no host router is created for the empty name (the key of the default router in the model) -/
def NoEmptyHost (ops : List Op) : Prop := [] ∉ hostNames ops

instance (ops : List Op) : Decidable (NoHostTwice ops) := by unfold NoHostTwice; infer_instance
instance (ops : List Op) : Decidable (NoEmptyHost ops) := by unfold NoEmptyHost; infer_instance

theorem CatchAll.mono {c c' : Cfg} {g : Group} (h : CatchAll c g) (hr : ∀ r ∈ c.routes, r ∈ c'.routes) :
    CatchAll c' g := ⟨hr _ h.1, hr _ h.2⟩

theorem CInv.groupsOK {c : Cfg} (h : CInv c) : GroupsOK c := ⟨h.hostOK, h.pfxOK⟩

/-- `Group.Use` keeps the invariant: the updated group gets fresh catch-alls with its new list -/
theorem groupUse_cinv {c : Cfg} (h : CInv c) (gid : Nat) (ms : List Mw) : CInv (groupUse c gid ms) := by
  have ok := h.groupsOK.groupUse gid ms
  refine ⟨ok.hostOK, ok.pfxOK, ?_⟩
  intro g' hg' hne
  rcases mem_groupUse_groups hg' with hg' | ⟨g, hg, rfl⟩
  · exact (h.cover g' hg' hne).mono fun r hr => mem_groupUse_routes.mpr (Or.inl hr)
  · have hkey := addRoute_host c g.host (h.hostOK g (List.mem_of_getElem? hg))
    constructor <;> refine mem_groupUse_routes.mpr (Or.inr ⟨g, hg, hne, ?_⟩) <;> rw [hkey]
    · exact Or.inl rfl
    · exact Or.inr rfl

/-- a group is created (with an empty list): the catch-alls of the older groups must still be there -/
theorem CInv.push {c : Cfg} (h : CInv c) {hosts : List Str} (hh : ∀ n ∈ c.hosts, n ∈ hosts)
    {routes : List RouteRec} (hr : ∀ g ∈ c.groups, ∀ r ∈ c.routes, r.host = g.host → r ∈ routes)
    {host pfx : Str} (ho : host = [] ∨ host ∈ hosts) (hp : PfxOK pfx) :
    CInv { c with hosts := hosts, routes := routes, groups := c.groups ++ [⟨host, pfx, []⟩] } := by
  have ok := h.groupsOK.push hh routes (g0 := ⟨host, pfx, []⟩) ho hp
  refine ⟨ok.hostOK, ok.pfxOK, ?_⟩
  intro g hg hmws
  rcases List.mem_append.mp hg with hg | hg
  · obtain ⟨c1, c2⟩ := h.cover g hg hmws
    exact ⟨hr g hg _ c1 rfl, hr g hg _ c2 rfl⟩
  · rw [List.mem_singleton.mp hg] at hmws; exact absurd rfl hmws

theorem exec_cinv {c : Cfg} (h : CInv c) (op : Op) (hpo : PfxOKOp op)
    (hho : ∀ name ms, op = .host name ms → name ∉ c.hosts ∧ name ≠ []) : CInv (exec c op) := by
  cases op with
  | pre m => exact ⟨h.hostOK, h.pfxOK, h.cover⟩
  | use j => exact ⟨h.hostOK, h.pfxOK, h.cover⟩
  | host name ms =>
    obtain ⟨hnew, hne⟩ := hho name ms rfl
    refine groupUse_cinv (h.push (routes := c.routes.filter (·.host ≠ name))
      (fun n hn => mem_hosts_host.mpr (Or.inl hn)) ?_ (Or.inr (mem_hosts_host.mpr (Or.inr rfl))) (Or.inl rfl)) _ ms
    · -- an older group is not under the new host, so its catch-alls survive the fresh router
      intro g hg r hr hrg
      have hgh : g.host ≠ name := by
        rcases h.hostOK g hg with h1 | h1
        · rw [h1]; exact fun h => hne h.symm
        · exact fun h => hnew (h ▸ h1)
      exact List.mem_filter.mpr ⟨hr, by simpa [hrg] using hgh⟩
  | group parent pfx ms =>
    cases parent with
    | none => exact groupUse_cinv (h.push (fun _ hn => hn) (fun _ _ _ hr _ => hr) (Or.inl rfl) hpo) _ ms
    | some p =>
      simp only [exec]
      cases hp : c.groups[p]? with
      | none => exact h
      | some gp =>
        have hgpm : gp ∈ c.groups := List.mem_of_getElem? hp
        exact groupUse_cinv (h.push (fun _ hn => hn) (fun _ _ _ hr _ => hr) (h.hostOK gp hgpm)
          (pfxOK_append (h.pfxOK gp hgpm) hpo)) _ (gp.mws ++ ms)
  | groupUse g ms => exact groupUse_cinv h g ms
  | add g method path hid fails ms =>
    have hadd : ∀ host method path hid fails mws, CInv (addRoute c host method path hid fails mws) :=
      fun host method path hid fails mws => ⟨h.hostOK, h.pfxOK, fun g hg hmws =>
        (h.cover g hg hmws).mono fun r hr => mem_addRoute.mpr (Or.inl hr)⟩
    cases g with
    | none => exact hadd _ _ _ _ _ _
    | some gid =>
      simp only [exec]
      split
      · exact h
      · exact hadd _ _ _ _ _ _

theorem cinv_init : CInv {} :=
  ⟨by intro g hg; simp at hg, by intro g hg; simp at hg, by intro g hg; simp at hg⟩

theorem exec_hosts (c : Cfg) (op : Op) :
    ∀ n ∈ (exec c op).hosts, n ∈ c.hosts ∨ hostName op = some n := by
  intro n hn
  cases op with
  | pre m => exact Or.inl hn
  | use j => exact Or.inl hn
  | host name ms =>
    simp only [exec, groupUse_hosts] at hn
    exact (mem_hosts_host.mp hn).imp_right fun (e : n = name) => congrArg some e.symm
  | group parent pfx ms =>
    cases parent with
    | none => simp only [exec, groupUse_hosts] at hn; exact Or.inl hn
    | some p =>
      simp only [exec] at hn
      split at hn
      · exact Or.inl hn
      · rw [groupUse_hosts] at hn; exact Or.inl hn
  | groupUse g ms => simp only [exec, groupUse_hosts] at hn; exact Or.inl hn
  | add g method path hid fails ms =>
    cases g with
    | none => exact Or.inl hn
    | some gid =>
      simp only [exec] at hn
      split at hn <;> exact Or.inl hn

theorem mem_hostNames_cons {op : Op} {ops : List Op} {n : Str} :
    n ∈ hostNames (op :: ops) ↔ hostName op = some n ∨ n ∈ hostNames ops := by
  unfold hostNames
  rw [List.filterMap_cons]
  cases hostName op with
  | none => simp
  | some m => simp [eq_comm]

theorem run_cinv (ops : List Op) (hpo : ∀ op ∈ ops, PfxOKOp op) : ∀ (c : Cfg), CInv c →
    (∀ n ∈ c.hosts, n ∉ hostNames ops) → NoHostTwice ops → NoEmptyHost ops → CInv (ops.foldl exec c) := by
  induction ops with
  | nil => intro c h _ _ _; exact h
  | cons op ops ih =>
    intro c h hfresh hnd hne
    -- the name this step gives to `Echo.Host`, if any, is not given again later
    have hnd' : NoHostTwice ops ∧ ∀ n, hostName op = some n → n ∉ hostNames ops := by
      unfold NoHostTwice hostNames at hnd ⊢
      rw [List.filterMap_cons] at hnd
      cases hop : hostName op with
      | none => rw [hop] at hnd; exact ⟨hnd, fun _ hn => nomatch hn⟩
      | some n =>
        rw [hop] at hnd
        exact ⟨(List.nodup_cons.mp hnd).2, fun n' hn' => Option.some.inj hn' ▸ (List.nodup_cons.mp hnd).1⟩
    refine ih (fun o ho => hpo o (List.mem_cons_of_mem _ ho)) _ ?_ ?_ hnd'.1
      (fun hm => hne (mem_hostNames_cons.mpr (Or.inr hm)))
    · refine exec_cinv h op (hpo op (by simp)) ?_
      rintro name ms rfl
      exact ⟨fun hmem => hfresh name hmem (mem_hostNames_cons.mpr (Or.inl rfl)),
        fun hn => hne (mem_hostNames_cons.mpr (Or.inl (congrArg some hn)))⟩
    · intro n hn
      rcases exec_hosts c op n hn with h1 | h1
      · exact fun hm => hfresh n h1 (mem_hostNames_cons.mpr (Or.inr hm))
      · exact hnd'.2 n h1

/-- **C04_group_catchall** — after any registration program (no host created twice, no host with the empty
    name), every group with a non-empty middleware list has both catch-all routes, carrying exactly the
    group's current list, among the registered routes -/
theorem C04_group_catchall (ops : List Op) (hpo : ∀ op ∈ ops, PfxOKOp op) (hnd : NoHostTwice ops)
    (hne : NoEmptyHost ops) (g : Group) (hg : g ∈ (run ops).groups) (hmws : g.mws ≠ []) :
    CatchAll (run ops) g :=
  (run_cinv ops hpo {} cinv_init (by intro n hn; simp at hn) hnd hne).cover g hg hmws

theorem mem_tableOf_of_mem {c : Cfg} {h : Str} {r : RouteRec} (hr : r ∈ c.routes) (hh : r.host = h) :
    ∃ idx, (⟨r.method, r.path, idx⟩ : Route) ∈ tableOf c h := by
  obtain ⟨i, hi⟩ := List.mem_iff_getElem?.mp hr
  refine ⟨i, ?_⟩
  unfold tableOf
  refine List.mem_map.mpr ⟨(r, i), List.mem_filter.mpr ⟨List.mk_mem_zipIdx_iff_getElem?.mpr hi, ?_⟩, rfl⟩
  simpa using hh

theorem covers_find (c : Cfg) (hinv : CInv c) (g : Group) (hg : g ∈ c.groups) (hmws : g.mws ≠ [])
    (hpl : Plain g.pfx) (hok : okTable (tableOf c g.host) = true) (method p' : Str)
    (hp : (g.pfx ≠ [] ∧ (p' = g.pfx ∨ (g.pfx ++ ['/']) <+: p')) ∨ (g.pfx = [] ∧ ['/'] <+: p')) :
    ∃ rm vals, find (build (tableOf c g.host)) method p'
      (List.replicate (maxParam (tableOf c g.host)) []) = .dispatch rm vals := by
  obtain ⟨c1, c2⟩ := hinv.cover g hg hmws
  obtain ⟨i1, hi1⟩ := mem_tableOf_of_mem c1 rfl
  obtain ⟨i2, hi2⟩ := mem_tableOf_of_mem c2 rfl
  have hstar : "/*".toList = ['/', '*'] := by lit_chars
  have hpo := hinv.pfxOK g hg
  have key : ∀ (idx : Nat) (path s : Str),
      (⟨routeNotFound, normalizeSlash path, idx⟩ : Route) ∈ tableOf c g.host → Plain s → (normalizeSlash path = s ++ ['*'] ∧ s <+: p') ∨ (normalizeSlash path = s ∧ p' = s) →
      ∃ rm vals, find (build (tableOf c g.host)) method p'
        (List.replicate (maxParam (tableOf c g.host)) []) = .dispatch rm vals := by
    intro idx path s hr hs h
    refine find_covered (tableOf c g.host) hok ⟨routeNotFound, normalizeSlash path, idx⟩ hr rfl s p' hs ?_ method
      (maxParam (tableOf c g.host)) (Nat.le_refl _)
    rwa [show normalizeSlash (normalizeSlash path) = normalizeSlash path from normalizeSlash_idem path]
  rcases hp with ⟨hne, hp | hp⟩ | ⟨hemp, hp⟩
  · refine key i1 g.pfx g.pfx hi1 hpl (Or.inr ⟨?_, hp⟩)
    simpa using normalizeSlash_pfx hpo hne []
  · refine key i2 _ (g.pfx ++ ['/']) hi2 (plain_append hpl plain_slash) (Or.inl ⟨?_, hp⟩)
    rw [normalizeSlash_pfx hpo hne, hstar]
    exact (List.append_assoc g.pfx ['/'] ['*']).symm
  · refine key i2 _ ['/'] hi2 plain_slash (Or.inl ⟨?_, hp⟩)
    rw [hemp, hstar]
    rfl

/-- **C04_group_covers_prefix** — for every registration program (prefixes empty or starting with `/`, no
    host router created twice, none for the empty name), every group `g` with a non-empty middleware list
    and a literal prefix, and every request for the group's host whose path — as the Pre chain left it — is
    the prefix itself or lies below `prefix/`: the router answers with a REGISTERED route (handler id
    `idx` into `routes`), never with its own 404 / 405 / OPTIONS handler.  Needs every pattern registered
    for that host to be representable (`okTable`); routes may be registered more than once. -/
theorem C04_group_covers_prefix (ops : List Op) (hpo : ∀ op ∈ ops, PfxOKOp op) (hnd : NoHostTwice ops)
    (hne : NoEmptyHost ops) (g : Group) (hg : g ∈ (run ops).groups) (hmws : g.mws ≠ []) (hpl : Plain g.pfx)
    (host method path : Str)
    (hh : (if (run ops).hosts.contains host then host else []) = g.host)
    (hok : okTable (tableOf (run ops) g.host) = true)
    (hp : (g.pfx ≠ [] ∧ (rewriteAll (run ops).pre path = g.pfx
              ∨ (g.pfx ++ ['/']) <+: rewriteAll (run ops).pre path))
          ∨ (g.pfx = [] ∧ ['/'] <+: rewriteAll (run ops).pre path)) :
    ∃ (idx : Nat) (r : RouteRec), (run ops).routes[idx]? = some r ∧
      selected (run ops) host method (rewriteAll (run ops).pre path) =
        (if r.hid = 0 then (.rtr 404, true, r.mws) else (.hnd r.hid, r.fails, r.mws)) := by
  have hinv := run_cinv ops hpo {} cinv_init (by intro n hn; simp at hn) hnd hne
  generalize hc : run ops = c at *
  have hc' : ops.foldl exec {} = c := hc
  rw [hc'] at hinv
  generalize rewriteAll c.pre path = p' at *
  obtain ⟨rm, vals, hfind⟩ := covers_find c hinv g hg hmws hpl hok method p' hp
  obtain ⟨r, hget, _⟩ := dispatch_route hok hfind
  refine ⟨rm.hid, r, hget, ?_⟩
  unfold selected
  simp only [hh, hfind, hget]

/-- **C04_group_covers_layers** — consequently the middleware that go in for such a request are
    Pre ++ Use ++ the snapshot of a registered route (for the group's own catch-alls: the group's list) -/
theorem C04_group_covers_layers (ops : List Op) (hpo : ∀ op ∈ ops, PfxOKOp op) (hnd : NoHostTwice ops)
    (hne : NoEmptyHost ops) (g : Group) (hg : g ∈ (run ops).groups) (hmws : g.mws ≠ []) (hpl : Plain g.pfx)
    (host method path : Str)
    (hh : (if (run ops).hosts.contains host then host else []) = g.host)
    (hok : okTable (tableOf (run ops) g.host) = true)
    (hp : (g.pfx ≠ [] ∧ (rewriteAll (run ops).pre path = g.pfx
              ∨ (g.pfx ++ ['/']) <+: rewriteAll (run ops).pre path))
          ∨ (g.pfx = [] ∧ ['/'] <+: rewriteAll (run ops).pre path)) :
    ∃ r ∈ (run ops).routes,
      enterIds (serve (run ops) host method path) = (run ops).pre.map (·.id) ++ (run ops).use ++ r.mws := by
  obtain ⟨idx, r, hget, hsel⟩ := C04_group_covers_prefix ops hpo hnd hne g hg hmws hpl host method path hh hok hp
  refine ⟨r, List.mem_of_getElem? hget, ?_⟩
  rw [C04_enter_order, layers, hsel]
  split <;> rfl

/-! ### the `demo` program of `C04.lean` (group `/g` with `[3]`, a route, later `Use [5]`) -/

/-- the group of `demo` after the program ran: its list is `[3, 5]` -/
def demoGroup : Group := ⟨[], "/g".toList, [3, 5]⟩

theorem demoGroup_mem : demoGroup ∈ (run demo).groups :=
  List.mem_of_getElem? (i := 0) rfl

theorem demo_hosts : NoHostTwice demo ∧ NoEmptyHost demo := by unfold demo; lit_chars; decide +kernel

example : NoHostTwice demo ∧ NoEmptyHost demo := demo_hosts
example : CatchAll (run demo) demoGroup :=
  C04_group_catchall demo demo_pfxOK demo_hosts.1 demo_hosts.2 demoGroup demoGroup_mem (by decide)

/-- `GET /g/missing` matches no handler route, yet it is answered by a registered route … -/
theorem demo_covered : ∃ (idx : Nat) (r : RouteRec), (run demo).routes[idx]? = some r ∧
    selected (run demo) [] "GET".toList (rewriteAll (run demo).pre "/g/missing".toList) =
      (if r.hid = 0 then (.rtr 404, true, r.mws) else (.hnd r.hid, r.fails, r.mws)) :=
  C04_group_covers_prefix demo demo_pfxOK demo_hosts.1 demo_hosts.2 demoGroup demoGroup_mem (by decide)
    (by unfold demoGroup; lit_chars; decide +kernel) [] "GET".toList "/g/missing".toList (by decide)
    (by unfold demo demoGroup; lit_chars; decide +kernel)
    (Or.inl ⟨by unfold demoGroup; lit_chars; decide +kernel,
      Or.inr (by unfold demo demoGroup; lit_chars; decide +kernel)⟩)

/-- … namely the refreshed catch-all `/g/*` (`routes[4]`), which carries the group's current list `[3, 5]` -/
example : (selected (run demo) [] "GET".toList "/g/missing".toList).2.2 = [3, 5] := by
  unfold demo; lit_chars; decide +kernel
example : (selected (run demo) [] "DELETE".toList "/g".toList).2.2 = [3, 5] := by
  unfold demo; lit_chars; decide +kernel

/-- without the hypothesis on host names the statement fails in the model: `Host("")` replaces the router
    the model files the default routes under -/
example : (selected (run [.group none "/g".toList [3], .host [] []]) [] "GET".toList "/g/x".toList).2.2 = [] := by
  lit_chars; decide +kernel

end C04
