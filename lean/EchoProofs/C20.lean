import EchoModel.C20
import EchoProofs.Spec.Sound
import EchoProofs.C01
import EchoProofs.Lit
/-!
# C20 — reverse routing and routing are inverse to each other

* `C20_reverse_eq_inst`     for a pattern whose `*` (if any) is its last byte and an argument list of
                            the pattern's arity, `Router.Reverse` produces exactly the pattern with
                            the values substituted for its markers (escaped colons come out as
                            literal colons)
* `C20_roundtrip_single`    requesting that URL with the route's method dispatches to the same route
                            with exactly those values (table containing just this route; every
                            pattern, every valid value list)
* `C20_decomposition_unique`/`C20_roundtrip_values`  in ANY table: if the URL is dispatched back to
                            the same route, the handler sees exactly the values that were reversed
-/
namespace C20
open Router.Spec
open Router (Str routeNotFound Route normalizeSlash)

/-- `*` occurs only as the last byte of the pattern text -/
def starLast : Str → Bool
  | [] => true
  | c :: rest => if c = '*' then rest.isEmpty else starLast rest

theorem starLast_dropWhile (p : Str) (q : Char → Bool) (h : starLast p = true) :
    starLast (p.dropWhile q) = true := by
  induction p with
  | nil => simp [starLast]
  | cons c rest ih =>
    simp only [List.dropWhile_cons]
    split
    · apply ih
      simp only [starLast] at h
      split at h
      · cases rest <;> simp_all [starLast]
      · exact h
    · exact h

theorem starLast_tail {c : Char} {rest : Str} (h : starLast (c :: rest) = true) (hc : c ≠ '*') :
    starLast rest = true := by
  simpa [starLast, hc] using h

theorem reverseAux_nil (f : Nat) (args : List Str) : reverseAux f [] args = [] := by
  cases f <;> rfl

/-- **reverse = instantiate the normalised pattern** (at the level of the fuelled loops) -/
theorem reverseAux_eq_inst : ∀ (f : Nat) (p : Str) (args : List Str), p.length < f →
    starLast p = true → args.length = arity (normAux f p).1 →
    inst (normAux f p).1 args = some (reverseAux f p args) := by
  intro f p args hlen hstar
  refine normAux_induction (P := fun f p ts _ => p.length < f → starLast p = true → ∀ args : List Str,
    args.length = arity ts → inst ts args = some (reverseAux f p args)) ?stop ?esc ?param ?any ?lit f p hlen hstar args
  case stop =>
    intro f p h hlen _ args harity
    obtain rfl : p = [] := h.resolve_left (by omega)
    obtain rfl : args = [] := List.length_eq_zero_iff.mp harity
    rw [reverseAux_nil]
    rfl
  case esc =>
    intro f rest ts _ ih hlen hstar args harity
    have := ih (by simp at hlen; omega) (by simpa [starLast] using hstar) args harity
    simp [inst, reverseAux, this]
  case param =>
    intro f rest ih hlen hstar args harity
    obtain ⟨a, args', rfl⟩ := List.exists_cons_of_length_eq_add_one harity
    have hl := (List.dropWhile_suffix (l := rest) (· ≠ '/')).length_le
    have := ih (by simp at hlen; omega) (starLast_dropWhile rest _ (starLast_tail hstar (by decide))) args'
      (by simpa [arity] using harity)
    simpa [inst, reverseAux] using this
  case any =>
    intro f rest _ hstar args harity
    obtain rfl : rest = [] := by simpa [starLast] using hstar
    obtain ⟨a, args', rfl⟩ := List.exists_cons_of_length_eq_add_one harity
    obtain rfl : args' = [] := List.length_eq_zero_iff.mp (by simpa [arity] using harity)
    simp [inst, reverseAux, reverseAux_nil]
  case lit =>
    intro f c rest ts _ hesc hcolon hstarc ih hlen hstar args harity
    have := ih (by simpa using hlen) (starLast_tail hstar hstarc) args harity
    simp [inst, reverseAux, hesc, hcolon, hstarc, this]

/-- **C20_reverse_eq_inst** — for a pattern whose `*`, if any, is its last byte and as many arguments as the
    pattern has markers, `Router.Reverse` writes the pattern with the arguments in place of its markers. -/
theorem C20_reverse_eq_inst (pat : Str) (args : List Str)
    (hstar : starLast (normalizeSlash pat) = true)
    (harity : args.length = arity (norm pat).1) :
    inst (norm pat).1 args = some (reverse pat args) := by
  unfold norm reverse at *
  exact reverseAux_eq_inst _ _ _ (by omega) hstar harity

/-- after a named parameter the pattern either ends or goes on with a literal `/` -/
def paramThenSlash : List Tok → Bool
  | [] => true
  | .param :: ts => (ts.isEmpty || ts.head? = some (.lit '/')) && paramThenSlash ts
  | _ :: ts => paramThenSlash ts

/-- valid values: a named parameter's value is non-empty and without `/`; a wildcard's is arbitrary -/
def ValidVals : List Tok → List Str → Prop
  | [], [] => True
  | .lit _ :: ts, vs => ValidVals ts vs
  | .param :: ts, v :: vs => v ≠ [] ∧ '/' ∉ v ∧ ValidVals ts vs
  | .any :: ts, _ :: vs => ValidVals ts vs
  | _, _ => False

/-- in an instance of `:name` followed by more pattern, the text up to the first `/` is the value of the name:
    the value has no `/`, and what follows it is nothing or starts with the literal `/` -/
theorem takeWhile_value {ts : List Tok} {vs : List Str} {q v : Str} (hps : paramThenSlash (.param :: ts) = true)
    (hq : inst ts vs = some q) (hv : '/' ∉ v) : (v ++ q).takeWhile (· ≠ '/') = v := by
  have hq0 : q.takeWhile (· ≠ '/') = [] := by
    cases ts with
    | nil => rw [(inst_nil_iff.mp hq).2]; rfl
    | cons t ts =>
      obtain ⟨rfl, _⟩ : t = Tok.lit '/' ∧ _ := by simpa [paramThenSlash] using hps
      obtain ⟨q', _, rfl⟩ := inst_lit_iff.mp hq
      simp
  rw [List.takeWhile_append_of_pos fun a ha => by simpa using fun h : a = '/' => hv (h ▸ ha), hq0, List.append_nil]

/-- the search on a one-entry residual whose pattern goes on with a literal -/
theorem search_one_lit (m : Str) (fuel : Nat) (c : Char) (ts : List Tok) (e : Entry) (q : Str) (vals : List Str)
    (best : Best) :
    search m (fuel + 1) [(.lit c :: ts, e)] (c :: q) vals best = search m fuel [(ts, e)] q vals best := by
  have hd : deriv (.lit c) [(Tok.lit c :: ts, e)] = [(ts, e)] := by simp [deriv]
  have hp : deriv .param [(Tok.lit c :: ts, e)] = [] := rfl
  have ha : deriv .any [(Tok.lit c :: ts, e)] = [] := rfl
  simp only [search, stepEnd, List.isEmpty_cons, Bool.false_eq_true, if_false, litStep, hd, paramStep, anyStep, hp, ha,
    List.isEmpty_nil, or_true, if_true]
  generalize search m fuel _ _ _ best = x
  obtain ⟨_ | _, b⟩ := x <;> rfl

/-- … with a named parameter (the path is not at its end) -/
theorem search_one_param (m : Str) (fuel : Nat) (ts : List Tok) (e : Entry) (path : Str) (hne : path ≠ [])
    (vals : List Str) (best : Best) :
    search m (fuel + 1) [(.param :: ts, e)] path vals best
      = search m fuel [(ts, e)] (path.drop (paramValue ts.isEmpty path).length)
          (vals ++ [paramValue ts.isEmpty path]) best := by
  have hd : ∀ c, deriv (.lit c) [(Tok.param :: ts, e)] = [] := fun _ => rfl
  have hp : deriv .param [(Tok.param :: ts, e)] = [(ts, e)] := rfl
  have ha : deriv .any [(Tok.param :: ts, e)] = [] := rfl
  have hemp : path.isEmpty = false := by cases path <;> simp_all
  have hl : litStep (fun r' rest b => search m fuel r' rest vals b) [(Tok.param :: ts, e)] path best
      = (.miss, best) := by
    cases path with
    | nil => rfl
    | cons c rest => simp only [litStep, hd, List.isEmpty_nil, if_true]
  simp only [search, stepEnd, hemp, Bool.false_eq_true, if_false, hl, orElse, paramStep, hp, List.isEmpty_cons,
    or_self, anyStep, ha, List.isEmpty_nil, if_true, List.all_cons, List.all_nil, Bool.and_true]
  generalize search m fuel _ _ _ best = x
  obtain ⟨_ | _, b⟩ := x <;> rfl

/-- … with the wildcard -/
theorem search_one_any (m : Str) (fuel : Nat) (e : Entry) (path : Str) (vals : List Str) (best : Best) :
    search m (fuel + 1) [([.any], e)] path vals best = stepAny m [e] path vals best := by
  have hd : ∀ c, deriv (.lit c) [([Tok.any], e)] = [] := fun _ => rfl
  have hp : deriv .param [([Tok.any], e)] = [] := rfl
  have ha : ends (deriv .any [([Tok.any], e)]) = [e] := rfl
  have hne : (deriv .any [([Tok.any], e)]).isEmpty = false := rfl
  have hl : litStep (fun r' rest b => search m fuel r' rest vals b) [([Tok.any], e)] path best = (.miss, best) := by
    cases path with
    | nil => rfl
    | cons c rest => simp only [litStep, hd, List.isEmpty_nil, if_true]
  have he : stepEnd m (ends [([Tok.any], e)]) path best = (none, best) := by
    cases path <;> rfl
  simp only [search, he, hl, orElse, paramStep, hp, List.isEmpty_nil, or_true, if_true, anyStep, hne, ha,
    Bool.false_eq_true, if_false]

/-- the search on the one-entry residual set follows the instantiated pattern to its end -/
theorem search_single (m : Str) (e : Entry) (hm : e.method = m) (hne : m ≠ routeNotFound) :
    ∀ (fuel : Nat) (ts : List Tok) (vs : List Str) (path : Str) (vals : List Str) (best : Best),
      ts.length < fuel → anyLast ts = true → paramThenSlash ts = true → ValidVals ts vs →
      inst ts vs = some path →
      (search m fuel [(ts, e)] path vals best).1 = .hit e (vals ++ vs) := by
  have hf : findM [e] m = some e := by simp [findM, hne, hm]
  intro fuel
  induction fuel with
  | zero => intro ts _ _ _ _ h; omega
  | succ fuel ih =>
    intro ts vs path vals best hlen hal hps hvalid hinst
    cases ts with
    | nil =>
      obtain ⟨rfl, rfl⟩ := inst_nil_iff.mp hinst
      have hh : isHandler [e] = true := by simp [isHandler, hm, hne]
      simp [search, stepEnd, ends, hh, hf]
    | cons t ts' =>
      have hlen' : ts'.length < fuel := by simpa using hlen
      cases t with
      | lit c =>
        obtain ⟨q, hq, rfl⟩ := inst_lit_iff.mp hinst
        rw [search_one_lit]
        exact ih ts' vs q vals best hlen' (by simpa [anyLast] using hal) (by simpa [paramThenSlash] using hps)
          (by simpa [ValidVals] using hvalid) hq
      | param =>
        obtain ⟨v, vs', q, rfl, hq, rfl⟩ := (inst_marker_iff (.inl rfl)).mp hinst
        obtain ⟨hvne, hvslash, hvalid'⟩ := hvalid
        -- the value the search takes is exactly `v`
        have hval : paramValue ts'.isEmpty (v ++ q) = v := by
          cases ts' with
          | nil => rw [(inst_nil_iff.mp hq).2]; exact List.append_nil v
          | cons _ _ => exact takeWhile_value hps hq hvslash
        rw [search_one_param m fuel ts' e (v ++ q) (fun h => hvne (List.append_eq_nil_iff.mp h).1), hval, List.drop_left,
          ih ts' vs' q (vals ++ [v]) best hlen' (by simpa [anyLast] using hal)
            (by simp only [paramThenSlash, Bool.and_eq_true] at hps; exact hps.2) hvalid' hq, List.append_assoc]
        rfl
      | any =>
        obtain rfl : ts' = [] := by simpa [anyLast] using hal
        obtain ⟨w, vs', q, rfl, hq, rfl⟩ := (inst_marker_iff (.inr rfl)).mp hinst
        obtain ⟨rfl, rfl⟩ := inst_nil_iff.mp hq
        rw [search_one_any]
        simp [stepAny, hf]

theorem normAux_head_slash (f : Nat) (r : Str) :
    (normAux (f + 1) ('/' :: r)).1.head? = some (.lit '/') := by
  simp [normAux]

theorem normAux_paramThenSlash : ∀ (f : Nat) (p : Str), paramThenSlash (normAux f p).1 = true := by
  refine normAux_induction (P := fun _ _ ts _ => paramThenSlash ts = true) (fun _ _ _ => rfl) (fun _ _ _ _ h => h) ?_
    (fun _ _ => rfl) (fun _ _ _ _ _ _ _ _ h => h)
  intro f rest ih
  simp only [paramThenSlash, ih, Bool.and_true, Bool.or_eq_true]
  -- what follows the name is empty or starts with '/'
  cases hd : rest.dropWhile (· ≠ '/') with
  | nil => exact .inl (by cases f <;> rfl)
  | cons d ds =>
    have hd' := List.head?_dropWhile_not (· ≠ '/') rest
    rw [hd] at hd'
    obtain rfl : d = '/' := by simpa using hd'
    cases f with
    | zero => exact .inl rfl
    | succ f => exact .inr (by simpa using normAux_head_slash f ds)

/-- valid values are as many as the markers, and slash-free where the specification asks for it -/
theorem validVals_spec {ts : List Tok} {vs : List Str} (h : ValidVals ts vs) :
    vs.length = arity ts ∧ SlashFree ts vs := by
  induction ts generalizing vs with
  | nil => cases vs <;> simp_all [ValidVals, SlashFree, arity]
  | cons t ts ih =>
    cases t with
    | lit c => exact ih h
    | param =>
      cases vs with
      | nil => exact h.elim
      | cons v vs => exact ⟨congrArg (· + 1) (ih h.2.2).1, fun _ => h.2.1, (ih h.2.2).2⟩
    | any =>
      cases vs with
      | nil => exact h.elim
      | cons v vs => exact ⟨congrArg (· + 1) (ih h).1, (ih h).2⟩

theorem validVals_length {ts : List Tok} {vs : List Str} (h : ValidVals ts vs) : vs.length = arity ts :=
  (validVals_spec h).1

theorem validVals_slashFree {ts : List Tok} {vs : List Str} (h : ValidVals ts vs) : SlashFree ts vs :=
  (validVals_spec h).2

/-- **C20_roundtrip_single** — in a table containing just the route, for every pattern (whose
    `*`, if any, is its last byte) and every valid value list: the URL produced by reverse
    routing, requested with the route's method, is dispatched to that route with exactly those
    values. -/
theorem C20_roundtrip_single (r : Route) (hne : r.method ≠ routeNotFound) (vs : List Str)
    (hstar : starLast (normalizeSlash r.path) = true) (hvalid : ValidVals (norm r.path).1 vs) :
    routeTable [r] r.method (reverse r.path vs) = .dispatch (mkEntry r) vs := by
  have hinst := C20_reverse_eq_inst r.path vs hstar (validVals_length hvalid)
  refine finish_hit (search_single r.method (mkEntry r) rfl hne _ (norm r.path).1 vs _ [] none ?_
    (normAux_anyLast _ _) (normAux_paramThenSlash _ _) hvalid hinst)
  show (norm r.path).1.length < bound [((norm r.path).1, mkEntry r)] + 1
  simp [bound]

/-- **C20_decomposition_unique** — a path decomposes in at most one way along a pattern when
    parameters followed by more text hold no `/`. -/
theorem C20_decomposition_unique : ∀ (ts : List Tok) (vs vs' : List Str) (p : Str),
    anyLast ts = true → paramThenSlash ts = true →
    inst ts vs = some p → inst ts vs' = some p → SlashFree ts vs → SlashFree ts vs' → vs = vs' := by
  intro ts
  induction ts with
  | nil =>
    intro vs vs' p _ _ h h' _ _
    rw [(inst_nil_iff.mp h).1, (inst_nil_iff.mp h').1]
  | cons t ts ih =>
    intro vs vs' p hal hps h h' hs hs'
    -- a marker that ends the pattern takes the whole rest of the path
    have last : ∀ {t : Tok}, t = .param ∨ t = .any → inst [t] vs = some p → inst [t] vs' = some p → vs = vs' := by
      intro t ht h h'
      obtain ⟨v, vs, q, rfl, hq, rfl⟩ := (inst_marker_iff ht).mp h
      obtain ⟨v', vs', q', rfl, hq', hqq⟩ := (inst_marker_iff ht).mp h'
      obtain ⟨rfl, rfl⟩ := inst_nil_iff.mp hq
      obtain ⟨rfl, rfl⟩ := inst_nil_iff.mp hq'
      rw [List.append_nil, List.append_nil] at hqq
      rw [hqq]
    cases t with
    | lit c =>
      obtain ⟨q, hq, rfl⟩ := inst_lit_iff.mp h
      obtain ⟨q', hq', hqq⟩ := inst_lit_iff.mp h'
      obtain rfl := List.tail_eq_of_cons_eq hqq
      exact ih vs vs' q' (by simpa [anyLast] using hal) (by simpa [paramThenSlash] using hps) hq hq'
        (by simpa [SlashFree] using hs) (by simpa [SlashFree] using hs')
    | param =>
      cases ts with
      | nil => exact last (.inl rfl) h h'
      | cons t2 ts2 =>
        -- the parameter is followed by a literal `/`: its value is the text up to the first `/`
        obtain ⟨v, vs, q, rfl, hq, rfl⟩ := (inst_marker_iff (.inl rfl)).mp h
        obtain ⟨v', vs', q', rfl, hq', hqq⟩ := (inst_marker_iff (.inl rfl)).mp h'
        have e1 := takeWhile_value hps hq (hs.1 (List.cons_ne_nil _ _))
        rw [← hqq, takeWhile_value hps hq' (hs'.1 (List.cons_ne_nil _ _))] at e1
        subst e1
        obtain rfl := List.append_cancel_left hqq
        simp only [paramThenSlash, Bool.and_eq_true] at hps
        rw [ih vs vs' _ (by simpa [anyLast] using hal) hps.2 hq hq' hs.2 hs'.2]
    | any =>
      obtain rfl : ts = [] := by simpa [anyLast] using hal
      exact last (.inr rfl) h h'

/-- **C20_roundtrip_values** — in ANY table: whenever the URL reversed from route `r` with
    valid values `vs` is dispatched back to `r`, the handler sees exactly `vs`. -/
theorem C20_roundtrip_values (rs : List Route) (r : Route) (hne : r.method ≠ routeNotFound)
    (vs vals : List Str) (hstar : starLast (normalizeSlash r.path) = true)
    (hvalid : ValidVals (norm r.path).1 vs)
    (h : routeTable rs r.method (reverse r.path vs) = .dispatch (mkEntry r) vals) : vals = vs := by
  have hinst := C20_reverse_eq_inst r.path vs hstar (validVals_length hvalid)
  unfold routeTable at h
  rcases C01.C01_sound_partial _ _ _ _ _ h with ⟨_, hi, hsf, _⟩ | ⟨hm, _⟩
  · exact C20_decomposition_unique (norm r.path).1 vals vs _ (normAux_anyLast _ _)
      (normAux_paramThenSlash _ _) hi hinst hsf (validVals_slashFree hvalid)
  · exact absurd hm hne

/-! ### non-vacuity; escaped colons come out as literal colons and are routed as literal text -/
example : reverse "/a\\:b/:id/*".toList ["7".toList, "x/y".toList] = "/a:b/7/x/y".toList := by
  lit_chars; decide +kernel
example : starLast (normalizeSlash "/a\\:b/:id/*".toList) = true := by lit_chars; decide +kernel
example : ValidVals (norm "/a\\:b/:id/*".toList).1 ["7".toList, "x/y".toList] := by
  lit_chars
  simp [norm, normAux, normalizeSlash, ValidVals]
example : (norm "/a\\:b".toList).1 = ["/", "a", ":", "b"].map (fun s => Tok.lit s.toList.head!) := by
  lit_chars; decide +kernel

end C20
