/-!
# String literals in closed evaluations

The models spell method names, header names and the like as `"GET".toList`.  `String.toList` on a literal
decodes the literal's UTF-8 bytes, and `decide`, `rfl` and the kernel all pay for that decoding with thousands
of reduction steps per character, at every occurrence.  A literal *is* `String.ofList [chars]`, so
`String.toList_ofList` turns `"GET".toList` into `['G', 'E', 'T']` by rewriting, with nothing to evaluate.
-/

/-- Rewrites every `"…".toList` of a literal in the goal (or at the given location) to the list of its
characters.  `-index`: a literal matches `String.ofList _` by unification only, not in simp's index.
Fails if there is no literal left to rewrite. -/
syntax "lit_chars" (Lean.Parser.Tactic.location)? : tactic
macro_rules
  | `(tactic| lit_chars $[$loc]?) => `(tactic| simp -index only [String.toList_ofList] $[$loc]?)
