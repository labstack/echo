import EchoModel.C19
import EchoProofs.C19
import EchoProofs.C19Cfg
/-!
# C19 — simultaneous calls on one name; the shortest request targets

A name of the balancer is a present/absent bit that only a successful AddTarget / RemoveTarget
flips: the sequential facts behind the oracle of the simultaneous rounds (harness/c19_conc.go,
c19RunRounds).  By `C19_linearizable` the calls of one round are an op sequence of the model in SOME
order; the facts hold for every order.

No request target is too short for a rewrite rule: catch-all rules on `/` and on the empty target,
exact rules for the two shortest targets.
-/
namespace C19

/-! ## one name under simultaneous calls -/

def addOk1 (nm : List Char) (o : Op) (r : Res) : Nat :=
  match o, r with
  | .add t, .bool true => if t.name = nm then 1 else 0
  | _, _ => 0

def removeOk1 (nm : List Char) (o : Op) (r : Res) : Nat :=
  match o, r with
  | .remove n, .bool true => if n = nm then 1 else 0
  | _, _ => 0

/-- number of successful `AddTarget` calls for the name in a history (operations with their results) -/
def addsOk (nm : List Char) (ops : List Op) (rs : List Res) : Nat :=
  ((ops.zip rs).map fun p => addOk1 nm p.1 p.2).sum

def removesOk (nm : List Char) (ops : List Op) (rs : List Res) : Nat :=
  ((ops.zip rs).map fun p => removeOk1 nm p.1 p.2).sum

def presentN (ts : List Target) (nm : List Char) : Nat := if hasName ts nm then 1 else 0

theorem hasName_append_single (ts : List Target) (t : Target) (nm : List Char) :
    hasName (ts ++ [t]) nm = (hasName ts nm || (t.name == nm)) := by
  simp [hasName]

theorem hasName_eraseP (ts : List Target) (n nm : List Char) (hu : NamesUnique ts) :
    hasName (ts.eraseP (fun t => t.name == n)) nm = (hasName ts nm && n != nm) := by
  rw [Bool.eq_iff_iff, Bool.and_eq_true, bne_iff_ne, hasName_iff, hasName_iff]
  constructor
  · rintro ⟨x, hx, rfl⟩
    exact ⟨⟨x, ((eraseP_name_mem ts n hu x).mp hx).1, rfl⟩, Ne.symm ((eraseP_name_mem ts n hu x).mp hx).2⟩
  · rintro ⟨⟨x, hx, rfl⟩, hne⟩
    exact ⟨x, (eraseP_name_mem ts n hu x).mpr ⟨hx, Ne.symm hne⟩, rfl⟩

theorem presentN_false {ts nm} (h : hasName ts nm = false) : presentN ts nm = 0 := by rw [presentN, h]; rfl
theorem presentN_true {ts nm} (h : hasName ts nm = true) : presentN ts nm = 1 := by rw [presentN, h]; rfl

theorem stepOp_balance (s : St) (o : Op) (nm : List Char) (hu : NamesUnique s.bal.targets) :
    presentN s.bal.targets nm + addOk1 nm o (stepOp s o).2
      = removeOk1 nm o (stepOp s o).2 + presentN (stepOp s o).1.bal.targets nm := by
  cases o with
  | add t =>
    rw [stepOp_add]
    cases h : hasName s.bal.targets t.name with
    | true => rw [addTarget_of_present h]; exact (Nat.zero_add _).symm
    | false =>
      rw [addTarget_of_absent h]
      simp only [addOk1, removeOk1, presentN, hasName_append_single]
      by_cases hn : t.name = nm
      · subst hn; simp [h]
      · simp [hn]
  | remove n =>
    rw [stepOp_remove]
    cases h : hasName s.bal.targets n with
    | false => rw [removeTarget_of_absent h]; exact (Nat.zero_add _).symm
    | true =>
      rw [removeTarget_of_present h]
      simp only [addOk1, removeOk1, presentN, hasName_eraseP _ _ _ hu]
      by_cases hn : n = nm
      · subst hn; simp [h]
      · simp [hn]
  | next c hint => rw [stepOp_next, nextOf_targets]; exact (Nat.zero_add _).symm

theorem tally_cons (w : Op → Res → Nat) (s : St) (o : Op) (os : List Op) :
    (((o :: os).zip (runOps s (o :: os)).2).map fun p => w p.1 p.2).sum =
      w o (stepOp s o).2 + ((os.zip (runOps (stepOp s o).1 os).2).map fun p => w p.1 p.2).sum := rfl

/-- For every operation sequence from every state with unique names (any
    balancer kind, any indices) and every name: *present before + successful AddTarget calls =
    successful RemoveTarget calls + present after*.  A name is a present/absent bit that only a
    successful call flips, so the successes alternate: this is what a round of simultaneous calls
    on one name is checked against (by `C19_linearizable` the round is such a sequence). -/
theorem C19_name_balance (ops : List Op) (nm : List Char) :
    ∀ s : St, NamesUnique s.bal.targets →
      presentN s.bal.targets nm + addsOk nm ops (runOps s ops).2
        = removesOk nm ops (runOps s ops).2 + presentN (runOps s ops).1.bal.targets nm := by
  induction ops with
  | nil => exact fun s _ => (Nat.zero_add _).symm
  | cons o os ih =>
    intro s hu
    have h1 := stepOp_balance s o nm hu
    have h2 := ih (stepOp s o).1 (stepOp_unique s o hu)
    rw [addsOk, removesOk] at h2 ⊢
    rw [tally_cons, tally_cons, runOps_cons, ← Nat.add_assoc, h1, Nat.add_assoc, h2, Nat.add_assoc]

/-- The consequences of `C19_name_balance` the oracle uses.  Name absent before: the successful adds
    are as many as the successful removes or one more, and the name is present afterwards exactly in
    the second case (never two successful adds in a row).  Name present before: the same with the
    roles swapped (never two successful removes of one entry). -/
theorem C19_name_tally (ops : List Op) (nm : List Char) (s : St) (hu : NamesUnique s.bal.targets) :
    let a := addsOk nm ops (runOps s ops).2
    let r := removesOk nm ops (runOps s ops).2
    (hasName s.bal.targets nm = false →
      (a = r ∨ a = r + 1) ∧ (hasName (runOps s ops).1.bal.targets nm = true ↔ a = r + 1)) ∧
    (hasName s.bal.targets nm = true →
      (r = a ∨ r = a + 1) ∧ (hasName (runOps s ops).1.bal.targets nm = false ↔ r = a + 1)) := by
  intro a r
  have h : presentN s.bal.targets nm + a = r + presentN (runOps s ops).1.bal.targets nm :=
    C19_name_balance ops nm s hu
  constructor
  · intro h0
    rw [presentN_false h0, Nat.zero_add] at h
    cases h1 : hasName (runOps s ops).1.bal.targets nm with
    | false => rw [presentN_false h1] at h; exact ⟨.inl h, ⟨nofun, fun e => by omega⟩⟩
    | true => rw [presentN_true h1] at h; exact ⟨.inr h, ⟨fun _ => h, fun _ => rfl⟩⟩
  · intro h0
    rw [presentN_true h0] at h
    cases h1 : hasName (runOps s ops).1.bal.targets nm with
    | false => rw [presentN_false h1] at h; exact ⟨.inr (by omega), ⟨fun _ => by omega, fun _ => rfl⟩⟩
    | true => rw [presentN_true h1] at h; exact ⟨.inl (by omega), ⟨nofun, fun e => by omega⟩⟩

theorem untouched_of_tally_zero {I : St → Prop} {touch : Op → Prop} {w : Op → Res → Nat}
    (hkeep : ∀ s o, I s → ¬ touch o → I (stepOp s o).1)
    (hhit : ∀ s o, I s → touch o → w o (stepOp s o).2 ≠ 0) (ops : List Op) :
    ∀ s, I s → ((ops.zip (runOps s ops).2).map fun p => w p.1 p.2).sum = 0 → ∀ o ∈ ops, ¬ touch o := by
  induction ops with
  | nil => exact fun _ _ _ _ ho => nomatch ho
  | cons o os ih =>
    intro s hs h0
    rw [tally_cons] at h0
    have hfirst : ¬ touch o := fun ht => hhit s o hs ht (Nat.eq_zero_of_add_eq_zero_right h0)
    exact List.forall_mem_cons.mpr ⟨hfirst, ih _ (hkeep s o hs hfirst) (Nat.eq_zero_of_add_eq_zero_left h0)⟩

/-- A name that is absent and that no call of the sequence adds
    successfully is not the subject of ANY AddTarget call of the sequence: the first such call would
    have succeeded.  So an `AddTarget` that answers false proves the name was on the list before or
    was added by another call. -/
theorem C19_add_refused_needs_present (ops : List Op) (nm : List Char) :
    ∀ s : St, hasName s.bal.targets nm = false → addsOk nm ops (runOps s ops).2 = 0 →
      ∀ o ∈ ops, ¬ o.addsName nm := by
  refine untouched_of_tally_zero (I := fun s => hasName s.bal.targets nm = false) ?_ ?_ ops
  · intro s o hs hno
    exact (hasName_false_iff _ _).mpr (stepOp_absent s o nm hno ((hasName_false_iff _ _).mp hs))
  · intro s o hs ht
    cases o with
    | add t =>
      cases (show t.name = nm from ht)
      rw [stepOp_add, addTarget_of_absent hs, addOk1, if_pos rfl]
      exact Nat.one_ne_zero
    | remove n => exact ht.elim
    | next c hint => exact ht.elim

/-- The mirror image of `C19_add_refused_needs_present`: a name that is on the list (names
    unique) and that no call of the sequence removes successfully is not the subject of ANY
    RemoveTarget call of the sequence. -/
theorem C19_remove_refused_needs_absent (ops : List Op) (nm : List Char) :
    ∀ s : St, hasName s.bal.targets nm = true → removesOk nm ops (runOps s ops).2 = 0 →
      ∀ o ∈ ops, ¬ o.removesName nm := by
  refine untouched_of_tally_zero (I := fun s => hasName s.bal.targets nm = true) ?_ ?_ ops
  · intro s o hs hno
    obtain ⟨t, ht, hn⟩ := (hasName_iff _ _).mp hs
    exact (hasName_iff _ _).mpr ⟨t, stepOp_kept s o t (hn ▸ hno) ht, hn⟩
  · intro s o hs ht
    cases o with
    | remove n =>
      cases (show n = nm from ht)
      rw [stepOp_remove, removeTarget_of_present hs, removeOk1, if_pos rfl]
      exact Nat.one_ne_zero
    | add t => exact ht.elim
    | next c hint => exact ht.elim

-- non-vacuity: three simultaneous AddTarget("x") calls in any order — one true, two false;
-- then three RemoveTarget("x"): one true
example : (runOps ⟨true, ⟨[⟨['i'], 0⟩], 0⟩, []⟩
    [.add ⟨['x'], 1⟩, .add ⟨['x'], 2⟩, .add ⟨['x'], 3⟩, .remove ['x'], .remove ['x']]).2
    = [.bool true, .bool false, .bool false, .bool true, .bool false] := by decide
example : addsOk ['x'] [.add ⟨['x'], 1⟩, .add ⟨['x'], 2⟩, .remove ['x'], .add ⟨['x'], 3⟩]
    (runOps ⟨true, ⟨[], 0⟩, []⟩ [.add ⟨['x'], 1⟩, .add ⟨['x'], 2⟩, .remove ['x'], .add ⟨['x'], 3⟩]).2 = 2 := by decide
-- two entries of one name are outside every reachable state:
example : ¬ NamesUnique [⟨['x'], 1⟩, ⟨['x'], 2⟩] := by simp [NamesUnique]

/-! ## the shortest request targets -/

theorem lazyStar_end (inp : List Char) : ∀ (st : Bool) (acc : List Char), '\n' ∉ inp →
    Glob.lazyStar (Glob.matchToks []) inp st acc = some [acc.reverse ++ inp] := by
  induction inp with
  | nil => intro st acc _; simp [Glob.lazyStar, Glob.matchToks]
  | cons x r ih =>
    intro st acc hnl
    rw [List.mem_cons, not_or] at hnl
    rw [Glob.lazyStar, show Glob.matchToks [] (x :: r) st = none from rfl]
    simp [Ne.symm hnl.1, ih false (x :: acc) hnl.2]

theorem findFrom_bol_false (ts : List Glob.Tok) (inp : List Char) :
    Glob.findFrom (.bol :: ts) inp false = none := by
  induction inp with
  | nil => simp [Glob.findFrom, Glob.matchToks]
  | cons x r ih => simp [Glob.findFrom, Glob.matchToks, ih]

theorem keyAt_nil (k : Nat) (s : List Char) : Glob.keyAt [] k s = none := rfl

theorem substAux_nil (fuel : Nat) : ∀ s : List Char, Glob.substAux [] fuel s = s := by
  induction fuel with
  | zero => intro s; rfl
  | succ n ih =>
    intro s
    cases s with
    | nil => rfl
    | cons c r => simp [Glob.substAux, keyAt_nil, ih r]

theorem subst_nil (tmpl : List Char) : Glob.subst [] tmpl = tmpl := substAux_nil _ _

theorem findFrom_of_match {toks : List Glob.Tok} {inp : List Char} {st : Bool} {caps : List (List Char)}
    (h : Glob.matchToks toks inp st = some caps) : Glob.findFrom toks inp st = some caps := by
  cases inp <;> simp only [Glob.findFrom, h]

theorem findFrom_bol (ts : List Glob.Tok) (inp : List Char) :
    Glob.findFrom (.bol :: ts) inp true = Glob.matchToks ts inp true := by
  cases inp with
  | nil => simp only [Glob.findFrom, Glob.matchToks, if_true]; cases Glob.matchToks ts [] true <;> rfl
  | cons x r =>
    simp only [Glob.findFrom, Glob.matchToks, if_true, findFrom_bol_false]
    cases Glob.matchToks ts (x :: r) true <;> rfl

theorem rewriteReq_of_match {pat tmpl uri pathq : List Char} {caps : List (List Char)}
    (h : Glob.matchToks (Glob.compile pat) (matchInput uri) true = some caps) :
    rewriteReq [⟨pat, tmpl⟩] uri pathq = Glob.subst caps tmpl := by
  simp only [rewriteReq, rewrite?, Rule.apply, Glob.find, findFrom_of_match h]
  rfl

theorem apply_anchored (pat tmpl uri : List Char) :
    Rule.apply ⟨'^' :: pat, tmpl⟩ uri =
      (Glob.matchToks (Glob.compile ('^' :: pat)).tail uri true).map fun caps => Glob.subst caps tmpl := by
  rw [Rule.apply, Glob.find]
  exact congrArg _ (findFrom_bol _ uri)

/-- No request target is too short for a rule.  The prefix rule `/*`
    rewrites EVERY origin-form target `/rest` — the root request `/` (`rest` empty) like any other —
    to its template with `$1 := rest`; the rule `*` rewrites every request whatever is matched
    (also the empty string left of a path-less absolute-form target, `GET http://host HTTP/1.1`).
    (`rest` free of line feeds: `.` does not match `\n`; net/http admits none in a request line.) -/
theorem C19_rewrite_catch_all (tmpl rest pathq : List Char) (hnl : '\n' ∉ rest) :
    rewriteReq [⟨['/', '*'], tmpl⟩] ('/' :: rest) pathq = Glob.subst [rest] tmpl ∧
    rewriteReq [⟨['^', '/', '*'], tmpl⟩] ('/' :: rest) pathq = Glob.subst [rest] tmpl ∧
    (∀ requestURI, matchInput requestURI = rest →
      rewriteReq [⟨['*'], tmpl⟩] requestURI pathq = Glob.subst [rest] tmpl) := by
  -- each pattern ends in a star that is reached at `rest`, and a star there takes all of it
  have hs : ∀ st, Glob.matchToks [.star] rest st = some [rest] := fun st => lazyStar_end rest st [] hnl
  exact ⟨rewriteReq_of_match (hs false), rewriteReq_of_match (hs false),
    fun u hu => rewriteReq_of_match (hu ▸ hs true)⟩

/-- The exact rules for the two shortest targets: `^/` fires for the
    root request `/` and for nothing else, `^` for the empty target and for nothing else; the
    template is used as it is. -/
theorem C19_rewrite_exact_short (tmpl uri : List Char) :
    Rule.apply ⟨['^', '/'], tmpl⟩ uri = (if uri = ['/'] then some tmpl else none) ∧
    Rule.apply ⟨['^'], tmpl⟩ uri = (if uri = [] then some tmpl else none) := by
  rw [apply_anchored, apply_anchored]
  constructor
  · show (Glob.matchToks [.ch '/'] uri true).map _ = _
    cases uri with
    | nil => rfl
    | cons x r => cases r <;> by_cases hx : x = '/' <;> simp [Glob.matchToks, subst_nil, hx]
  · show (Glob.matchToks [] uri true).map _ = _
    cases uri <;> simp [Glob.matchToks, subst_nil]

-- targets of 0–2 bytes against catch-all and exact rules
example : rewriteReq [⟨"/*".toList, "/app/$1".toList⟩] "/".toList "/".toList = "/app/".toList := by lit_chars; decide +kernel
example : rewriteReq [⟨"/".toList, "/index.html".toList⟩] "/".toList "/".toList = "/index.html".toList := by lit_chars; decide +kernel
example : rewriteReq [⟨"*".toList, "/all$1".toList⟩] "http://ex.test".toList "/".toList = "/all".toList := by lit_chars; decide +kernel
example : rewriteReq [⟨"^".toList, "/root".toList⟩] "HTTP://u@ex.test".toList "/".toList = "/root".toList := by lit_chars; decide +kernel
example : rewriteReq [⟨"^".toList, "/root".toList⟩] "/".toList "/".toList = "/".toList := by lit_chars; decide +kernel
example : rewriteReq [⟨"^/".toList, "/index.html".toList⟩] "/a".toList "/a".toList = "/a".toList := by lit_chars; decide +kernel
example : rewriteReq [⟨"".toList, "/fixed".toList⟩] "/?".toList "/?".toList = "/fixed".toList := by lit_chars; decide +kernel

end C19
