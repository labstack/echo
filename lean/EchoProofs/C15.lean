import EchoModel.C15
import EchoProofs.Lit
/-!
# C15 — theorems: Gzip / Decompress are transparent

All statements are for every `MinLength`, every `Accept-Encoding` value, every handler program
(any length, any chunk sizes, any order of `WriteHeader / Write / Flush / Stream`), and every
left-over state of the pooled gzip writer and buffer.

The proof is one invariant (`Inv`) over the run of the handler program that relates the
concrete state (response writer, gzip writer, `gzipResponseWriter`, `echo.Response`) to a ghost
record of what the handler has done so far (`Ghost`).
-/
namespace C15

/-! ## specification side: what the handler did -/

/-- does the op call `Write` at all (a zero-length `Write` counts; an empty reader does not) -/
def Op.makesWrite : Op → Bool
  | .write _ => true
  | .stream _ cs _ => cs.any (fun c => !c.isEmpty)
  | .streamWT _ d => !d.isEmpty
  | _ => false

/-- the bytes an op passes to `Write` -/
def Op.bytes : Op → Bytes
  | .write b => b
  | .stream _ cs _ => concatAll cs
  | .streamWT _ d => d
  | _ => []

def written : List Op → Bytes
  | [] => []
  | op :: ops => op.bytes ++ written ops

/-- the status the handler chose: the first `WriteHeader`/`Stream` code, or 200 if a `Write`
    or `Flush` came first (net/http's rule), or 200 if it did nothing -/
def chosen : List Op → Nat
  | [] => 200
  | .setLen _ :: ops => chosen ops
  | .writeHeader c :: _ => c
  | .write _ :: _ => 200
  | .flush :: _ => 200
  | .stream c _ _ :: _ => c
  | .streamWT c _ :: _ => c

/-- what the handler had written at each of its `Flush` calls (`pre` = written before `ops`) -/
def flushPoints (pre : Bytes) : List Op → List Bytes
  | [] => []
  | .flush :: ops => pre :: flushPoints pre ops
  | op :: ops => flushPoints (pre ++ op.bytes) ops

/-- the counts a correct writer reports -/
def expectedRet : Op → Ret
  | .write b => .wrote b.length
  | .stream _ cs fails => .streamed ((cs.filter (fun c => !c.isEmpty)).map List.length) (if fails then 1 else 0)
  | .streamWT _ d => .streamed (if d.isEmpty then [] else [d.length]) 0
  | _ => .none

/-- handlers set headers before they start the response: no `setLen` after another op -/
def headersFirst : List Op → Bool
  | [] => true
  | .setLen _ :: ops => headersFirst ops
  | _ :: ops => ops.all (fun op => match op with | .setLen _ => false | _ => true)

/-! ## specification side: what the client does -/

def lenient : Canon → Bytes
  | .raw b => b
  | .gzip d _ _ => d
  | .mixed => []

/-- the body is exactly one complete gzip stream -/
def isGzipStream (body : List Item) : Prop := ∃ d, canon body = .gzip d true false

/-- the client undoes the advertised Content-Encoding -/
def clientDecode (r : Raw) : Option Bytes :=
  if r.sent.ce then
    match canon r.body with
    | .gzip d true false => some d
    | _ => none
  else rawBytes r.body

/-! ## wire lemmas -/

/-- what a gzip writer that was flushed with `ds`, one after the other, has put behind its header -/
def blocks (ds : List Bytes) : List Item := ds.flatMap fun d => [.gzData d, .gzSync]

theorem concatAll_eq_flatten (bs : List Bytes) : concatAll bs = bs.flatten := by
  induction bs with
  | nil => rfl
  | cons b bs ih => rw [concatAll, ih, List.flatten_cons]

theorem concatAll_append (a b : List Bytes) : concatAll (a ++ b) = concatAll a ++ concatAll b := by
  simp only [concatAll_eq_flatten, List.flatten_append]

theorem gunzip_blocks (ds : List Bytes) (rest : List Item) :
    gunzipItems (blocks ds ++ rest) =
      (concatAll ds ++ (gunzipItems rest).1, (gunzipItems rest).2) := by
  induction ds with
  | nil => rfl
  | cons d ds ih =>
    have : blocks (d :: ds) ++ rest = .gzData d :: .gzSync :: (blocks ds ++ rest) := by
      simp [blocks]
    rw [this, gunzipItems, gunzipItems, ih, concatAll, List.append_assoc]

theorem canon_blocks (ds : List Bytes) (rest : List Item) :
    canon (.gzHeader :: (blocks ds ++ rest)) =
      .gzip (concatAll ds ++ (gunzipItems rest).1) (gunzipItems rest).2.1 (gunzipItems rest).2.2 := by
  simp only [canon, gunzip_blocks]

theorem canon_open (ds : List Bytes) : canon (.gzHeader :: blocks ds) = .gzip (concatAll ds) false false := by
  simpa [gunzipItems] using canon_blocks ds []

theorem canon_closed (ds : List Bytes) (p : Bytes) :
    canon (.gzHeader :: (blocks ds ++ [.gzData p, .gzTrailer])) = .gzip (concatAll ds ++ p) true false := by
  simpa [gunzipItems] using canon_blocks ds [.gzData p, .gzTrailer]

theorem rawBytes_append (a : List Item) (b : Bytes) (x : Bytes) (h : rawBytes a = some x) :
    rawBytes (a ++ [.raw b]) = some (x ++ b) := by
  induction a generalizing x with
  | nil => simp [rawBytes] at h ⊢; exact h ▸ rfl
  | cons i a ih =>
    cases i with
    | raw c =>
      simp only [rawBytes, List.cons_append, Option.map_eq_some_iff] at h ⊢
      obtain ⟨y, hy, rfl⟩ := h
      exact ⟨y ++ b, ih y hy, by simp⟩
    | _ => simp [rawBytes] at h

theorem canon_of_raw (body : List Item) (x : Bytes) (h : rawBytes body = some x) :
    canon body = .raw x := by
  cases body with
  | nil => simp [rawBytes] at h; simp [canon, rawBytes, h]
  | cons i r =>
    cases i with
    | raw c => simp [canon, h]
    | _ => simp [rawBytes] at h

theorem not_gzip_of_raw (body : List Item) (x : Bytes) (h : rawBytes body = some x) :
    ¬ isGzipStream body := by
  rintro ⟨d, hd⟩
  rw [canon_of_raw body x h] at hd
  exact Canon.noConfusion hd

/-! ## the response writer, the gzip writer and `echo.Response`, call by call -/

theorem Raw.writeHeader_of_committed (r : Raw) (c : Nat) (h : r.committed = true) :
    r.writeHeader c = r := by simp [Raw.writeHeader, h]

theorem Raw.writeHeader_of_fresh (r : Raw) (c : Nat) (h : r.committed = false) :
    r.writeHeader c = { r with committed := true, status := c, sent := r.hdr } := by
  simp [Raw.writeHeader, h]

theorem Raw.write_of_committed (r : Raw) (it : Item) (h : r.committed = true) :
    r.write it = { r with body := r.body ++ [it] } := by
  simp [Raw.write, Raw.writeHeader, h]

theorem Raw.write_of_fresh (r : Raw) (it : Item) (h : r.committed = false) :
    r.write it = { r with committed := true, status := 200, sent := r.hdr, body := r.body ++ [it] } := by
  simp [Raw.write, Raw.writeHeader, h]

theorem Raw.flush_of_committed (r : Raw) (h : r.committed = true) :
    r.flush = { r with snaps := r.snaps ++ [r.body] } := by
  simp [Raw.flush, Raw.writeHeader, h]

/-- a writer fresh from `Reset(rw)` puts its header on the wire at the first `Write` -/
theorem gzWrite_reset (r : Raw) (b : Bytes) :
    gzWrite { toRaw := true } r b =
      ({ toRaw := true, wroteHeader := true, pending := b }, r.write .gzHeader, b.length) := by
  simp [gzWrite, gzHeaderIfNeeded, emit]

theorem gzWrite_started (z : Gz) (r : Raw) (b : Bytes) (h : z.wroteHeader = true) :
    gzWrite z r b = ({ z with pending := z.pending ++ b }, r, b.length) := by
  simp [gzWrite, gzHeaderIfNeeded, h]

theorem gzFlush_started (z : Gz) (r : Raw) (h : z.wroteHeader = true) (hc : z.closed = false)
    (ht : z.toRaw = true) :
    gzFlush z r = ({ z with pending := [] }, (r.write (.gzData z.pending)).write .gzSync) := by
  simp [gzFlush, gzHeaderIfNeeded, emit, h, hc, ht]

theorem gzClose_started (z : Gz) (r : Raw) (h : z.wroteHeader = true) (hc : z.closed = false)
    (ht : z.toRaw = true) :
    gzClose z r =
      ({ z with pending := [], closed := true }, (r.write (.gzData z.pending)).write .gzTrailer) := by
  simp [gzClose, gzHeaderIfNeeded, emit, h, hc, ht]

theorem gzClose_discard (z : Gz) (r : Raw) (ht : z.toRaw = false) : (gzClose z r).2 = r := by
  cases hc : z.closed <;> cases hh : z.wroteHeader <;> simp [gzClose, gzHeaderIfNeeded, emit, ht, hc, hh]

/-- the switch to compression while nothing has reached the response writer: the delayed header goes out
    with `Content-Encoding`, the gzip header follows, the buffered bytes wait in the compressor -/
theorem startGzip_eq (s : St) (w : Grw) (hz : s.gz = { toRaw := true }) (hr : s.raw.committed = false)
    (hw : w.wroteHeader = true) :
    startGzip s w =
      ({ s with
          raw := { s.raw with
            hdr := { s.raw.hdr with ce := true }, committed := true, status := w.code,
            sent := { s.raw.hdr with ce := true }, body := s.raw.body ++ [.gzHeader] },
          gz := { toRaw := true, wroteHeader := true, pending := w.buffer } },
       { w with exceeded := true }) := by
  simp [startGzip, hw, hz, gzWrite_reset, Raw.writeHeader, Raw.write, hr]

theorem respWriteHeader_of_committed (s : St) (c : Nat) (h : s.committed = true) :
    respWriteHeader s c = s := by simp [respWriteHeader, h]

theorem respWriteHeader_of_fresh (s : St) (c : Nat) (h : s.committed = false) :
    respWriteHeader s c = { writerWriteHeader { s with status := c } c with committed := true } := by
  simp [respWriteHeader, h]

theorem respWriteHeader_committed (s : St) (c : Nat) : (respWriteHeader s c).committed = true := by
  cases h : s.committed
  · rw [respWriteHeader_of_fresh s c h]
  · rw [respWriteHeader_of_committed s c h, h]

/-- what `Response.Write` and `Response.Flush` begin with: the header call, if it has not happened -/
def commit (s : St) : St :=
  if s.committed then s else respWriteHeader s (if s.status == 0 then 200 else s.status)

/-- the write proper, once `Response.Write` has made sure the header call happened -/
def writerWrite (s : St) (b : Bytes) : St × Nat :=
  match s.grw with
  | some w => grwWrite s w b
  | none => ({ s with raw := s.raw.write (.raw b) }, b.length)

theorem respWrite_eq (s : St) (b : Bytes) : respWrite s b = writerWrite (commit s) b := rfl

theorem respFlush_eq (s : St) : respFlush s = writerFlush (commit s) := rfl

theorem commit_committed (s : St) : (commit s).committed = true := by
  unfold commit
  split
  · assumption
  · exact respWriteHeader_committed _ _

theorem gzWrite_count (z : Gz) (r : Raw) (b : Bytes) : (gzWrite z r b).2.2 = b.length := by
  unfold gzWrite gzHeaderIfNeeded
  split <;> rfl

/-- every writer reports the length it was given, in whatever state it is (F7) -/
theorem respWrite_count (s : St) (b : Bytes) : (respWrite s b).2 = b.length := by
  rw [respWrite_eq]
  generalize commit s = s
  unfold writerWrite
  split
  · next w _ =>
    cases he : w.exceeded
    · simp only [grwWrite, he, Bool.not_false, if_true]
      split <;> rfl
    · simp only [grwWrite, he, Bool.not_true, Bool.false_eq_true, if_false]
      exact gzWrite_count _ _ _
  · rfl

/-- `io.Copy` therefore never stops early -/
theorem copyChunks_rets (cs : List Bytes) : ∀ s : St, (copyChunks s cs).2 = (cs.map List.length, 0) := by
  induction cs with
  | nil => intro s; rfl
  | cons c cs ih =>
    intro s
    simp only [copyChunks, respWrite_count, bne_self_eq_false, Bool.false_eq_true, if_false, ih,
      List.map_cons]

theorem copyChunks_cons (s : St) (c : Bytes) (cs : List Bytes) :
    (copyChunks s (c :: cs)).1 = (copyChunks (respWrite s c).1 cs).1 := by
  simp only [copyChunks, respWrite_count, bne_self_eq_false, Bool.false_eq_true, if_false]

/-- `strings.Reader.WriteTo` makes no `Write` call for an empty reader -/
theorem step_streamWT (s : St) (c : Nat) (d : Bytes) :
    (step s (.streamWT c d)).1 =
      if d.isEmpty then respWriteHeader s c else (respWrite (respWriteHeader s c) d).1 := by
  simp only [step]
  split <;> rfl

theorem step_ret (s : St) (op : Op) : (step s op).2 = expectedRet op := by
  cases op with
  | write b => simp only [step, respWrite_count, expectedRet]
  | stream c cs fl => simp [step, copyChunks_rets, expectedRet]
  | streamWT c d =>
    simp only [step, expectedRet]
    split
    · rfl
    · simp [respWrite_count]
  | _ => rfl

theorem runProg_rets (ops : List Op) : ∀ s : St, (runProg s ops).2 = ops.map expectedRet := by
  induction ops with
  | nil => intro s; rfl
  | cons op ops ih => intro s; simp only [runProg, step_ret, ih, List.map_cons]

/-! ## what survives every call a handler can make -/

structure Stable (P : St → Prop) : Prop where
  setLen : ∀ s n, P s → P { s with raw := { s.raw with hdr := { s.raw.hdr with cl := some n } } }
  writeHeader : ∀ s c, P s → P (respWriteHeader s c)
  write : ∀ s b, P s → P (writerWrite s b).1
  flush : ∀ s, P s → P (writerFlush s)

theorem Stable.commit {P : St → Prop} (st : Stable P) {s : St} (h : P s) : P (commit s) := by
  unfold C15.commit
  split
  · exact h
  · exact st.writeHeader _ _ h

theorem Stable.copyChunks {P : St → Prop} (st : Stable P) (cs : List Bytes) :
    ∀ {s : St}, P s → P (copyChunks s cs).1 := by
  induction cs with
  | nil => intro s h; exact h
  | cons c cs ih => intro s h; rw [copyChunks_cons]; exact ih (st.write _ c (st.commit h))

theorem Stable.step {P : St → Prop} (st : Stable P) {s : St} (h : P s) (op : Op) : P (step s op).1 := by
  cases op with
  | setLen n => exact st.setLen s n h
  | writeHeader c => exact st.writeHeader s c h
  | write b => exact st.write _ b (st.commit h)
  | flush => exact st.flush _ (st.commit h)
  | stream c cs fl => exact st.copyChunks _ (st.writeHeader s c h)
  | streamWT c d =>
    rw [step_streamWT]
    split
    · exact st.writeHeader s c h
    · exact st.write _ d (st.commit (st.writeHeader s c h))

theorem Stable.runProg {P : St → Prop} (st : Stable P) (ops : List Op) :
    ∀ {s : St}, P s → P (runProg s ops).1 := by
  induction ops with
  | nil => intro s h; exact h
  | cons op ops ih => intro s h; exact ih (st.step h op)

/-- on an unwrapped writer a program only ever reaches the response writer through `WriteHeader`, `Write`
    and `Flush`, and the header map through `Content-Length` -/
theorem unwrapped_stable (P : Raw → Prop)
    (hcl : ∀ r n, P r → P { r with hdr := { r.hdr with cl := some n } })
    (hwh : ∀ r c, P r → P (r.writeHeader c)) (hw : ∀ r it, P r → P (r.write it))
    (hf : ∀ r, P r → P r.flush) : Stable (fun s => s.grw = none ∧ P s.raw) where
  setLen := fun s n h => ⟨h.1, hcl _ n h.2⟩
  writeHeader := fun s c h => by
    unfold respWriteHeader writerWriteHeader
    split
    · exact h
    · rw [h.1]; exact ⟨rfl, hwh _ c h.2⟩
  write := fun s b h => by unfold writerWrite; rw [h.1]; exact ⟨rfl, hw _ _ h.2⟩
  flush := fun s h => by unfold writerFlush; rw [h.1]; exact ⟨rfl, hf _ h.2⟩

theorem runProg_unwrapped (ops : List Op) {s : St} (h : s.grw = none) : (runProg s ops).1.grw = none :=
  ((unwrapped_stable (fun _ => True) (fun _ _ _ => trivial) (fun _ _ _ => trivial) (fun _ _ _ => trivial)
    (fun _ _ => trivial)).runProg ops ⟨h, trivial⟩).1

/-! ## ghost state and the invariant -/

/-- what the handler has done so far -/
structure Ghost where
  W : Bytes := []            -- bytes passed to Write
  ch : Option Nat := none    -- status chosen (none: nothing that fixes it has happened)
  F : List Bytes := []       -- W at each Flush
  wr : Bool := false         -- a Write call was made
  started : Bool := false    -- an op other than setLen happened
  late : Bool := false       -- a setLen happened after that

def Ghost.choose (g : Ghost) (c : Nat) : Ghost :=
  { g with ch := (match g.ch with | none => some c | some x => some x), started := true }

def Ghost.wrote (g : Ghost) (b : Bytes) : Ghost :=
  { g.choose 200 with W := g.W ++ b, wr := true }

def Ghost.flushed (g : Ghost) : Ghost :=
  { g.choose 200 with F := g.F ++ [g.W] }

def Ghost.setLen (g : Ghost) : Ghost := { g with late := g.late || g.started }

/-- what is left of `wrote` (`body`) and of `flushed` (`snap`) once the status is fixed.  `w`: a `Write` call
    was made (a reader without bytes leads to none) -/
def Ghost.body (g : Ghost) (b : Bytes) (w : Bool) : Ghost := { g with W := g.W ++ b, wr := w || g.wr }

def Ghost.snap (g : Ghost) : Ghost := { g with F := g.F ++ [g.W] }

theorem Ghost.body_nil (g : Ghost) : g.body [] false = g := by
  simp [Ghost.body]

theorem Ghost.body_body (g : Ghost) (a b : Bytes) (x y : Bool) :
    (g.body a x).body b y = g.body (a ++ b) (y || x) := by
  simp [Ghost.body, Bool.or_assoc]

theorem Ghost.wrote_eq (g : Ghost) (b : Bytes) : g.wrote b = (g.choose 200).body b true := rfl

@[simp] theorem Ghost.choose_W (g : Ghost) (c : Nat) : (g.choose c).W = g.W := rfl
@[simp] theorem Ghost.choose_F (g : Ghost) (c : Nat) : (g.choose c).F = g.F := rfl
@[simp] theorem Ghost.choose_wr (g : Ghost) (c : Nat) : (g.choose c).wr = g.wr := rfl
@[simp] theorem Ghost.choose_late (g : Ghost) (c : Nat) : (g.choose c).late = g.late := rfl
@[simp] theorem Ghost.choose_started (g : Ghost) (c : Nat) : (g.choose c).started = true := rfl

theorem Ghost.choose_ch (g : Ghost) (c : Nat) : (g.choose c).ch = some (g.ch.getD c) := by
  cases h : g.ch <;> simp [Ghost.choose, h]

theorem Ghost.choose_of_chosen (g : Ghost) (c : Nat) (h : g.ch.isSome = true) (hs : g.started = true) :
    g.choose c = g := by
  cases g with | mk W ch F wr started late =>
  cases ch with
  | none => cases h
  | some x => cases hs; rfl

theorem Ghost.choose_choose (g : Ghost) (c d : Nat) : (g.choose c).choose d = g.choose c :=
  (g.choose c).choose_of_chosen d (by rw [g.choose_ch]; rfl) rfl

/-- the response writer is used directly -/
structure InvPlain (g : Ghost) (s : St) : Prop where
  grw : s.grw = none
  rc : s.raw.committed = s.committed
  status : s.committed = true → g.ch = some s.raw.status
  body : rawBytes s.raw.body = some g.W
  hce : s.raw.hdr.ce = false
  sce : s.raw.sent.ce = false
  snaps : s.raw.snaps.map (fun b => lenient (canon b)) = g.F
  empty : g.wr = false → s.raw.body = []

/-- gzipResponseWriter, still buffering: nothing has reached the response writer, the header call is
    recorded in the wrapper -/
structure InvBuf (m : Nat) (g : Ghost) (s : St) (w : Grw) : Prop where
  grw : s.grw = some w
  min : w.minLength = m
  wh : w.wroteHeader = s.committed
  code : s.committed = true → g.ch = some w.code
  cl : g.late = false → s.committed = true → s.raw.hdr.cl = none
  exc : w.exceeded = false
  buf : w.buffer = g.W
  wb : w.wroteBody = g.wr
  rc : s.raw.committed = false
  body : s.raw.body = []
  snaps : s.raw.snaps = []
  hce : s.raw.hdr.ce = false
  gz : s.gz = { toRaw := true }
  F : g.F = []
  small : g.wr = true → g.W.length < m
  nil : g.wr = false → g.W = []

/-- gzipResponseWriter, compressing: `ds` is what the stream was flushed with so far -/
structure InvGz (g : Ghost) (s : St) (w : Grw) (ds : List Bytes) : Prop where
  grw : s.grw = some w
  exc : w.exceeded = true
  wb : w.wroteBody = true
  status : g.ch = some s.raw.status
  rc : s.raw.committed = true
  sce : s.raw.sent.ce = true
  scl : g.late = false → s.raw.sent.cl = none
  body : s.raw.body = .gzHeader :: blocks ds
  data : concatAll ds ++ s.gz.pending = g.W
  gzr : s.gz.toRaw = true
  gzh : s.gz.wroteHeader = true
  gzc : s.gz.closed = false
  snaps : s.raw.snaps.map (fun b => lenient (canon b)) = g.F
  act : g.wr = true ∨ g.F ≠ []

/-- which writer the handler talks to (`none`: the response writer, `some m`: a gzipResponseWriter with
    `MinLength` m) is fixed for the whole request, so it is an index -/
inductive Mode (g : Ghost) (s : St) : Option Nat → Prop where
  | plain (p : InvPlain g s) : Mode g s none
  | buf {m : Nat} (w : Grw) (b : InvBuf m g s w) : Mode g s (some m)
  | gz {m : Nat} (w : Grw) (ds : List Bytes) (z : InvGz g s w ds) : Mode g s (some m)

/-- `echo.Response` is committed exactly when the handler has chosen a status (a `Write` does that);
    until then its `Status` is the 200 of `reset` -/
structure Inv (m : Option Nat) (g : Ghost) (s : St) : Prop where
  rc : s.committed = g.ch.isSome
  started : g.started = g.ch.isSome
  st200 : s.committed = false → s.status = 200
  wr : g.wr = true → s.committed = true
  mode : Mode g s m

theorem Inv.choose_eq {m : Option Nat} {g : Ghost} {s : St} (h : Inv m g s) (hc : s.committed = true)
    (c : Nat) : g.choose c = g :=
  g.choose_of_chosen c (h.rc ▸ hc) (h.started ▸ h.rc ▸ hc)

theorem Inv.commit_eq {m : Option Nat} {g : Ghost} {s : St} (h : Inv m g s) :
    commit s = respWriteHeader s 200 := by
  unfold commit
  cases hc : s.committed
  · rw [h.st200 hc]; rfl
  · rw [respWriteHeader_of_committed s 200 hc]; rfl

/-! ## the invariant, call by call -/

theorem setLen_inv {m : Option Nat} {g : Ghost} {s : St} (n : Nat) (h : Inv m g s) :
    Inv m g.setLen { s with raw := { s.raw with hdr := { s.raw.hdr with cl := some n } } } := by
  -- a `Content-Length` set before the response has started is not late
  have hlate : g.setLen.late = false → g.late = false ∧ s.committed = false := by
    intro hl
    have : g.late = false ∧ g.started = false := by simpa [Ghost.setLen] using hl
    exact ⟨this.1, by rw [h.rc, ← h.started]; exact this.2⟩
  refine ⟨h.rc, h.started, h.st200, h.wr, ?_⟩
  cases h.mode with
  | plain p => exact .plain { p with }
  | buf w b => exact .buf w { b with cl := fun hl hc => by rw [(hlate hl).2] at hc; cases hc }
  | gz w ds z => exact .gz w ds { z with scl := fun hl => z.scl (hlate hl).1 }

theorem respWriteHeader_inv {m : Option Nat} {g : Ghost} {s : St} (c : Nat) (h : Inv m g s) :
    Inv m (g.choose c) (respWriteHeader s c) := by
  cases hc : s.committed with
  | true => rw [respWriteHeader_of_committed s c hc, h.choose_eq hc]; exact h
  | false =>
    have hch : g.ch = none := by simpa [hc] using h.rc
    have hch' : (g.choose c).ch = some c := by rw [Ghost.choose_ch, hch]; rfl
    rw [respWriteHeader_of_fresh s c hc]
    refine ⟨by rw [hch']; rfl, by rw [hch']; rfl, nofun, fun _ => rfl, ?_⟩
    cases h.mode with
    | plain p =>
      simp only [writerWriteHeader, p.grw, Raw.writeHeader_of_fresh _ _ (p.rc.trans hc)]
      exact .plain { p with grw := rfl, rc := rfl, status := fun _ => hch', sce := p.hce }
    | buf w b =>
      simp only [writerWriteHeader, b.grw, grwWriteHeader]
      exact .buf _ { b with grw := rfl, wh := rfl, code := fun _ => hch', cl := fun _ _ => rfl }
    | gz w ds z => exact nomatch hch.symm.trans z.status

theorem writerWrite_inv {m : Option Nat} {g : Ghost} {s : St} (b : Bytes) (h : Inv m g s)
    (hc : s.committed = true) : Inv m (g.body b true) (writerWrite s b).1 := by
  cases h.mode with
  | plain p =>
    simp only [writerWrite, p.grw, Raw.write_of_committed _ _ (p.rc.trans hc)]
    exact ⟨h.rc, h.started, h.st200, fun _ => hc,
      .plain { p with grw := rfl, body := rawBytes_append _ _ _ p.body, empty := nofun }⟩
  | buf w bf =>
    have hwh : w.wroteHeader = true := bf.wh.trans hc
    by_cases hge : (w.buffer ++ b).length ≥ w.minLength
    · -- the write that crosses the threshold
      simp only [writerWrite, bf.grw, grwWrite, bf.exc, Bool.not_false, if_true, hge, startGzip_eq, bf.gz,
        bf.rc, hwh, bf.body, bf.snaps]
      exact ⟨h.rc, h.started, h.st200, fun _ => hc, .gz _ [] ⟨rfl, rfl, rfl, bf.code hc, rfl, rfl,
        fun hl => bf.cl hl hc, rfl, congrArg (· ++ b) bf.buf, rfl, rfl, rfl, bf.F.symm, .inl rfl⟩⟩
    · -- still below the threshold
      simp only [writerWrite, bf.grw, grwWrite, bf.exc, Bool.not_false, if_true, hge, if_false]
      refine ⟨h.rc, h.started, h.st200, fun _ => hc, .buf _ { bf with
        grw := rfl, exc := rfl, buf := congrArg (· ++ b) bf.buf, wb := rfl, nil := nofun,
        small := fun _ => ?_ }⟩
      have : (g.body b true).W = w.buffer ++ b := congrArg (· ++ b) bf.buf.symm
      rw [this, ← bf.min]
      omega
  | gz w ds z =>
    simp only [writerWrite, z.grw, grwWrite, z.exc, Bool.not_true, Bool.false_eq_true, if_false,
      gzWrite_started _ _ _ z.gzh]
    exact ⟨h.rc, h.started, h.st200, fun _ => hc, .gz _ ds { z with
      grw := rfl, exc := rfl, wb := rfl, act := .inl rfl,
      data := by rw [← List.append_assoc, z.data]; rfl }⟩

theorem writerFlush_inv {m : Option Nat} {g : Ghost} {s : St} (h : Inv m g s) (hc : s.committed = true) :
    Inv m g.snap (writerFlush s) := by
  cases h.mode with
  | plain p =>
    simp only [writerFlush, p.grw, Raw.flush_of_committed _ (p.rc.trans hc)]
    refine ⟨h.rc, h.started, h.st200, h.wr, .plain { p with grw := rfl, snaps := ?_ }⟩
    rw [List.map_append, p.snaps, List.map_singleton, canon_of_raw _ _ p.body]
    rfl
  | buf w bf =>
    -- a `Flush` forces compression: header, the buffered bytes and a sync marker go out
    simp only [writerFlush, bf.grw, grwFlush, bf.exc, Bool.not_false, if_true, startGzip_eq, bf.gz, bf.rc,
      bf.wh.trans hc, gzFlush_started, Raw.write_of_committed, Raw.flush_of_committed, bf.body, bf.snaps,
      List.nil_append, List.cons_append]
    refine ⟨h.rc, h.started, h.st200, h.wr, .gz _ [w.buffer] ⟨rfl, rfl, rfl, bf.code hc, rfl, rfl,
      fun _ => rfl, rfl, ?_, rfl, rfl, rfl, ?_, .inr ?_⟩⟩
    · simp [concatAll, bf.buf, Ghost.snap]
    · show [lenient (canon (.gzHeader :: blocks [w.buffer]))] = g.F ++ [g.W]
      rw [canon_open, bf.F, ← bf.buf]
      simp [lenient, concatAll]
    · simp [Ghost.snap]
  | gz w ds z =>
    simp only [writerFlush, z.grw, grwFlush, z.exc, Bool.not_true, Bool.false_eq_true, if_false,
      gzFlush_started _ _ z.gzh z.gzc z.gzr, Raw.write_of_committed, Raw.flush_of_committed, z.rc, z.body]
    have hbody : (Item.gzHeader :: blocks ds ++ [.gzData s.gz.pending]) ++ [.gzSync]
        = .gzHeader :: blocks (ds ++ [s.gz.pending]) := by simp [blocks]
    have hdata : concatAll (ds ++ [s.gz.pending]) = g.W := by
      rw [concatAll_append, ← z.data]; simp [concatAll]
    rw [hbody]
    refine ⟨h.rc, h.started, h.st200, h.wr, .gz _ (ds ++ [s.gz.pending]) { z with
      grw := rfl, rc := rfl, body := rfl,
      act := .inr (by simp [Ghost.snap]), data := by simp [hdata, Ghost.snap], snaps := ?_ }⟩
    rw [List.map_append, z.snaps, List.map_singleton, canon_open, hdata]
    rfl

theorem respWrite_inv {m : Option Nat} {g : Ghost} {s : St} (b : Bytes) (h : Inv m g s) :
    Inv m (g.wrote b) (respWrite s b).1 := by
  rw [respWrite_eq, h.commit_eq]
  exact writerWrite_inv b (respWriteHeader_inv 200 h) (respWriteHeader_committed s 200)

theorem respFlush_inv {m : Option Nat} {g : Ghost} {s : St} (h : Inv m g s) :
    Inv m g.flushed (respFlush s) := by
  rw [respFlush_eq, h.commit_eq]
  exact writerFlush_inv (respWriteHeader_inv 200 h) (respWriteHeader_committed s 200)

/-! ## ghost run of a program -/

def nonEmpty (c : Bytes) : Bool := !c.isEmpty

/-- every op but `setLen` and `Flush` fixes the status (if it is still open) and then passes its bytes on -/
def Ghost.step (g : Ghost) : Op → Ghost
  | .setLen _ => g.setLen
  | .flush => g.flushed
  | op => (g.choose (chosen [op])).body op.bytes op.makesWrite

def Ghost.run (g : Ghost) : List Op → Ghost
  | [] => g
  | op :: ops => (g.step op).run ops

/-- `io.Copy` from a reader: the chunks without bytes lead to no `Write`, the others to one each -/
theorem copyChunks_inv {m : Option Nat} (cs : List Bytes) : ∀ {g : Ghost} {s : St}, Inv m g s →
    s.committed = true →
    Inv m (g.body (concatAll cs) (cs.any fun c => !c.isEmpty)) (copyChunks s (cs.filter fun c => !c.isEmpty)).1 := by
  induction cs with
  | nil => intro g s h _; exact g.body_nil.symm ▸ h
  | cons c cs ih =>
    intro g s h hc
    cases c with
    | nil => exact ih h hc
    | cons x c =>
      have h' := respWrite_inv (x :: c) h
      rw [Ghost.wrote_eq, h.choose_eq hc] at h'
      have := ih h' (h'.rc.trans (h.rc.symm.trans hc))
      rw [Ghost.body_body, Bool.or_true] at this
      rw [List.filter_cons_of_pos rfl, copyChunks_cons]
      exact this

theorem step_inv {m : Option Nat} {g : Ghost} {s : St} (op : Op) (h : Inv m g s) :
    Inv m (g.step op) (step s op).1 := by
  have hwh : ∀ c, Inv m ((g.choose c).body [] false) (respWriteHeader s c) := fun c => by
    rw [Ghost.body_nil]; exact respWriteHeader_inv c h
  cases op with
  | setLen n => exact setLen_inv n h
  | writeHeader c => exact hwh c
  | write b => exact respWrite_inv b h
  | flush => exact respFlush_inv h
  | stream c cs fl => exact copyChunks_inv cs (respWriteHeader_inv c h) (respWriteHeader_committed s c)
  | streamWT c d =>
    rw [step_streamWT]
    cases d with
    | nil => exact hwh c
    | cons x d =>
      have := respWrite_inv (x :: d) (respWriteHeader_inv c h)
      rwa [Ghost.wrote_eq, Ghost.choose_choose] at this

theorem runProg_inv {m : Option Nat} (ops : List Op) : ∀ {g : Ghost} {s : St}, Inv m g s →
    Inv m (g.run ops) (runProg s ops).1 := by
  induction ops with
  | nil => intro g s h; exact h
  | cons op ops ih => intro g s h; exact ih (step_inv op h)

/-! ## what the ghost run computes -/

@[simp] theorem Ghost.wrote_W (g : Ghost) (b : Bytes) : (g.wrote b).W = g.W ++ b := rfl
@[simp] theorem Ghost.wrote_F (g : Ghost) (b : Bytes) : (g.wrote b).F = g.F := rfl
@[simp] theorem Ghost.wrote_wr (g : Ghost) (b : Bytes) : (g.wrote b).wr = true := rfl
@[simp] theorem Ghost.wrote_late (g : Ghost) (b : Bytes) : (g.wrote b).late = g.late := rfl
@[simp] theorem Ghost.wrote_started (g : Ghost) (b : Bytes) : (g.wrote b).started = true := rfl
@[simp] theorem Ghost.flushed_W (g : Ghost) : g.flushed.W = g.W := rfl
@[simp] theorem Ghost.flushed_F (g : Ghost) : g.flushed.F = g.F ++ [g.W] := rfl
@[simp] theorem Ghost.flushed_wr (g : Ghost) : g.flushed.wr = g.wr := rfl
@[simp] theorem Ghost.flushed_late (g : Ghost) : g.flushed.late = g.late := rfl
@[simp] theorem Ghost.flushed_started (g : Ghost) : g.flushed.started = true := rfl

theorem step_W (g : Ghost) (op : Op) : (g.step op).W = g.W ++ op.bytes := by
  cases op with
  | setLen | flush => exact (List.append_nil _).symm
  | _ => rfl

theorem run_W (ops : List Op) : ∀ g : Ghost, (g.run ops).W = g.W ++ written ops := by
  induction ops with
  | nil => intro g; exact (List.append_nil _).symm
  | cons op ops ih => intro g; rw [Ghost.run, ih, step_W, written, List.append_assoc]

theorem step_F (g : Ghost) (op : Op) (h : op ≠ .flush) : (g.step op).F = g.F := by
  cases op with
  | flush => exact absurd rfl h
  | _ => rfl

theorem flushPoints_cons (pre : Bytes) (op : Op) (ops : List Op) (h : op ≠ .flush) :
    flushPoints pre (op :: ops) = flushPoints (pre ++ op.bytes) ops := by
  cases op with
  | flush => exact absurd rfl h
  | _ => rfl

theorem run_F (ops : List Op) : ∀ g : Ghost, (g.run ops).F = g.F ++ flushPoints g.W ops := by
  induction ops with
  | nil => intro g; simp [Ghost.run, flushPoints]
  | cons op ops ih =>
    intro g
    by_cases hf : op = .flush
    · subst hf; simp [Ghost.run, flushPoints, ih, Ghost.step]
    · rw [Ghost.run, ih, step_F g op hf, step_W, flushPoints_cons _ op ops hf]

theorem step_ch (g : Ghost) (op : Op) (h : ∀ n, op ≠ .setLen n) :
    (g.step op).ch = some (g.ch.getD (chosen [op])) := by
  cases op with
  | setLen n => exact absurd rfl (h n)
  | _ => exact g.choose_ch _

theorem run_ch (ops : List Op) : ∀ g : Ghost, (g.run ops).ch.getD 200 = g.ch.getD (chosen ops) := by
  induction ops with
  | nil => intro g; rfl
  | cons op ops ih =>
    intro g
    rw [Ghost.run, ih]
    cases op with
    | setLen n => rfl
    | _ => rw [step_ch g _ (by intro n; simp)]; rfl

theorem step_wr (g : Ghost) (op : Op) : (g.step op).wr = (op.makesWrite || g.wr) := by
  cases op <;> rfl

theorem run_wr (ops : List Op) : ∀ g : Ghost, (g.run ops).wr = (g.wr || ops.any Op.makesWrite) := by
  induction ops with
  | nil => intro g; simp [Ghost.run]
  | cons op ops ih =>
    intro g
    rw [Ghost.run, ih, step_wr, List.any_cons, Bool.or_assoc, Bool.or_left_comm]

def noSetLen (ops : List Op) : Bool := ops.all (fun op => match op with | .setLen _ => false | _ => true)

theorem run_late_noSetLen (ops : List Op) : ∀ g : Ghost, noSetLen ops = true → (g.run ops).late = g.late := by
  induction ops with
  | nil => intro g _; rfl
  | cons op ops ih =>
    intro g hn
    simp only [noSetLen, List.all_cons, Bool.and_eq_true] at hn
    cases op with
    | setLen n => exact nomatch hn.1
    | _ => exact ih _ hn.2

theorem run_late (ops : List Op) : ∀ g : Ghost, g.started = false → g.late = false →
    headersFirst ops = true → (g.run ops).late = false := by
  induction ops with
  | nil => intro g _ hl _; exact hl
  | cons op ops ih =>
    intro g hs hl hh
    cases op with
    | setLen n => exact ih g.setLen hs (by simp [Ghost.setLen, hs, hl]) hh
    | _ => exact (run_late_noSetLen ops _ hh).trans hl

/-! ## the end of the request -/

/-- what is claimed about the response as it went over the wire (`R`), relative to what the
    handler did (`g`) -/
structure Final (g : Ghost) (R : Raw) : Prop where
  decode : clientDecode R = some g.W
  status : R.status = g.ch.getD 200
  ce_gz : R.sent.ce = true ↔ isGzipStream R.body
  cl : g.late = false → R.sent.ce = true → R.sent.cl = none
  empty : g.wr = false → g.F = [] → R.body = []
  snaps : R.snaps.map (fun b => lenient (canon b)) = g.F

/-- the response went out as the handler wrote it, without `Content-Encoding` -/
structure Identity (g : Ghost) (R : Raw) : Prop where
  sce : R.sent.ce = false
  body : rawBytes R.body = some g.W
  status : R.status = g.ch.getD 200
  empty : g.wr = false → R.body = []
  snaps : R.snaps.map (fun b => lenient (canon b)) = g.F

theorem Identity.final {g : Ghost} {R : Raw} (h : Identity g R) : Final g R where
  decode := by simp [clientDecode, h.sce, h.body]
  status := h.status
  ce_gz := by rw [h.sce]; exact ⟨nofun, fun hg => absurd hg (not_gzip_of_raw _ _ h.body)⟩
  cl := fun _ hc => by rw [h.sce] at hc; cases hc
  empty := fun hw _ => h.empty hw
  snaps := h.snaps

theorem InvPlain.identity {m : Option Nat} {g : Ghost} {s : St} (h : Inv m g s) (p : InvPlain g s) :
    Identity g (s.raw.writeHeader 200) := by
  cases hc : s.raw.committed with
  | true =>
    rw [Raw.writeHeader_of_committed _ _ hc]
    exact ⟨p.sce, p.body, by rw [p.status (p.rc ▸ hc)]; rfl, p.empty, p.snaps⟩
  | false =>
    have hch : g.ch = none := by simpa [← p.rc, hc] using h.rc
    rw [Raw.writeHeader_of_fresh _ _ hc]
    exact ⟨p.hce, p.body, by rw [hch]; rfl, p.empty, p.snaps⟩

/-- the deferred function on a wrapper that is still buffering: the delayed header, then the
    buffered bytes as they are; the gzip writer is closed onto `io.Discard` -/
theorem finalise_buffering (s : St) (w : Grw) (he : w.exceeded = false) (hce : s.raw.hdr.ce = false) :
    (finalise s w).1.raw =
      (fun r : Raw => if w.wroteBody && !w.buffer.isEmpty then r.write (.raw w.buffer) else r)
        (if w.wroteHeader then s.raw.writeHeader w.code else s.raw) := by
  cases hwb : w.wroteBody <;> cases hb : w.buffer.isEmpty <;>
    simp [finalise, he, hce, hwb, hb, gzClose_discard, Gz.reset]

theorem InvBuf.identity {m : Nat} {g : Ghost} {s : St} {w : Grw} (h : Inv (some m) g s)
    (b : InvBuf m g s w) : Identity g ((finalise s w).1.raw.writeHeader 200) := by
  rw [finalise_buffering s w b.exc b.hce, b.wh, b.wb, b.buf]
  cases hc : s.committed with
  | false =>
    -- nothing happened that fixes the status: no `Write` either
    have hch : g.ch = none := by simpa [hc] using h.rc
    have hwr : g.wr = false := by cases hw : g.wr; rfl; rw [h.wr hw] at hc; cases hc
    simp only [hwr, Bool.false_and, Bool.false_eq_true, if_false, Raw.writeHeader_of_fresh _ _ b.rc]
    exact ⟨b.hce, by rw [b.body, b.nil hwr]; rfl, by rw [hch]; rfl, fun _ => b.body, by rw [b.snaps, b.F]; rfl⟩
  | true =>
    have hst : w.code = g.ch.getD 200 := by rw [b.code hc]; rfl
    simp only [if_true, Raw.writeHeader_of_fresh _ _ b.rc]
    by_cases hw : (g.wr && !g.W.isEmpty) = true
    · rw [if_pos hw, Raw.write_of_committed _ _ rfl, Raw.writeHeader_of_committed _ _ rfl]
      simp only [Bool.and_eq_true] at hw
      exact ⟨b.hce, by simp [rawBytes, b.body], hst, fun h' => (nomatch h'.symm.trans hw.1),
        by rw [b.snaps, b.F]; rfl⟩
    · have hW : g.W = [] := by
        cases hwr : g.wr with
        | false => exact b.nil hwr
        | true => simpa [hwr] using hw
      rw [if_neg hw, Raw.writeHeader_of_committed _ _ rfl]
      exact ⟨b.hce, by rw [hW]; exact congrArg rawBytes b.body, hst, fun _ => b.body,
        by rw [b.snaps, b.F]; rfl⟩

theorem InvGz.finalise_raw {g : Ghost} {s : St} {w : Grw} {ds : List Bytes} (z : InvGz g s w ds) :
    (finalise s w).1.raw.writeHeader 200 =
      { s.raw with body := .gzHeader :: (blocks ds ++ [.gzData s.gz.pending, .gzTrailer]) } := by
  simp [finalise, z.wb, z.exc, gzClose_started _ _ z.gzh z.gzc z.gzr, Raw.write_of_committed,
    Raw.writeHeader_of_committed, z.rc, z.body]

theorem InvGz.final {g : Ghost} {s : St} {w : Grw} {ds : List Bytes} (z : InvGz g s w ds) :
    Final g ((finalise s w).1.raw.writeHeader 200) := by
  rw [z.finalise_raw]
  have hcanon := canon_closed ds s.gz.pending
  rw [z.data] at hcanon
  exact ⟨by simp [clientDecode, z.sce, hcanon], by rw [z.status]; rfl,
    by simp only [z.sce, true_iff]; exact ⟨_, hcanon⟩, fun hl _ => z.scl hl,
    fun hw hf => z.act.elim (fun h => by rw [hw] at h; cases h) (fun h => absurd hf h), z.snaps⟩

/-- the deferred part of the middleware: the wrapper, if there is one, is finalised and its writer and
    buffer go back to the pool -/
def unwind (pool : Pool) (s : St) : St × Pool :=
  match s.grw with
  | some w => finalise s w
  | none => (s, pool)

theorem unwind_fst (pool pool' : Pool) (s : St) : (unwind pool s).1 = (unwind pool' s).1 := by
  unfold unwind; split <;> rfl

theorem Inv.final {m : Option Nat} {g : Ghost} {s : St} (h : Inv m g s) (pool : Pool) :
    Final g ((unwind pool s).1.raw.writeHeader 200) := by
  unfold unwind
  cases h.mode with
  | plain p => rw [p.grw]; exact (p.identity h).final
  | buf w b => rw [b.grw]; exact (b.identity h).final
  | gz w ds z => rw [z.grw]; exact z.final

theorem Inv.identity {g : Ghost} {s : St} (h : Inv none g s) (pool : Pool) :
    Identity g ((unwind pool s).1.raw.writeHeader 200) := by
  cases h.mode with
  | plain p => rw [unwind, p.grw]; exact p.identity h

theorem Inv.compressed {m : Nat} {g : Ghost} {s : St} (h : Inv (some m) g s)
    (hc : (g.wr = true ∧ m ≤ g.W.length) ∨ g.F ≠ []) (pool : Pool) :
    ((unwind pool s).1.raw.writeHeader 200).sent.ce = true := by
  cases h.mode with
  | buf w b =>
    rcases hc with ⟨h1, h2⟩ | h3
    · exact absurd (b.small h1) (by omega)
    · exact absurd b.F h3
  | gz w ds z => rw [unwind, z.grw, z.finalise_raw]; exact z.sce

/-- the state a handler starts in: the header map the middleware leaves it, and its writer -/
def St.init (hdr : Hdr) : Option Nat → St
  | none => { raw := { hdr := hdr } }
  | some m => { raw := { hdr := hdr }, gz := { toRaw := true }, grw := some { minLength := m, buffer := [] } }

theorem Inv.init (hdr : Hdr) (hce : hdr.ce = false) (m : Option Nat) : Inv m {} (St.init hdr m) :=
  match m with
  | none => ⟨rfl, rfl, fun _ => rfl, nofun,
      .plain ⟨rfl, rfl, nofun, rfl, hce, rfl, rfl, fun _ => rfl⟩⟩
  | some _ => ⟨rfl, rfl, fun _ => rfl, nofun,
      .buf _ ⟨rfl, rfl, rfl, nofun, nofun, rfl, rfl, rfl, rfl, rfl, rfl, hce, rfl, rfl, nofun, fun _ => rfl⟩⟩

/-- a request through the middleware: the handler's program on the start state, the deferred function,
    the 200 net/http implies if nothing was sent; what the pool held is not part of it -/
theorem serve_fst (m : Nat) (pool : Pool) (rq : Req) :
    (serve m pool rq).1 =
      ⟨(unwind {} (runProg (St.init { vary := true } (if acceptsGzip rq.acceptEncoding then some m else none))
          rq.prog).1).1.raw.writeHeader 200,
       (runProg (St.init { vary := true } (if acceptsGzip rq.acceptEncoding then some m else none)) rq.prog).2⟩ := by
  unfold serve
  split
  · simp only [Gz.reset, St.init]
    generalize runProg _ rq.prog = r
    obtain ⟨s, rets⟩ := r
    cases hg : s.grw <;> simp only [unwind, hg]
  · simp only [unwind, runProg_unwrapped rq.prog (s := St.init { vary := true } none) rfl]
    rfl

theorem serve_final (m : Nat) (pool : Pool) (rq : Req) :
    Final (Ghost.run {} rq.prog) (serve m pool rq).1.raw := by
  rw [serve_fst]
  exact (runProg_inv rq.prog (Inv.init _ rfl _)).final {}

/-! ## the theorems of the property -/

/-- a client that undoes the advertised Content-Encoding recovers exactly
    the bytes the handler wrote, and sees the status the handler chose. -/
theorem C15_roundtrip (m : Nat) (pool : Pool) (rq : Req) :
    clientDecode (serve m pool rq).1.raw = some (written rq.prog) ∧
    (serve m pool rq).1.raw.status = chosen rq.prog := by
  have h := serve_final m pool rq
  exact ⟨by rw [h.decode, run_W]; rfl, by rw [h.status, run_ch]; rfl⟩

/-- `Content-Encoding: gzip` is on the wire exactly when the body is one
    complete gzip stream. -/
theorem C15_ce_iff_gzip (m : Nat) (pool : Pool) (rq : Req) :
    (serve m pool rq).1.raw.sent.ce = true ↔ isGzipStream (serve m pool rq).1.raw.body :=
  (serve_final m pool rq).ce_gz

/-- every `Write` reports exactly the number of bytes passed in; every
    `Stream` copies all its chunks and ends without error or panic. -/
theorem C15_write_count (m : Nat) (pool : Pool) (rq : Req) :
    (serve m pool rq).1.rets = rq.prog.map expectedRet := by
  rw [serve_fst]
  exact runProg_rets _ _

/-- when the body goes out compressed, no Content-Length set by the
    handler survives (for handlers that set headers before they start the response). -/
theorem C15_no_stale_length (m : Nat) (pool : Pool) (rq : Req) (hf : headersFirst rq.prog = true)
    (hce : (serve m pool rq).1.raw.sent.ce = true) : (serve m pool rq).1.raw.sent.cl = none :=
  (serve_final m pool rq).cl (run_late rq.prog {} rfl rfl hf) hce

theorem flushPoints_none (ops : List Op) (h : ∀ op ∈ ops, op ≠ .flush) : ∀ pre, flushPoints pre ops = [] := by
  induction ops with
  | nil => intro _; rfl
  | cons op ops ih =>
    intro pre
    rw [flushPoints_cons pre op ops (h op (by simp))]
    exact ih (fun o ho => h o (by simp [ho])) _

/-- a handler that makes no `Write` call and no `Flush` (status only:
    404, redirects, 204 …) produces an empty body, whatever was accepted. -/
theorem C15_bodyless_empty (m : Nat) (pool : Pool) (rq : Req)
    (h : ∀ op ∈ rq.prog, op.makesWrite = false ∧ op ≠ .flush) :
    (serve m pool rq).1.raw.body = [] := by
  apply (serve_final m pool rq).empty
  · rw [run_wr]
    simp only [Bool.false_or, List.any_eq_false]
    intro op hop; simp [(h op hop).1]
  · rw [run_F, flushPoints_none _ (fun op hop => (h op hop).2)]; rfl

/-- after each `Flush` the client can read everything the handler had
    written up to then (compressed or not). -/
theorem C15_flush_delivers (m : Nat) (pool : Pool) (rq : Req) :
    (serve m pool rq).1.raw.snaps.map (fun b => lenient (canon b)) = flushPoints [] rq.prog := by
  rw [(serve_final m pool rq).snaps, run_F]; rfl

/-- what a request produces does not depend on what an earlier request
    left in the pooled gzip writer and buffer. -/
theorem C15_pool_clean (m : Nat) (pool pool' : Pool) (rq : Req) :
    (serve m pool rq).1 = (serve m pool' rq).1 := by
  rw [serve_fst, serve_fst]

/-- every request of a sequence through one middleware instance behaves as if it were alone -/
theorem C15_sequence_independent (m : Nat) (rs : List Req) :
    ∀ p : Pool, serveAll m p rs = rs.map (fun r => (serve m {} r).1) := by
  induction rs with
  | nil => intro _; rfl
  | cons r rs ih =>
    intro p
    simp only [serveAll, List.map_cons]
    rw [ih, C15_pool_clean m p {} r]

/-- clients that did not ask for gzip get the bytes as written -/
theorem C15_identity_when_not_accepted (m : Nat) (pool : Pool) (rq : Req)
    (h : acceptsGzip rq.acceptEncoding = false) :
    (serve m pool rq).1.raw.sent.ce = false ∧
    rawBytes (serve m pool rq).1.raw.body = some (written rq.prog) := by
  have hi := (runProg_inv rq.prog (Inv.init { vary := true } rfl none)).identity {}
  simp only [serve_fst, h, Bool.false_eq_true, if_false]
  exact ⟨hi.sce, by rw [hi.body, run_W]; rfl⟩

/-! ## Decompress -/

theorem decompress_of_ne (lo : Nat) {ce : List Char} (body : Body) (h : ce ≠ "gzip".toList) :
    decompress lo ce body =
      (⟨true, (match body with | .plain b => .bytes b | .gzip _ _ => .untouchedGzip), false⟩, lo) := by
  unfold decompress
  rw [if_pos (bne_iff_ne.2 h)]
  cases body <;> rfl

theorem decompress_gzip (lo : Nat) (ms : List Bytes) (defect : Bool) :
    decompress lo "gzip".toList (.gzip ms defect) = (⟨true, .bytes (concatAll ms), defect⟩, 1) := by
  unfold decompress
  rw [if_neg (by simp only [bne_self_eq_false, Bool.false_eq_true, not_false_eq_true])]

/-- a well-formed gzip body labelled `gzip` reaches the handler
    decompressed (all members, in order), without error. -/
theorem C15_decompress_gzip (lo : Nat) (ms : List Bytes) :
    (decompress lo "gzip".toList (.gzip ms false)).1 = ⟨true, .bytes (concatAll ms), false⟩ := by
  rw [decompress_gzip]

/-- any other Content-Encoding value: the handler runs and the body is untouched -/
theorem C15_decompress_other (lo : Nat) (ce : List Char) (body : Body) (h : ce ≠ "gzip".toList) :
    (decompress lo ce body).1 =
      ⟨true, (match body with | .plain b => .bytes b | .gzip _ _ => .untouchedGzip), false⟩ := by
  rw [decompress_of_ne lo body h]

/-- a damaged stream is never passed off as a good one: the handler sees the error -/
theorem C15_decompress_damaged (lo : Nat) (ms : List Bytes) :
    (decompress lo "gzip".toList (.gzip ms true)).1.err = true := by
  rw [decompress_gzip]

/-- recycled readers never leak between requests -/
theorem C15_decompress_pool_clean (lo lo' : Nat) (ce : List Char) (body : Body) :
    (decompress lo ce body).1 = (decompress lo' ce body).1 := by
  unfold decompress
  split
  · rfl
  · split <;> rfl

theorem C15_decompress_sequence (rs : List (List Char × Body)) :
    ∀ lo, decompressAll lo rs = rs.map (fun r => (decompress 0 r.1 r.2).1) := by
  induction rs with
  | nil => intro _; rfl
  | cons r rs ih =>
    intro lo
    obtain ⟨ce, b⟩ := r
    simp only [decompressAll, List.map_cons]
    rw [ih, C15_decompress_pool_clean lo 0 ce b]

/-! ## the middleware does compress (transparency is not bought by doing nothing) -/

/-- when the client accepts gzip, a response whose handler wrote at least
    `MinLength` bytes, or flushed, goes out gzip-encoded. -/
theorem C15_compresses (m : Nat) (pool : Pool) (rq : Req) (ha : acceptsGzip rq.acceptEncoding = true)
    (hc : (rq.prog.any Op.makesWrite = true ∧ m ≤ (written rq.prog).length) ∨ flushPoints [] rq.prog ≠ []) :
    (serve m pool rq).1.raw.sent.ce = true := by
  simp only [serve_fst, ha, if_true]
  apply (runProg_inv rq.prog (Inv.init { vary := true } rfl (some m))).compressed
  rcases hc with ⟨h1, h2⟩ | h3
  · left; rw [run_wr, run_W]; exact ⟨by simpa using h1, by simpa using h2⟩
  · right; rw [run_F]; simpa using h3

/-! ## F7 / F8 / F20: the behaviour before the repairs (kept only as witnesses) -/

/-- before the repair F7, `gzipResponseWriter.Write` returned the result of writing the whole
    buffer to the gzip writer on the write that crosses the threshold -/
def grwWriteCountBefore (w : Grw) (b : Bytes) : Nat :=
  if !w.exceeded then
    if (w.buffer ++ b).length ≥ w.minLength then (w.buffer ++ b).length else b.length
  else b.length

/-- F7: MinLength 10, 5 bytes buffered, a Write of 10 bytes reported 15 -/
example : grwWriteCountBefore { minLength := 10, buffer := [1,2,3,4,5] } [0,1,2,3,4,5,6,7,8,9] = 15 := by decide +kernel
/-- …the repaired writer reports 10 -/
example : (grwWrite { grw := some { minLength := 10, buffer := [1,2,3,4,5] }, gz := { toRaw := true } }
    { minLength := 10, buffer := [1,2,3,4,5] } [0,1,2,3,4,5,6,7,8,9]).2 = 10 := by decide +kernel

/-- F8 / F20 before the repair: `Flush` forced compression without marking the body as started
    and without dropping Content-Length -/
def grwFlushBefore (s : St) (w : Grw) : St :=
  let (s, w) := if !w.exceeded then startGzip s w else (s, w)
  let (gz, raw) := gzFlush s.gz s.raw
  { s with raw := raw.flush, gz := gz, grw := some w }

/-- F8: `WriteHeader(201); Flush()` — the finaliser abandoned the stream: header and a sync
    block, no trailer, although `Content-Encoding: gzip` had been sent -/
example :
    let s0 : St := { raw := { hdr := { vary := true } }, gz := { toRaw := true }, grw := some {} }
    let s1 := respWriteHeader s0 201
    let s2 := grwFlushBefore s1 { wroteHeader := true, code := 201 }
    let r := (finalise s2 { wroteHeader := true, code := 201, exceeded := true }).1.raw
    r.sent.ce = true ∧ canon r.body = .gzip [] false false := by decide +kernel

/-- F20: `Content-Length: 5; Flush(); Write(5 bytes)` — the stale length went out with the
    gzip body -/
example :
    let s0 : St := { raw := { hdr := { vary := true, cl := some 5 } }, gz := { toRaw := true }, grw := some {} }
    let s1 := grwFlushBefore s0 {}
    s1.raw.sent.ce = true ∧ s1.raw.sent.cl = some 5 := by decide +kernel

/-! ## non-vacuity: concrete runs of the repaired model -/

def reqOf (ae : String) (prog : List Op) : Req := ⟨ae.toList, prog⟩

-- F7 input: both writes report their own length, the client reads all 15 bytes from one gzip stream
example : (serve 10 {} (reqOf "gzip" [.write [1,2,3,4,5], .write [0,1,2,3,4,5,6,7,8,9]])).1.rets
    = [.wrote 5, .wrote 10] := by decide +kernel
example : canon (serve 10 {} (reqOf "gzip" [.write [1,2,3,4,5], .write [0,1,2,3,4,5,6,7,8,9]])).1.raw.body
    = .gzip [1,2,3,4,5,0,1,2,3,4,5,6,7,8,9] true false := by decide +kernel
-- F8 input: a complete gzip stream of the empty string, status 201, Content-Encoding kept
example : let r := (serve 0 {} (reqOf "gzip" [.writeHeader 201, .flush])).1.raw
    r.status = 201 ∧ r.sent.ce = true ∧ canon r.body = .gzip [] true false := by decide +kernel
-- F20 input: the Content-Length is gone
example : let r := (serve 0 {} (reqOf "gzip" [.setLen 5, .flush, .write [1,2,3,4,5]])).1.raw
    r.sent.ce = true ∧ r.sent.cl = none ∧ canon r.body = .gzip [1,2,3,4,5] true false := by decide +kernel
-- below the threshold: sent as it is, with the delayed status
example : let r := (serve 10 {} (reqOf "br, gzip" [.writeHeader 404, .write [1,2,3]])).1.raw
    r.status = 404 ∧ r.sent.ce = false ∧ r.body = [.raw [1,2,3]] := by decide +kernel
-- status only: empty body
example : let r := (serve 0 {} (reqOf "gzip" [.writeHeader 304])).1.raw
    r.status = 304 ∧ r.body = [] ∧ r.sent.ce = false := by decide +kernel
-- not accepted: untouched, Content-Length kept
example : let r := (serve 0 {} (reqOf "deflate" [.setLen 3, .write [1,2,3]])).1.raw
    r.sent.ce = false ∧ r.sent.cl = some 3 ∧ r.body = [.raw [1,2,3]] := by decide +kernel
-- a dirty pool does not matter
example : (serve 2 ⟨{ toRaw := true, wroteHeader := true, closed := true, pending := [9,9] }, [7,7,7]⟩
    (reqOf "gzip" [.write [1]])).1 = (serve 2 {} (reqOf "gzip" [.write [1]])).1 := by decide +kernel
-- hypotheses of the theorems are satisfiable by real programs
example : headersFirst [.setLen 5, .flush, .write [1,2,3,4,5]] = true := by decide +kernel
example : headersFirst [.writeHeader 200, .setLen 5, .write [1,2,3,4,5]] = false := by decide +kernel
example : chosen [.setLen 3, .flush, .writeHeader 404] = 200 := by decide +kernel
example : flushPoints [] [.write [1], .flush, .write [2], .flush] = [[1], [1,2]] := by decide +kernel
-- clientDecode is not trivially `some`: a truncated stream or a mislabelled body is rejected
example : clientDecode { sent := { ce := true }, body := [.gzHeader, .gzData [1], .gzSync] } = none := by decide +kernel
example : clientDecode { sent := { ce := true }, body := [.raw [1]] } = none := by decide +kernel
-- Decompress
example : (decompress 7 "gzip".toList (.gzip [[1,2],[3]] false)).1 = ⟨true, .bytes [1,2,3], false⟩ := by decide +kernel
example : (decompress 7 "GZIP".toList (.gzip [[1,2],[3]] false)).1 = ⟨true, .untouchedGzip, false⟩ := by decide +kernel

/-! ## nested requests (a handler serving another request through the same middleware instance) -/

theorem runProg_append (a b : List Op) : ∀ s : St,
    runProg s (a ++ b) = ((runProg (runProg s a).1 b).1, (runProg s a).2 ++ (runProg (runProg s a).1 b).2) := by
  induction a with
  | nil => intro s; simp [runProg]
  | cons op a ih => intro s; simp [runProg, ih]

theorem serveSplit_eq (m : Nat) (pool : Pool) (ae : List Char) (a b : List Op) :
    serveSplit m pool ae a b = serve m pool ⟨ae, a ++ b⟩ := by
  unfold serveSplit serve
  simp only [runProg_append]

theorem servePooled_result (m : Nat) (pools : List Pool) (rq : Req) :
    (servePooled m pools rq).1 = (serve m {} rq).1 := by
  unfold servePooled
  split
  · exact C15_pool_clean m _ {} rq
  · rfl

/-- a request served from inside another request's handler, through
    the same middleware instance and pools, and the request around it each get exactly the
    response they would get alone; where in the outer program the nested one happens, and what
    the pools held, does not matter. -/
theorem C15_nested_independent (m : Nat) (pools : List Pool) (rq : NReq) :
    (serveNested m pools rq).1 =
      (serve m {} rq.outer).1 :: (match rq.inner with | none => [] | some i => [(serve m {} i).1]) := by
  unfold serveNested
  simp only [serveSplit_eq, List.take_append_drop]
  cases hi : rq.inner with
  | none => simp [C15_pool_clean m _ {} rq.outer]
  | some i => simp [C15_pool_clean m _ {} rq.outer, servePooled_result]

theorem C15_nested_sequence (m : Nat) (rs : List NReq) : ∀ ps : List Pool,
    serveNestedAll m ps rs = rs.flatMap (fun r => (serveNested m [] r).1) := by
  induction rs with
  | nil => intro _; rfl
  | cons r rs ih =>
    intro ps
    simp only [serveNestedAll, List.flatMap_cons]
    rw [ih, C15_nested_independent m ps r, C15_nested_independent m [] r]

theorem decompressPooled_result (pool : List Nat) (ce : List Char) (body : Body) :
    (decompressPooled pool ce body).1 = (decompress 0 ce body).1 := by
  unfold decompressPooled
  split
  · rfl
  · exact C15_decompress_pool_clean _ 0 ce body

/-- a request whose handler serves another (gzip or not) request
    through the same Decompress instance between its own body reads: both handlers see exactly
    their own body, whatever readers the pool held. -/
theorem C15_decompress_nested (pool : List Nat) (rq : DReq) :
    (decompressReq pool rq).1 =
      (decompress 0 rq.ce rq.body).1 ::
        (match rq.nested with
         | none => []
         | some (ce, b) => if (decompress 0 rq.ce rq.body).1.ran then [(decompress 0 ce b).1] else []) := by
  unfold decompressReq
  dsimp only
  rw [C15_decompress_pool_clean _ 0 rq.ce rq.body]
  cases rq.nested with
  | none => rfl
  | some p =>
    dsimp only
    split
    · rw [decompressPooled_result]
    · rfl

theorem C15_decompress_nested_sequence (rs : List DReq) : ∀ p : List Nat,
    decompressSeq p rs = rs.flatMap (fun r => (decompressReq [] r).1) := by
  induction rs with
  | nil => intro _; rfl
  | cons r rs ih =>
    intro p
    simp only [decompressSeq, List.flatMap_cons]
    rw [ih, C15_decompress_nested p r, C15_decompress_nested [] r]

-- non-vacuity: the outer request holds the reader an earlier request left (state 1), the nested one
-- gets the next one; both see their own bytes
example : (decompressReq [1, 1] ⟨"gzip".toList, .gzip [[1,2],[3]] false, some ("gzip".toList, .gzip [[9]] false)⟩).1
    = [⟨true, .bytes [1,2,3], false⟩, ⟨true, .bytes [9], false⟩] := by decide +kernel
example : (serveNested 2 [] ⟨⟨"gzip".toList, [.write [1], .write [2,3]]⟩, 1, some ⟨"gzip".toList, [.write [7,7,7]]⟩⟩).1.map
    (fun r => canon r.raw.body) = [.gzip [1,2,3] true false, .gzip [7,7,7] true false] := by decide +kernel

/-! ## readers that fail

`Context.Stream` is `io.Copy`: the bytes a reader hands out TOGETHER with `io.EOF`, or together with
another error, are written before the error is looked at.  In the model such a reader is the same
list of chunks with the flag `fails`; the two theorems say that the flag can only be seen in the
result the handler gets back. -/

/-- the same program with readers that end cleanly -/
def Op.calm : Op → Op
  | .stream c cs _ => .stream c cs false
  | op => op

theorem step_calm (s : St) (op : Op) : (step s op.calm).1 = (step s op).1 := by
  cases op <;> simp [Op.calm, step]

theorem runProg_calm (ops : List Op) : ∀ s : St, (runProg s (ops.map Op.calm)).1 = (runProg s ops).1 := by
  induction ops with
  | nil => intro s; rfl
  | cons op ops ih =>
    intro s
    simp only [List.map_cons, runProg]
    rw [step_calm, ih]

theorem written_calm (ops : List Op) : written (ops.map Op.calm) = written ops := by
  induction ops with
  | nil => rfl
  | cons op ops ih =>
    simp only [List.map_cons, written, ih]
    cases op <;> rfl

/-- whether the readers a handler streams from end with `io.EOF` or
    with an error (and whether their last bytes come together with it) changes nothing on the wire:
    status, headers, body and every Flush snapshot are those of the same chunks from readers that end
    cleanly — in particular the client still recovers every byte the readers handed out
    (`C15_roundtrip`: `written` counts all chunks of a failing stream). -/
theorem C15_reader_error_invisible (m : Nat) (pool : Pool) (rq : Req) :
    (serve m pool ⟨rq.acceptEncoding, rq.prog.map Op.calm⟩).1.raw = (serve m pool rq).1.raw := by
  simp only [serve_fst, runProg_calm]

/-- a `Stream` from a failing reader writes every chunk with its own
    length and then reports the failure (result 1, never a panic), wherever it stands in the program. -/
theorem C15_reader_error_reported (m : Nat) (pool : Pool) (ae : List Char) (before after : List Op)
    (code : Nat) (cs : List Bytes) :
    (serve m pool ⟨ae, before ++ .stream code cs true :: after⟩).1.rets[before.length]? =
      some (.streamed ((cs.filter (fun c => !c.isEmpty)).map List.length) 1) := by
  rw [C15_write_count]
  simp [expectedRet]

-- non-vacuity: three chunks (one empty), the reader fails behind the last one; threshold crossed by the second chunk
example : (serve 4 {} ⟨"gzip".toList, [.stream 201 [[1,2],[],[3,4,5]] true]⟩).1.rets = [.streamed [2,3] 1] := by decide +kernel
example : canon (serve 4 {} ⟨"gzip".toList, [.stream 201 [[1,2],[],[3,4,5]] true]⟩).1.raw.body = .gzip [1,2,3,4,5] true false := by decide +kernel
example : (serve 4 {} ⟨"".toList, [.stream 201 [[1,2]] true, .write [9]]⟩).1.raw.body = [.raw [1,2], .raw [9]] := by decide +kernel

end C15
