import EchoModel.C07
/-!
# C07 — theorems about the error-handling model

All statements are for EVERY error tree (any depth, any codes, any message kinds), every
panic value, every method / Debug / Recover configuration, every state the handler left the
response in.

The property's rule is written down independently of the handler's control flow
(`ruleSource`, `ruleDoc`): "the code and message of the HTTP error, or of the HTTP error it
directly carries as internal error; otherwise 500 with a generic message; a JSON document, or
nothing for HEAD".  The theorems say that the model of `DefaultHTTPErrorHandler` / `Recover` /
`ServeHTTP` produces exactly that, exactly once.

Two equations carry everything: `handle_eq` (the handler's control flow computes the rule) and
`serve_eq` (whatever the chain does, the response is that of one `handle` for the one error
`finalErr` names); the named theorems are read off them.  The invocations of
`Echo.HTTPErrorHandler` are counted by the model's `handOvers`, which runs the chain a second
time (`climbCount`); `climb_travel` says both runs pass the same error up.
-/
namespace C07

/-! ## the rule, stated on its own -/

/-- code and message of an error value that IS an `*HTTPError` -/
def own : Err → Option (Nat × Msg)
  | .http c m => some (c, m)
  | .httpI c m _ => some (c, m)
  | _ => none

/-- the error an `*HTTPError` directly carries in `Internal` -/
def internalOf : Err → Option Err
  | .httpI _ _ i => some i
  | _ => none

/-- whose code and message the client must get: the HTTP error's, or those of the HTTP error
    it *directly* carries; `none` = not an HTTP error → 500 generic -/
def ruleSource (e : Err) : Option (Nat × Msg) :=
  match own e with
  | none => none
  | some cm =>
    match (internalOf e).bind own with
    | some cm' => some cm'
    | none => some cm

def ruleCode (e : Err) : Nat :=
  match ruleSource e with
  | some (c, _) => c
  | none => 500

/-- the JSON document the client must get (non-HEAD) -/
def ruleDoc (debug : Bool) (e : Err) : Doc :=
  let dbg := if debug then some (canon (errorAtoms e)) else none
  match ruleSource e with
  | none => .message (.statusText 500) dbg                 -- generic message
  | some (_, .str t) => .message (.atom t) dbg
  | some (c, .dflt) => .message (.statusText c) dbg
  | some (_, .err t) => .message (.atom t) none
  | some (_, .marsh j) => .doc j
  | some (_, .other j) => .doc j
  | some (_, .nil) => .null                               -- no message: the JSON document `null`

theorem effective_eq_ruleSource (e : Err) : effective e = ruleSource e := by
  cases e with
  | plain t => rfl
  | wrap t i => rfl
  | http c m => rfl
  | httpI c m i => cases i <;> rfl

/-- the handler's control flow (`effective`, `shape`) meets the rule here -/
theorem handle_eq (debug head : Bool) (o : Out) (e : Err) :
    handle debug head o e =
      if o.committed then o
      else { calls := o.calls ++ [ruleCode e],
             docs := if head then o.docs else o.docs ++ [ruleDoc debug e],
             committed := true } := by
  unfold handle ruleCode ruleDoc
  rw [effective_eq_ruleSource]
  refine ite_congr rfl (fun _ => rfl) fun _ => ?_
  cases ruleSource e with
  | none => cases head <;> rfl
  | some cm =>
    obtain ⟨c, m⟩ := cm
    cases head <;> cases m <;> rfl

theorem handle_committed (debug head : Bool) (o : Out) (e : Err) (h : o.committed = true) :
    handle debug head o e = o :=
  if_pos h

theorem handle_commits (debug head : Bool) (o : Out) (e : Err) :
    (handle debug head o e).committed = true := by
  rw [handle_eq]
  cases h : o.committed with
  | true => exact h
  | false => rfl

/-- **C07_handler_idempotent** — a second invocation (an outer middleware that calls
    `c.Error(err)` and also returns the error; `Recover` returning the error after the handler
    ran) changes nothing, whatever error it is given. -/
theorem C07_handler_idempotent (debug head : Bool) (o : Out) (e e' : Err) :
    handle debug head (handle debug head o e) e' = handle debug head o e :=
  handle_committed _ _ _ _ (handle_commits _ _ _ _)

theorem handle_head_docs (debug : Bool) (o : Out) (e : Err) :
    (handle debug true o e).docs = o.docs := by
  rw [handle_eq]
  cases o.committed <;> rfl

/-! ## the middleware chain in closed form -/

/-- the innermost `Recover` layer whose Skipper does not skip (layers innermost first) -/
def firstCatcher : List Layer → Option RecCfg
  | [] => none
  | .recover cfg :: ls => if cfg.skip then firstCatcher ls else some cfg
  | .callsError _ :: ls => firstCatcher ls

/-- the error the client must be told about: `none` = the panic leaves `ServeHTTP`;
    `some none` = a `LogErrorFunc` returned nil (the application swallowed the error);
    `some (some e)` = `e` — the returned error itself, the recovered panic value as an error, or
    what the catching Recover's `LogErrorFunc` put in its place -/
def finalErr (inner : List Layer) : Raise → Option (Option Err)
  | .returned e => some (some e)
  | .panicked v =>
    match recoverErr v, firstCatcher inner with
    | some e, some cfg => some (logged cfg.logFn e)
    | _, _ => none

theorem recoverErr_eq_none {v : PanicVal} : recoverErr v = none ↔ v = .abort := by
  cases v <;> simp [recoverErr]

theorem finalErr_eq_none_iff (ls : List Layer) (v : PanicVal) :
    finalErr ls (.panicked v) = none ↔ v = .abort ∨ firstCatcher ls = none := by
  rw [← recoverErr_eq_none]
  cases hv : recoverErr v <;> cases hc : firstCatcher ls <;> simp [finalErr, hv, hc]

/-- What a layer makes of a panic with value `v`: `none` = the panic travels on (the layer is no
    `Recover`, its Skipper skips, or the value is `http.ErrAbortHandler`, which `Recover` re-panics);
    `some (cfg, e)` = this `Recover` catches it, as the error `e`.  The chain's behaviour on a
    panic is stated through it (`layerStep_panicking`, `layerTravel_panicking`, `finalErr_cons`),
    so that an induction over the chain splits on `caught v l` and nothing else. -/
def caught (v : PanicVal) : Layer → Option (RecCfg × Err)
  | .recover cfg => if cfg.skip then none else (recoverErr v).map (cfg, ·)
  | .callsError _ => none

theorem layerStep_panicking (debug head : Bool) (l : Layer) (o : Out) (v : PanicVal) :
    layerStep debug head l (o, .panicking v) =
      match caught v l with
      | none => (o, .panicking v)
      | some (cfg, e) =>
        match logged cfg.logFn e with
        | none => (o, .returning none)
        | some e' =>
          if cfg.disableEH then (o, .returning (some e'))
          else (handle debug head o e', .returning none) := by
  cases l with
  | callsError ret => rfl
  | recover cfg =>
    rw [layerStep, caught]
    cases cfg.skip with
    | true => rfl
    | false => cases recoverErr v <;> rfl

theorem finalErr_cons (l : Layer) (ls : List Layer) (v : PanicVal) :
    finalErr (l :: ls) (.panicked v) =
      match caught v l with
      | none => finalErr ls (.panicked v)
      | some (cfg, e) => some (logged cfg.logFn e) := by
  cases l with
  | callsError ret => rfl
  | recover cfg =>
    rw [finalErr, firstCatcher, caught, finalErr]
    cases cfg.skip with
    | true => rfl
    | false => cases recoverErr v <;> rfl

theorem climb_returning_none (debug head : Bool) (ls : List Layer) (o : Out) :
    climb debug head ls (o, .returning none) = (o, .returning none) := by
  induction ls with
  | nil => rfl
  | cons l ls ih => cases l <;> exact ih

/-- a returned error: however many middlewares report it through `c.Error` on its way up,
    the response is the one a single invocation of the handler produces -/
theorem finish_climb_returning (debug head : Bool) (ls : List Layer) (o : Out) (e : Err) :
    finish debug head (climb debug head ls (o, .returning (some e)))
      = .response (handle debug head o e) := by
  induction ls generalizing o with
  | nil => rfl
  | cons l ls ih =>
    cases l with
    | recover cfg => exact ih o
    | callsError ret =>
      -- the layer runs the handler; what `ServeHTTP` or an outer layer does with the error after that
      -- meets a committed response
      cases ret with
      | false => exact congrArg (finish debug head) (climb_returning_none ..)
      | true => exact (ih _).trans (congrArg Outcome.response (C07_handler_idempotent ..))

theorem finish_climb_panicking (debug head : Bool) (ls : List Layer) (o : Out) (v : PanicVal) :
    finish debug head (climb debug head ls (o, .panicking v)) =
      match finalErr ls (.panicked v) with
      | none => .crashed
      | some none => .response o
      | some (some e) => .response (handle debug head o e) := by
  induction ls with
  | nil => rw [(finalErr_eq_none_iff [] v).mpr (.inr rfl)]; rfl
  | cons l ls ih =>
    rw [climb, layerStep_panicking, finalErr_cons]
    cases caught v l with
    | none => exact ih
    | some ce =>
      obtain ⟨cfg, e⟩ := ce
      dsimp only
      cases logged cfg.logFn e with
      | none => exact congrArg (finish debug head) (climb_returning_none ..)
      | some e' =>
        cases cfg.disableEH with
        | true => exact finish_climb_returning ..
        | false => exact congrArg (finish debug head) (climb_returning_none ..)

/-- does the panic leave `ServeHTTP`? -/
def crashes (c : Case) : Bool := (finalErr c.layers.reverse c.raise).isNone

/-- `serve` in closed form: whichever way the error travels (returned; panic → some Recover →
    `c.Error`; panic → Recover → returned; past skipped Recover instances; through middlewares
    that report it with `c.Error` themselves) the response is the one single invocation of
    the handler produces, for the one error `finalErr` names. -/
theorem serve_eq (c : Case) :
    serve c =
      match finalErr c.layers.reverse c.raise with
      | none => .crashed
      | some none => .response (applyPre c.pre)
      | some (some e) => .response (handle c.debug c.head (applyPre c.pre) e) := by
  unfold serve
  cases c.raise with
  | returned e => exact finish_climb_returning ..
  | panicked v => exact finish_climb_panicking ..

theorem serve_crashed_iff (c : Case) :
    serve c = .crashed ↔ finalErr c.layers.reverse c.raise = none := by
  rw [serve_eq]
  cases finalErr c.layers.reverse c.raise with
  | none => simp
  | some r => cases r <;> simp

/-- **C07_returned_ignores_middleware** — for a returned error neither the number, the kind,
    the configuration nor the position of the middlewares matters. -/
theorem C07_returned_ignores_middleware (c : Case) (e : Err) (h : c.raise = .returned e) :
    serve c = .response (handle c.debug c.head (applyPre c.pre) e) := by
  rw [serve_eq, h]; rfl

/-- did the handler function commit the response before it failed? -/
def preCommitted : Pre → Bool
  | .nothing => false
  | .jsonBad _ => false
  | .commitAborted _ => false
  | _ => true

theorem applyPre_committed (p : Pre) : (applyPre p).committed = preCommitted p := by
  cases p <;> rfl

theorem applyPre_of_uncommitted : ∀ {p : Pre}, preCommitted p = false → applyPre p = {}
  | .nothing, _ | .jsonBad _, _ | .commitAborted _, _ => rfl

theorem applyPre_calls : ∀ {p : Pre}, preCommitted p = true → (applyPre p).calls.length = 1
  | .wrote _, _ | .noContent _, _ | .flush, _ | .writeHeader _, _ | .flushUnsupported _, _ => rfl

theorem handle_applyPre (debug head : Bool) (p : Pre) (e : Err) :
    handle debug head (applyPre p) e =
      if preCommitted p then applyPre p
      else { calls := [ruleCode e], docs := if head then [] else [ruleDoc debug e],
             committed := true } := by
  rw [handle_eq, applyPre_committed]
  refine ite_congr rfl (fun _ => rfl) fun hp => ?_
  rw [applyPre_of_uncommitted (Bool.eq_false_iff.mpr hp)]
  rfl

/-- `e` is the error the chain ends up reporting for this request -/
def Reported (c : Case) (e : Err) : Prop := finalErr c.layers.reverse c.raise = some (some e)

theorem serve_reported {c : Case} {e : Err} (he : Reported c e) :
    serve c = .response (handle c.debug c.head (applyPre c.pre) e) := by
  rw [serve_eq, he]

/-- **C07_one_response** — a request whose handler returns an error or panics (recovered by
    some Recover instance in the chain) yields exactly one response: the underlying writer
    receives exactly one `WriteHeader` call, the response ends committed; if the handler had
    already committed a response, that response is left exactly as it was (nothing is added) —
    for every middleware chain. -/
theorem C07_one_response (c : Case) (o : Out) (e : Err) (he : Reported c e)
    (h : serve c = .response o) :
    o.calls.length = 1 ∧ o.committed = true ∧
    (preCommitted c.pre = true → o = applyPre c.pre) := by
  rw [serve_reported he] at h
  cases h
  rw [handle_applyPre]
  cases hp : preCommitted c.pre with
  | true => exact ⟨applyPre_calls hp, (applyPre_committed _).trans hp, fun _ => rfl⟩
  | false => exact ⟨rfl, rfl, nofun⟩

/-- **C07_code_message** — if the handler had not committed anything, the client gets the
    status and the document the rule demands: the code and message of the HTTP error or of
    the HTTP error it directly carries, else 500 with the generic message; nothing else. -/
theorem C07_code_message (c : Case) (o : Out) (e : Err) (h : serve c = .response o)
    (he : Reported c e) (hp : preCommitted c.pre = false) :
    o.calls = [ruleCode e] ∧ o.docs = (if c.head then [] else [ruleDoc c.debug e]) := by
  rw [serve_reported he] at h
  cases h
  rw [handle_applyPre, hp]
  exact ⟨rfl, rfl⟩

/-- **C07_head_empty** — for HEAD the error handler never writes a body: the documents are
    exactly those the handler function itself had written before. -/
theorem C07_head_empty (c : Case) (o : Out) (h : serve c = .response o) (hh : c.head = true) :
    o.docs = (applyPre c.pre).docs := by
  rw [serve_eq, hh] at h
  split at h
  · cases h
  · cases h; rfl
  · cases h; exact handle_head_docs ..

/-- **C07_swallowed** — when the catching Recover's `LogErrorFunc` returns nil ("the centralized
    HTTPErrorHandler will not be called"; by `logged` this is the only source of `some none`),
    the response is left exactly as the handler function left it. -/
theorem C07_swallowed (c : Case) (h : finalErr c.layers.reverse c.raise = some none) :
    serve c = .response (applyPre c.pre) := by
  rw [serve_eq, h]

/-! ## no leak -/

/-- atoms visible in a body document -/
def docAtoms : Doc → List Atom
  | .pre => []
  | .message (.atom t) dbg => t :: dbg.getD []
  | .message (.statusText _) dbg => dbg.getD []
  | .doc j => [j]
  | .null => []

/-- the atoms the rule makes public: those of the message of the effective HTTP error -/
def publicAtoms (e : Err) : List Atom :=
  match ruleSource e with
  | some (_, m) => msgAtoms m
  | none => []

/-- texts of non-HTTP errors anywhere in the value (plain errors, `%w` wrappers) -/
def plainTexts : Err → List Atom
  | .plain t => [t]
  | .wrap t i => t :: plainTexts i
  | .http _ _ => []
  | .httpI _ _ i => plainTexts i

theorem docAtoms_ruleDoc (e : Err) : docAtoms (ruleDoc false e) = publicAtoms e := by
  unfold ruleDoc publicAtoms
  cases ruleSource e with
  | none => rfl
  | some cm =>
    obtain ⟨c, m⟩ := cm
    cases m <;> rfl

theorem ruleSource_nonHTTP {e : Err} (h : own e = none) : ruleSource e = none := by
  unfold ruleSource; rw [h]

/-- **C07_no_leak (non-interference form)** — with Debug off the response is a function of
    the effective code and message alone: two error values that agree on `ruleSource` —
    however different their internal errors, wrappers and texts are — produce the same
    response. -/
theorem C07_no_leak_noninterference (head : Bool) (o : Out) (e₁ e₂ : Err)
    (h : ruleSource e₁ = ruleSource e₂) :
    handle false head o e₁ = handle false head o e₂ := by
  rw [handle_eq, handle_eq]
  unfold ruleCode ruleDoc
  rw [h]
  rfl

/-- **C07_no_leak** — with Debug off, every atom in what the error handler wrote is an atom
    of the message of the effective HTTP error; in particular the text of a non-HTTP error
    (plain, wrapped, internal, at any depth; also a non-error panic value) never appears,
    unless the application itself put the same text into that message. -/
theorem C07_no_leak (c : Case) (o : Out) (e : Err) (h : serve c = .response o)
    (he : Reported c e) (hd : c.debug = false) :
    ∀ d ∈ o.docs, d ∉ (applyPre c.pre).docs → ∀ a ∈ docAtoms d, a ∈ publicAtoms e := by
  rw [serve_reported he] at h
  cases h
  intro d hdm hnew a ha
  rw [handle_applyPre, hd] at hdm
  cases hp : preCommitted c.pre with
  | true => rw [hp] at hdm; exact absurd hdm hnew
  | false =>
    simp only [hp, Bool.false_eq_true, if_false] at hdm
    split at hdm
    · cases hdm
    · rw [List.mem_singleton.mp hdm, docAtoms_ruleDoc] at ha; exact ha

theorem C07_no_leak_plain (c : Case) (o : Out) (e : Err) (h : serve c = .response o)
    (he : Reported c e) (hd : c.debug = false) (t : Atom)
    (_ht : t ∈ plainTexts e) (hfresh : t ∉ publicAtoms e) :
    ∀ d ∈ o.docs, d ∉ (applyPre c.pre).docs → t ∉ docAtoms d := by
  intro d hdm hnew hmem
  exact hfresh (C07_no_leak c o e h he hd d hdm hnew t hmem)

/-- a non-HTTP error (plain, wrapped — even around an HTTPError — or a non-error panic
    value) makes nothing public at all -/
theorem publicAtoms_nonHTTP (e : Err) (h : own e = none) : publicAtoms e = [] := by
  unfold publicAtoms; rw [ruleSource_nonHTTP h]

/-- **C07_no_special_error_value** — the handler has no favourite error values: ANY two
    non-HTTP errors (`context.Canceled`, `io.EOF`, a `%w` chain around an HTTPError, a driver
    error, …) get the same response when Debug is off — 500 with the generic message on an
    uncommitted response — and nothing at all is skipped or special-cased. -/
theorem C07_no_special_error_value (head : Bool) (o : Out) (e₁ e₂ : Err)
    (h₁ : own e₁ = none) (h₂ : own e₂ = none) :
    handle false head o e₁ = handle false head o e₂ ∧
    (o.committed = false →
      (handle false head o e₁).calls = o.calls ++ [500] ∧
      (handle false head o e₁).docs
        = if head then o.docs else o.docs ++ [.message (.statusText 500) none]) := by
  have r₁ := ruleSource_nonHTTP h₁
  refine ⟨C07_no_leak_noninterference head o e₁ e₂ (r₁.trans (ruleSource_nonHTTP h₂).symm), ?_⟩
  intro hc
  rw [handle_eq, hc]
  unfold ruleCode ruleDoc
  rw [r₁]
  exact ⟨rfl, rfl⟩

/-! ## panics -/

/-- the Recover instance that catches is configured like `middleware.Recover()` as far as the
    error is concerned: `LogErrorFunc` unset or returning its argument -/
def keepsError : LogFn → Bool
  | .unset | .same => true
  | _ => false

theorem logged_of_keeps : ∀ {f : LogFn}, keepsError f = true → ∀ e, logged f e = some e
  | .unset, _, _ | .same, _, _ => rfl

theorem recoverErr_of_ne_abort {v : PanicVal} (hv : v ≠ .abort) : ∃ e, recoverErr v = some e :=
  Option.ne_none_iff_exists'.mp (mt recoverErr_eq_none.mp hv)

theorem reported_of_caught {c : Case} {v : PanicVal} {cfg : RecCfg} {e e' : Err}
    (hraise : c.raise = .panicked v) (hv : recoverErr v = some e)
    (hcatch : firstCatcher c.layers.reverse = some cfg) (hl : logged cfg.logFn e = some e') :
    Reported c e' := by
  unfold Reported
  rw [hraise]
  simp only [finalErr, hv, hcatch, hl]

/-- **C07_recovered** — if some Recover instance in the chain does not skip the request (and
    keeps the error), every panic value except `http.ErrAbortHandler` yields a response (the
    panic does not leave `ServeHTTP`), and it is the very response a handler *returning* the
    corresponding error would have produced. -/
theorem C07_recovered (c : Case) (v : PanicVal) (cfg : RecCfg)
    (hcatch : firstCatcher c.layers.reverse = some cfg) (hk : keepsError cfg.logFn = true)
    (hv : v ≠ .abort) (hraise : c.raise = .panicked v) :
    ∃ e, recoverErr v = some e ∧
      serve c = serve { c with raise := .returned e } ∧ ∃ o, serve c = .response o := by
  obtain ⟨e, hre⟩ := recoverErr_of_ne_abort hv
  have hs := serve_reported (reported_of_caught hraise hre hcatch (logged_of_keeps hk e))
  exact ⟨e, hre,
    hs.trans (C07_returned_ignores_middleware { c with raise := .returned e } e rfl).symm, _, hs⟩

/-- **C07_logErrorFunc_replaces** — when the catching Recover's `LogErrorFunc` returns another
    error, the client is told about THAT error (by the same rule), not about the panic value. -/
theorem C07_logErrorFunc_replaces (c : Case) (v : PanicVal) (cfg : RecCfg) (e' : Err)
    (hcatch : firstCatcher c.layers.reverse = some cfg) (hf : cfg.logFn = .replace e')
    (hv : v ≠ .abort) (hraise : c.raise = .panicked v) :
    serve c = .response (handle c.debug c.head (applyPre c.pre) e') := by
  obtain ⟨e, hre⟩ := recoverErr_of_ne_abort hv
  exact serve_reported (reported_of_caught hraise hre hcatch (hf ▸ rfl))

/-- **C07_unrecovered_crashes** — a panic leaves `ServeHTTP` exactly when it is the abort
    sentinel or every Recover instance in the chain skips the request (none installed
    included). -/
theorem C07_unrecovered_crashes (c : Case) (v : PanicVal) (hraise : c.raise = .panicked v) :
    serve c = .crashed ↔ (v = .abort ∨ firstCatcher c.layers.reverse = none) := by
  rw [serve_crashed_iff, hraise, finalErr_eq_none_iff]

/-- **C07_returned_never_crashes** — a returned error always yields a response. -/
theorem C07_returned_never_crashes (c : Case) (e : Err) (h : c.raise = .returned e) :
    ∃ o, serve c = .response o :=
  ⟨_, C07_returned_ignores_middleware c e h⟩

/-- a non-error panic value gets the generic 500 and, unless Debug, nothing of its text -/
theorem C07_panic_value_generic (c : Case) (t : Atom) (o : Out) (cfg : RecCfg)
    (hraise : c.raise = .panicked (.str t) ∨ c.raise = .panicked (.int t) ∨
              c.raise = .panicked (.struct t))
    (hcatch : firstCatcher c.layers.reverse = some cfg) (hk : keepsError cfg.logFn = true)
    (h : serve c = .response o) (hp : preCommitted c.pre = false) :
    o.calls = [500] ∧
    o.docs = (if c.head then [] else
      [.message (.statusText 500) (if c.debug then some [t] else none)]) := by
  -- `Recover` makes the plain error `fmt.Errorf("%v", r)` of each of the three kinds of value
  obtain ⟨v, hr, hv⟩ : ∃ v, c.raise = .panicked v ∧ recoverErr v = some (.plain t) := by
    rcases hraise with h | h | h <;> exact ⟨_, h, rfl⟩
  exact C07_code_message c o (.plain t) h (reported_of_caught hr hv hcatch (logged_of_keeps hk _)) hp

/-! ## hand-overs to `Echo.HTTPErrorHandler` -/

theorem layerTravel_panicking (l : Layer) (v : PanicVal) :
    layerTravel l (.panicking v) =
      match caught v l with
      | none => (.panicking v, 0)
      | some (cfg, e) =>
        match logged cfg.logFn e with
        | none => (.returning none, 0)
        | some e' => if cfg.disableEH then (.returning (some e'), 0) else (.returning none, 1) := by
  cases l with
  | callsError ret => rfl
  | recover cfg =>
    rw [layerTravel, caught]
    cases cfg.skip with
    | true => rfl
    | false => cases recoverErr v <;> rfl

theorem layerStep_travel (debug head : Bool) (l : Layer) (o : Out) (t : Travel) :
    (layerStep debug head l (o, t)).2 = (layerTravel l t).1 := by
  cases t with
  | panicking v =>
    rw [layerStep_panicking, layerTravel_panicking]
    cases caught v l with
    | none => rfl
    | some ce =>
      obtain ⟨cfg, e⟩ := ce
      dsimp only
      cases logged cfg.logFn e with
      | none => rfl
      | some e' => cases cfg.disableEH <;> rfl
  | returning r =>
    cases l with
    | recover cfg => rfl
    | callsError ret => cases r <;> rfl

theorem climbCount_cons (l : Layer) (ls : List Layer) (t : Travel) :
    climbCount (l :: ls) t =
      ((climbCount ls (layerTravel l t).1).1, (layerTravel l t).2 + (climbCount ls (layerTravel l t).1).2) :=
  rfl

theorem climb_travel (debug head : Bool) (ls : List Layer) (o : Out) (t : Travel) :
    (climb debug head ls (o, t)).2 = (climbCount ls t).1 := by
  induction ls generalizing o t with
  | nil => rfl
  | cons l ls ih =>
    rw [climb, climbCount_cons, ← layerStep_travel debug head l o t]
    exact ih ..

theorem climbCount_cons_zero {l : Layer} {t t' : Travel} (h : layerTravel l t = (t', 0))
    (ls : List Layer) : climbCount (l :: ls) t = climbCount ls t' := by
  rw [climbCount_cons, h, Nat.zero_add]

theorem climbCount_inert {ls : List Layer} {t : Travel} (h : ∀ l ∈ ls, layerTravel l t = (t, 0)) :
    climbCount ls t = (t, 0) := by
  induction ls with
  | nil => rfl
  | cons l ls ih =>
    rw [climbCount_cons_zero (h l (List.mem_cons_self ..)),
      ih fun l hl => h l (List.mem_cons_of_mem _ hl)]

theorem climbCount_returning_none (ls : List Layer) :
    climbCount ls (.returning none) = (.returning none, 0) :=
  climbCount_inert fun l _ => by cases l <;> rfl

theorem countAtEnd_ge (t : Travel) (n : Nat) : n ≤ countAtEnd (t, n) := by
  cases t with
  | panicking v => exact Nat.le_refl n
  | returning r => cases r with
    | none => exact Nat.le_refl n
    | some e => exact Nat.le_succ n

/-- an error the chain returns is handed over at least once: by a reporting middleware on the
    way, or by `ServeHTTP` at the end -/
theorem handOvers_returning (ls : List Layer) (e : Err) :
    1 ≤ countAtEnd (climbCount ls (.returning (some e))) := by
  induction ls with
  | nil => exact Nat.le_refl 1
  | cons l ls ih =>
    cases l with
    | recover cfg => rw [climbCount_cons_zero rfl]; exact ih
    | callsError ret => exact Nat.le_trans (Nat.le_add_right 1 _) (countAtEnd_ge ..)

/-- A reported panic is handed over once, by the Recover that catches it — or, when that Recover
    has DisableErrorHandler, as often as the layers outside it (`post`) hand over the error it
    returns. -/
theorem handOvers_panicking {ls : List Layer} {v : PanicVal} {e : Err}
    (he : finalErr ls (.panicked v) = some (some e)) :
    countAtEnd (climbCount ls (.panicking v)) = 1 ∨
    ∃ post, post ⊆ ls ∧
      countAtEnd (climbCount ls (.panicking v)) = countAtEnd (climbCount post (.returning (some e))) := by
  induction ls with
  | nil => rw [(finalErr_eq_none_iff [] v).mpr (.inr rfl)] at he; cases he
  | cons l ls ih =>
    have hl := layerTravel_panicking l v
    rw [finalErr_cons] at he
    cases hc : caught v l with
    | none =>
      simp only [hc] at he hl
      rw [climbCount_cons_zero hl]
      exact (ih he).imp_right fun ⟨post, hsub, h⟩ => ⟨post, List.subset_cons_of_subset _ hsub, h⟩
    | some ce =>
      obtain ⟨cfg, e₀⟩ := ce
      simp only [hc, Option.some.injEq] at he
      simp only [hc, he] at hl
      split at hl
      · exact .inr ⟨ls, List.subset_cons_self .., by rw [climbCount_cons_zero hl]⟩
      · rw [climbCount_cons, hl, climbCount_returning_none]; exact .inl rfl

/-- The hand-overs of a reported error: the one of the Recover that caught it, or those of an error
    returned into some part `post` of the chain (all of it, if the handler returned the error). -/
theorem handOvers_reported {c : Case} {e : Err} (he : Reported c e) :
    handOvers c = 1 ∨ ∃ post, post ⊆ c.layers.reverse ∧
      handOvers c = countAtEnd (climbCount post (.returning (some e))) := by
  unfold Reported at he
  unfold handOvers
  cases hr : c.raise with
  | returned e' => rw [hr] at he; cases he; exact .inr ⟨_, List.Subset.refl _, rfl⟩
  | panicked v => exact handOvers_panicking (hr ▸ he)

/-- **C07_handed_over** — whenever an error is to be reported (returned, or recovered and not
    swallowed by a `LogErrorFunc`), `Echo.HTTPErrorHandler` is invoked at least once. -/
theorem C07_handed_over (c : Case) (e : Err) (he : Reported c e) : 1 ≤ handOvers c := by
  rcases handOvers_reported he with h | ⟨post, _, h⟩
  · exact Nat.le_of_eq h.symm
  · exact h ▸ handOvers_returning post e

/-- **C07_serveHTTP_hands_over_once** — in a chain without reporting middlewares (Recover
    instances only, any number, any configuration) the handler is invoked exactly once for a
    reported error: by `ServeHTTP` for a returned one, by the catching Recover (`c.Error`) or —
    with DisableErrorHandler — by `ServeHTTP` for a recovered one. -/
theorem C07_serveHTTP_hands_over_once (c : Case) (e : Err) (he : Reported c e)
    (hrec : ∀ l ∈ c.layers, ∃ cfg, l = .recover cfg) : handOvers c = 1 := by
  rcases handOvers_reported he with h | ⟨post, hsub, h⟩
  · exact h
  · -- Recover instances let a returned error through as it is: `ServeHTTP` hands it over
    rw [h, climbCount_inert fun l hl => by
      obtain ⟨cfg, rfl⟩ := hrec l (List.mem_reverse.mp (hsub hl)); rfl]
    rfl

/-! ## a panic out of the response's own commit or flush; going on serving -/

/-- **C07_panic_inside_commit** — a panic raised inside the commit step of the handler's own
    response write (panicking before-hook, status code the writer refuses) is answered, by every
    chain, exactly like the same panic raised before the handler touched the response; under a
    Recover that keeps the error that is one response, 500 + generic message for a non-HTTP
    value (`C07_panic_value_generic`). -/
theorem C07_panic_inside_commit (c : Case) (k : Nat) (hpre : c.pre = .commitAborted k) :
    serve c = serve { c with pre := .nothing } := by
  rw [serve_eq, serve_eq, hpre]
  rfl

/-- **C07_flush_unsupported** — the failing code flushed an underlying writer that has neither
    `Flush` nor `FlushError` (echo under `http.TimeoutHandler`, a plain wrapper): `Response.Flush`
    has committed with 200 and then panicked.  Whatever the code was going to do next,
    * under a Recover that does not skip the request and keeps the error the client gets exactly
      that one committed, empty 200 response — the error handler adds nothing, in particular the
      text of the flush panic does not reach the client, Debug or not;
    * and when no Recover instance catches (none, or all skipping) the panic leaves `ServeHTTP`. -/
theorem C07_flush_unsupported (c : Case) (t : Atom) (hpre : c.pre = .flushUnsupported t) :
    (∀ cfg, firstCatcher c.layers.reverse = some cfg → keepsError cfg.logFn = true →
      serve (flushPanics c) = .response { calls := [200], docs := [], committed := true }) ∧
    (firstCatcher c.layers.reverse = none → serve (flushPanics c) = .crashed) := by
  obtain ⟨debug, head, layers, pre, raise⟩ := c
  cases hpre
  -- `flushPanics` has put the panic of `Flush` in place; the response `Flush` committed stays as it is
  exact ⟨fun cfg hcatch hk =>
      serve_reported (reported_of_caught (v := .error (.plain t)) rfl rfl hcatch (logged_of_keeps hk _)),
    fun hnone => (C07_unrecovered_crashes _ _ rfl).mpr (.inr hnone)⟩

/-- **C07_requests_independent** — in a sequence of requests through one Echo every request
    gets the response it would get alone, whatever failed before it (errors, recovered panics,
    crashes).  In the model this holds by construction (`serveAll` is a `map`: the model has no
    state that outlives a request); the claim about the real code — where a pooled context IS
    reused and package-level error values exist — is the correspondence run on sequences. -/
theorem C07_requests_independent (cs : List Case) (i : Nat) (h : i < cs.length) :
    (serveAll cs)[i]? = some (serve cs[i]) := by
  simp [serveAll, h]

theorem C07_sequence_all_answered (cs : List Case)
    (h : ∀ c ∈ cs, crashes c = false) : ∀ o ∈ serveAll cs, ∃ r, o = .response r := by
  intro o ho
  obtain ⟨c, hc, rfl⟩ := List.mem_map.mp ho
  cases hs : serve c with
  | response r => exact ⟨r, rfl⟩
  | crashed =>
    have hcr := h c hc
    rw [crashes, (serve_crashed_iff c).mp hs] at hcr
    cases hcr

/-! ## non-vacuity -/

/-- an outer middleware that reports and returns the error, `Recover` with DisableErrorHandler
    inside it -/
def chainA : List Layer := [.callsError true, .recover ⟨false, true, .unset⟩]
/-- plain `middleware.Recover()` -/
def chainR : List Layer := [.recover ⟨false, false, .unset⟩]

/-- one level of Internal only: 400 carrying 409 carrying 418 → the client gets 409 -/
example : ruleCode (.httpI 400 (.str 1) (.httpI 409 (.str 2) (.http 418 (.str 3)))) = 409 := rfl
/-- `%w` around an HTTPError is not an HTTPError → 500 generic -/
example : ruleCode (.wrap 9 (.http 403 (.str 1))) = 500 ∧
    ruleDoc false (.wrap 9 (.http 403 (.str 1))) = .message (.statusText 500) none := by decide +kernel
/-- a full request: panic(err) under Recover with the double-handling middleware, Debug on -/
example : serve ⟨true, false, chainA, .jsonBad 201,
      .panicked (.error (.httpI 400 (.str 7) (.httpI 404 (.str 8) (.plain 9))))⟩
    = .response ⟨[404], [.message (.atom 8) (some [7, 8, 9])], true⟩ := rfl
/-- the same with Debug off: atom 9 (the internal plain error) and 7 are gone -/
example : serve ⟨false, false, chainA, .jsonBad 201,
      .panicked (.error (.httpI 400 (.str 7) (.httpI 404 (.str 8) (.plain 9))))⟩
    = .response ⟨[404], [.message (.atom 8) none], true⟩ := rfl
/-- committed before the error: nothing added -/
example : serve ⟨true, false, [.callsError true], .wrote 201, .returned (.plain 5)⟩
    = .response ⟨[201], [.pre], true⟩ := rfl
/-- the hypotheses of `C07_no_leak_plain` are met: 9 is a plain text, not public -/
example : (9 : Nat) ∈ plainTexts (.httpI 400 (.str 7) (.httpI 404 (.str 8) (.plain 9))) ∧
    (9 : Nat) ∉ publicAtoms (.httpI 400 (.str 7) (.httpI 404 (.str 8) (.plain 9))) := by decide +kernel
/-- an HTTPError without a message carrying a plain internal error: `null`, nothing of atom 9
    (the input class of the seeded mutation `case nil: message = he.Error()`) -/
example : serve ⟨false, false, chainR, .nothing, .returned (.httpI 502 .nil (.plain 9))⟩
    = .response ⟨[502], [.null], true⟩ := rfl
example : serve ⟨true, false, chainR, .nothing,
      .returned (.httpI 400 (.str 1) (.httpI 409 .nil (.plain 9)))⟩
    = .response ⟨[409], [.null], true⟩ := rfl
/-- three failing requests in a row (panic, returned error, panic): each gets its own response -/
example : serveAll [⟨false, false, chainR, .nothing, .panicked (.str 1)⟩,
                    ⟨false, false, chainR, .nothing, .returned (.http 404 (.str 2))⟩,
                    ⟨false, false, chainR, .nothing, .panicked (.int 3)⟩]
    = [.response ⟨[500], [.message (.statusText 500) none], true⟩,
       .response ⟨[404], [.message (.atom 2) none], true⟩,
       .response ⟨[500], [.message (.statusText 500) none], true⟩] := rfl
/-- the input class of the seeded "shared sentinel" mutation: request 1 returns
    `ErrInternalServerError.SetInternal(<HTTPError 400>)` (answered 400), request 2 a plain
    error: it must get the generic 500 -/
example : serveAll [⟨false, false, [], .nothing, .returned (.httpI 500 .dflt (.http 400 (.str 1)))⟩,
                    ⟨false, false, [], .nothing, .returned (.plain 2)⟩]
    = [.response ⟨[400], [.message (.atom 1) none], true⟩,
       .response ⟨[500], [.message (.statusText 500) none], true⟩] := rfl
/-- crashes: no Recover, a Recover that skips, or the abort sentinel -/
example : serve ⟨false, false, [], .nothing, .panicked (.str 1)⟩ = .crashed := rfl
example : serve ⟨false, false, [.callsError true, .recover ⟨true, false, .unset⟩], .nothing,
    .panicked (.str 1)⟩ = .crashed := rfl
example : serve ⟨false, false, chainR, .nothing, .panicked .abort⟩ = .crashed := rfl
/-- two Recover instances: the inner one skips, the outer one catches -/
example : serve ⟨false, false, [.recover ⟨false, false, .unset⟩, .recover ⟨true, false, .unset⟩],
    .nothing, .panicked (.int 4)⟩ = .response ⟨[500], [.message (.statusText 500) none], true⟩ := rfl
/-- `LogErrorFunc` replaces the error: panic("boom") is answered with the 503 it returned … -/
example : serve ⟨false, false, [.recover ⟨false, false, .replace (.http 503 (.str 6))⟩], .nothing,
    .panicked (.str 1)⟩ = .response ⟨[503], [.message (.atom 6) none], true⟩ := rfl
/-- … also when Recover hands it back to an outer middleware that reports it itself … -/
example : serve ⟨false, false, [.callsError false, .recover ⟨false, true, .replace (.http 503 (.str 6))⟩],
    .nothing, .panicked (.str 1)⟩ = .response ⟨[503], [.message (.atom 6) none], true⟩ := rfl
/-- … and swallows it when it returns nil -/
example : serve ⟨false, false, [.recover ⟨false, false, .swallow⟩], .nothing, .panicked (.str 1)⟩
    = .response {} := rfl
/-- hand-overs: returned error through two reporting middlewares (the inner one returns it,
    the outer one too) = 2 × c.Error + ServeHTTP; a recovered panic under Recover() = 1 -/
example : handOvers ⟨false, false, [.callsError true, .callsError true], .nothing, .returned (.plain 1)⟩ = 3 ∧
    handOvers ⟨false, false, chainR, .nothing, .panicked (.str 1)⟩ = 1 ∧
    handOvers ⟨false, false, [.recover ⟨false, false, .swallow⟩], .nothing, .panicked (.str 1)⟩ = 0 := by
  decide +kernel
/-- `c.NoContent(0)` on a writer that refuses the code, under Recover(): 500 + generic JSON -/
example : serve ⟨false, false, chainR, .commitAborted 0, .panicked (.str 3)⟩
    = .response ⟨[500], [.message (.statusText 500) none], true⟩ := rfl
/-- `C07_flush_unsupported` on instances: the code meant to return a 418 after the flush (Debug
    on); no Recover; a `LogErrorFunc` that replaces the error -/
example : serve (flushPanics ⟨true, false, chainR, .flushUnsupported 9019, .returned (.http 418 (.str 1))⟩)
    = .response { calls := [200], docs := [], committed := true } ∧
  serve (flushPanics ⟨false, false, [], .flushUnsupported 9019, .returned (.http 418 (.str 1))⟩) = .crashed ∧
  serve (flushPanics ⟨false, false, [.recover ⟨false, false, .replace (.http 503 (.str 6))⟩], .flushUnsupported 9019,
    .panicked (.str 2)⟩) = .response { calls := [200], docs := [], committed := true } := by decide +kernel
/-- the hypotheses of `C07_recovered` / `C07_panic_value_generic` are met -/
example : firstCatcher (chainA.reverse) = some ⟨false, true, .unset⟩ ∧
    keepsError (LogFn.unset) = true := by decide +kernel
/-- `context.Canceled` (a plain error with a reserved atom) is not special -/
example : handle false false {} (.plain 9001) = handle false false {} (.plain 7) := rfl

end C07
