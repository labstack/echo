import EchoModel.C12
import EchoProofs.Lit
/-!
# C12 — nothing but the cookie and the configured lookup locations decides

A request says many things about itself besides the CSRF cookie and the token: fetch metadata
(`Sec-Fetch-Site: same-origin`), `Origin`, `Referer`, `X-Requested-With`, credentials of another scheme,
forwarding headers, a method override, query parameters and body fields of the application, other cookies.
For a configuration inside the property's quantifier (header / query / form sources) the decision of the
middleware is a function of

* the method, the random source,
* the cookies carrying the CSRF cookie's name,
* the header values under the header sources' (canonical) names,
* the query values under the query AND form sources' names (`Request.Form` holds the query values too),
* the body values under the form sources' names,

and of nothing else: `C12_ambient_irrelevant` — `serve` gives the same result on the request and on its
projection to these parts; `C12_same_projection` — two requests with the same projection are decided alike.
What the model's `Req` does not contain at all (Host, RemoteAddr, TLS, protocol version) can not influence
`serve` by construction; that the real middleware ignores it too is what the correspondence run checks
(a third of all requests carry such ambient facts).
-/
namespace C12

/-- the sources the property quantifies over -/
def inQuantifier : Extractor → Bool
  | .header _ _ => true
  | .query _ => true
  | .form _ => true
  | _ => false

def keepHeader (c : Cfg) (k : Str) : Bool :=
  c.extractors.any fun e => match e with
    | .header n _ => n == k
    | _ => false

/-- `k` is the name of a query source or of a form source -/
def keepQuery (c : Cfg) (k : Str) : Bool :=
  c.extractors.any fun e => match e with
    | .query n => n == k
    | .form n => n == k
    | _ => false

def keepForm (c : Cfg) (k : Str) : Bool :=
  c.extractors.any fun e => match e with
    | .form n => n == k
    | _ => false

/-- the part of a request the configuration looks at -/
def project (c : Cfg) (r : Req) : Req :=
  { r with
    cookies := r.cookies.filter (fun p => p.1 = c.cookieName)
    headers := r.headers.filter (fun p => keepHeader c p.1)
    query := r.query.filter (fun p => keepQuery c p.1)
    form := r.form.filter (fun p => keepForm c p.1) }

theorem valuesOf_filter (keep : Str → Bool) (k : Str) (hk : keep k = true) (l : List (Str × Str)) :
    valuesOf k (l.filter (fun p => keep p.1)) = valuesOf k l := by
  unfold valuesOf
  rw [List.filter_filter]
  congr 1
  apply List.filter_congr
  intro p _
  by_cases h : p.1 = k
  · simp [h, hk]
  · simp [h]

theorem findCookie_filter (name : Str) (cs : List (Str × Str)) :
    findCookie name (cs.filter (fun p => p.1 = name)) = findCookie name cs := by
  induction cs with
  | nil => rfl
  | cons ck cs ih =>
    by_cases h : ck.1 = name
    · simp [List.filter, h, findCookie]
    · simp [List.filter, h, findCookie, ih]

theorem extract_project (c : Cfg) (r : Req) (e : Extractor) (he : e ∈ c.extractors) (hq : inQuantifier e = true) :
    extract (project c r) e = extract r e := by
  -- the name of a source of `c` is kept by the filter of every list that source reads
  cases e with
  | header n p =>
    have hk : keepHeader c n = true := List.any_eq_true.mpr ⟨_, he, by simp⟩
    simp only [extract, project, valuesOf_filter (keepHeader c) n hk]
  | query n =>
    have hk : keepQuery c n = true := List.any_eq_true.mpr ⟨_, he, by simp⟩
    simp only [extract, project, valuesOf_filter (keepQuery c) n hk]
  | form n =>
    have hk : keepQuery c n = true := List.any_eq_true.mpr ⟨_, he, by simp⟩
    have hf : keepForm c n = true := List.any_eq_true.mpr ⟨_, he, by simp⟩
    have hv : formValues (project c r) n = formValues r n := by
      simp only [formValues, project, valuesOf_filter (keepQuery c) n hk, valuesOf_filter (keepForm c) n hf]
    simp only [extract, hv]
  | param n => cases hq
  | cookie n => cases hq

theorem validate_congr (token : Str) (r r' : Req) (es : List Extractor)
    (h : ∀ e ∈ es, extract r e = extract r' e) : ∀ st, validate token r es st = validate token r' es st := by
  induction es with
  | nil => intro st; rfl
  | cons e es ih =>
    intro st
    have ih := ih fun e' h' => h e' (List.mem_cons_of_mem _ h')
    simp only [validate, h e List.mem_cons_self, ih]

/-- **ambient facts are irrelevant**: for a configuration whose sources are header / query / form
    sources, the middleware decides the request exactly as it decides its projection to the CSRF cookie
    and the configured lookup locations — whatever other headers, query parameters, body fields and
    cookies the request carries -/
theorem C12_ambient_irrelevant (c : Cfg) (hq : ∀ e ∈ c.extractors, inQuantifier e = true) (r : Req) :
    serve c (project c r) = serve c r := by
  have htok : tokenOf c (project c r) = tokenOf c r := by
    simp only [tokenOf, project]
    rw [findCookie_filter]
  have hm : (project c r).method = r.method := rfl
  unfold serve
  rw [htok, hm]
  cases tokenOf c r with
  | none => rfl
  | some token =>
    simp only
    rw [validate_congr token (project c r) r c.extractors fun e he => extract_project c r e he (hq e he)]

/-- two requests that agree on method, random source, CSRF cookie and the configured lookup locations
    are decided alike -/
theorem C12_same_projection (c : Cfg) (hq : ∀ e ∈ c.extractors, inQuantifier e = true) (r r' : Req)
    (h : project c r = project c r') : serve c r = serve c r' := by
  rw [← C12_ambient_irrelevant c hq r, ← C12_ambient_irrelevant c hq r', h]

/-! ## instance: a same-origin browser request with a wrong token (the witness of C12-r8-3 in DESIGN.md) -/

def cfgAmb : Cfg :=
  { tokenLength := 32, extractors := [.header (lit "X-Csrf-Token") [], .query (lit "csrf")], cookieName := lit "_csrf" }

/-- a POST with the CSRF cookie, a wrong token, and everything a same-origin browser request says about itself -/
def reqAmb : Req :=
  { method := lit "POST"
    cookies := [(lit "session", lit "s"), (lit "_csrf", lit "Tok")]
    headers := [(lit "Sec-Fetch-Site", lit "same-origin"), (lit "Origin", lit "http://example.com"),
      (lit "X-Requested-With", lit "XMLHttpRequest"), (lit "X-Csrf-Token", lit "tok"),
      (lit "X-Http-Method-Override", lit "GET")]
    query := [(lit "_method", lit "GET")]
    form := []
    rnd := [] }

example : ∀ e ∈ cfgAmb.extractors, inQuantifier e = true := by decide +kernel
example : (project cfgAmb reqAmb).cookies = [(lit "_csrf", lit "Tok")] ∧
    (project cfgAmb reqAmb).headers = [(lit "X-Csrf-Token", lit "tok")] ∧ (project cfgAmb reqAmb).query = [] := by
  simp only [cfgAmb, reqAmb, lit]; lit_chars; decide +kernel
example : serve cfgAmb reqAmb = .rejected 403 := by
  simp only [cfgAmb, reqAmb, lit]; lit_chars; decide +kernel
/-- without the ambient facts: the same refusal -/
example : serve cfgAmb (project cfgAmb reqAmb) = .rejected 403 := by
  simp only [cfgAmb, reqAmb, lit]; lit_chars; decide +kernel

end C12
