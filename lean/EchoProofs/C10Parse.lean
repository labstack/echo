import EchoModel.C10
import EchoProofs.C10
import EchoProofs.Lit
/-!
# C10 — `net.ParseIP` made concrete: IPv4 round trip and rejection lemmas

`EchoModel/C10Parse.lean` defines `parseIP` (transcription of `net.ParseIP` of Go 1.23).  This file
proves, for ALL bytes (no enumeration: induction over the decimal digits),

* `parseIP_v4`: the dotted decimal text of any four bytes parses to those bytes (16-byte form);
* `parseIP_ipString_v4`: `ParseIP(ip.String())` for every address with an IPv4 form;
* the rejection lemmas: a field with a leading zero, a field above 255, a zone, any byte outside
  `[0-9a-fA-F.:]` (in particular white space anywhere) make `parseIP` answer `none`.

The IPv6 round trip is in `EchoProofs/C10Parse6.lean`, the instantiation of the C10 theorems with
`parse := parseIP` in `EchoProofs/C10ParseInst.lean`.
-/
namespace C10

/-! ## decimal digits -/
theorem isDig_digitChar {d : Nat} (h : d < 10) : isDig (Nat.digitChar d) = true := by
  simp [isDig, Nat.toNat_digitChar_of_lt_ten h]; omega

theorem digVal_digitChar {d : Nat} (h : d < 10) : digVal (Nat.digitChar d) = d := by
  simp [digVal, Nat.toNat_digitChar_of_lt_ten h]

theorem v4Fields_digit (c : Char) (r : Str) (val dl : Nat) (fs : List Byte) (hc : isDig c = true) :
    v4Fields (c :: r) val dl fs =
      if dl = 1 ∧ val = 0 then none
      else if val * 10 + digVal c > 255 then none
      else v4Fields r (val * 10 + digVal c) (dl + 1) fs := by
  simp only [v4Fields, hc, ↓reduceIte]

theorem v4Fields_toDigits (n : Nat) (hn : n ≤ 255) (t : Str) (fs : List Byte) :
    v4Fields (Nat.toDigits 10 n ++ t) 0 0 fs = v4Fields t n (Nat.toDigits 10 n).length fs := by
  induction n using Nat.strongRecOn generalizing t with
  | ind n ih =>
    rw [Nat.toDigits_eq_if (by omega : 1 < 10)]
    split
    · rename_i h
      simp [v4Fields_digit _ _ _ _ _ (isDig_digitChar h), digVal_digitChar h]
      omega
    · rename_i h
      have hlt : n / 10 < n := by omega
      have hm : n % 10 < 10 := by omega
      rw [List.append_assoc, ih (n / 10) hlt (by omega)]
      simp only [List.singleton_append, List.length_append, List.length_singleton]
      rw [v4Fields_digit _ _ _ _ _ (isDig_digitChar hm), digVal_digitChar hm]
      have h1 : ¬ ((Nat.toDigits 10 (n / 10)).length = 1 ∧ n / 10 = 0) := by omega
      have h2 : ¬ (n > 255) := by omega
      have h3 : n / 10 * 10 + n % 10 = n := by omega
      simp only [h1, h3, h2, if_false]

theorem decStr_eq (n : Nat) : decStr n = Nat.toDigits 10 n := by
  simp [decStr]

/-- `isDig` is `Char.isDigit`, for which core has the fact -/
theorem isDig_of_mem_toDigits (n : Nat) : ∀ c ∈ Nat.toDigits 10 n, isDig c = true := fun c hc => by
  have := Nat.isDigit_of_mem_toDigits (by decide) (by decide) hc
  simp only [Char.isDigit, Bool.and_eq_true, decide_eq_true_eq, ge_iff_le, UInt32.le_iff_toNat_le] at this
  exact decide_eq_true this

theorem isDig_ne (c : Char) (h : isDig c = true) : c ≠ '.' ∧ c ≠ ':' ∧ c ≠ '%' := by
  refine ⟨?_, ?_, ?_⟩ <;> (intro h'; subst h'; simp [isDig] at h)

theorem v4Fields_dot (r : Str) (val dl : Nat) (fs : List Byte) (hdl : dl ≠ 0) (hr : r ≠ [])
    (hfs : fs.length ≠ 3) :
    v4Fields ('.' :: r) val dl fs = v4Fields r 0 0 (fs ++ [BitVec.ofNat 8 val]) := by
  have : isDig '.' = false := by decide
  simp [v4Fields, this, hdl, hr, hfs]

theorem v4Fields_field (b : Byte) (r : Str) (fs : List Byte) (hr : r ≠ []) (hfs : fs.length ≠ 3) :
    v4Fields (decStr b.toNat ++ '.' :: r) 0 0 fs = v4Fields r 0 0 (fs ++ [b]) := by
  rw [decStr_eq, v4Fields_toDigits _ (by omega) _ _,
    v4Fields_dot _ _ _ _ (by have := @Nat.length_toDigits_pos 10 b.toNat; omega) hr hfs]
  simp

theorem v4Fields_last (b : Byte) (fs : List Byte) (hfs : fs.length = 3) :
    v4Fields (decStr b.toNat) 0 0 fs = some (fs ++ [b]) := by
  have := v4Fields_toDigits b.toNat (by omega) [] fs
  rw [List.append_nil] at this
  rw [decStr_eq, this]
  simp [v4Fields, hfs]

/-! ## the dotted text of four bytes parses back to them -/

def dotted (a b c d : Byte) : Str :=
  joinStrs '.' [decStr a.toNat, decStr b.toNat, decStr c.toNat, decStr d.toNat]

/-- the 16-byte form `::ffff:a.b.c.d` that `net.ParseIP` returns for an IPv4 text -/
def v4 (a b c d : Byte) : IP := v4InV6Prefix ++ [a, b, c, d]

theorem dotted_eq (a b c d : Byte) :
    dotted a b c d = decStr a.toNat ++ '.' :: (decStr b.toNat ++ '.' :: (decStr c.toNat ++ '.' :: decStr d.toNat)) := by
  simp [dotted, joinStrs, joinWith]

theorem decStr_ne_nil (n : Nat) : decStr n ≠ [] := by
  rw [decStr_eq]; exact Nat.toDigits_ne_nil

theorem parseV4_dotted (a b c d : Byte) : parseV4 (dotted a b c d) = some (v4 a b c d) := by
  rw [parseV4, dotted_eq]
  rw [v4Fields_field a _ [] (by simp) (by simp), v4Fields_field b _ _ (by simp) (by simp),
    v4Fields_field c _ _ (decStr_ne_nil _) (by simp), v4Fields_last d _ (by simp)]
  simp [v4]

theorem dispatch_digits (s ds r : Str) (h : ∀ c ∈ ds, isDig c = true) :
    dispatch s (ds ++ '.' :: r) = parseV4 s := by
  induction ds with
  | nil => simp [dispatch]
  | cons c ds ih =>
    obtain ⟨h1, h2, h3⟩ := isDig_ne c (h c (by simp))
    simp only [List.cons_append, dispatch, h1, h2, h3, if_false]
    exact ih (fun c' hc' => h c' (by simp [hc']))

/-- **parseIP_v4** — the decimal dotted text of ANY four bytes parses to exactly those bytes
    (in the 16-byte IPv4-mapped form `net.ParseIP` returns). -/
theorem parseIP_v4 (a b c d : Byte) : parseIP (dotted a b c d) = some (v4 a b c d) := by
  rw [parseIP]
  conv => lhs; arg 2; rw [dotted_eq]
  rw [dispatch_digits _ _ _ (by rw [decStr_eq]; exact isDig_of_mem_toDigits _)]
  exact parseV4_dotted a b c d

/-! ## `IP.String` of an address with an IPv4 form -/

theorem to4_some_len (ip p4 : IP) (h : to4 ip = some p4) : p4.length = 4 ∧ (ip.length = 4 ∨ ip.length = 16) := by
  unfold to4 at h
  split at h
  · cases h; omega
  · split at h
    · rename_i h2; cases h; simp [h2.1]
    · cases h

theorem ipString_to4 (ip : IP) (a b c d : Byte) (h : to4 ip = some [a, b, c, d]) :
    ipString ip = dotted a b c d := by
  have hl := (to4_some_len ip _ h).2
  have h0 : ip.length ≠ 0 := by omega
  have h1 : ¬ (ip.length ≠ 4 ∧ ip.length ≠ 16) := by omega
  simp only [ipString, h0, h1, if_false, h]
  rfl

/-- **parseIP_ipString_v4** — for every address with an IPv4 form (`To4() != nil`: the 4-byte
    slices and the 16-byte IPv4-mapped ones) the text `IP.String` prints parses, and gives the
    16-byte IPv4-mapped form of the same four bytes. -/
theorem parseIP_ipString_v4 (ip p4 : IP) (h : to4 ip = some p4) :
    parseIP (ipString ip) = some (v4InV6Prefix ++ p4) := by
  obtain ⟨a, b, c, d, rfl⟩ := len4 p4 (to4_some_len ip p4 h).1
  rw [ipString_to4 ip a b c d h, parseIP_v4]; rfl

theorem parseIP_ipString_len4 (a b c d : Byte) : parseIP (ipString [a, b, c, d]) = some (v4 a b c d) :=
  parseIP_ipString_v4 _ _ (to4_len4 a b c d)

theorem parseIP_ipString_mapped (ip : IP) (h16 : ip.length = 16) (hm : ip.take 12 = v4InV6Prefix) :
    parseIP (ipString ip) = some ip := by
  rw [parseIP_ipString_v4 ip _ (to4_mapped ip h16 hm), ← hm, List.take_append_drop]

/-! ## rejection -/

/-- a text that `parseIPv4Fields` refuses at the start of a field, whatever was stored before -/
def BadField (s : Str) : Prop := ∀ fs, v4Fields s 0 0 fs = none

theorem badField_leading_zero (c : Char) (r : Str) (hc : isDig c = true) : BadField ('0' :: c :: r) := by
  intro fs
  have h0 : isDig '0' = true := by decide
  have h1 : digVal '0' = 0 := by decide
  simp [v4Fields, h0, hc, h1]

theorem badField_gt255 (n : Nat) (hn : n > 255) (t : Str) : BadField (decStr n ++ t) := by
  intro fs
  rw [decStr_eq]
  induction n using Nat.strongRecOn generalizing t with
  | ind n ih =>
    rw [Nat.toDigits_eq_if (by omega : 1 < 10)]
    have h : ¬ n < 10 := by omega
    simp only [h, if_false, List.append_assoc, List.singleton_append]
    by_cases hq : n / 10 > 255
    · exact ih (n / 10) (by omega) hq _
    · have hm : n % 10 < 10 := by omega
      rw [v4Fields_toDigits _ (by omega), v4Fields_digit _ _ _ _ _ (isDig_digitChar hm), digVal_digitChar hm]
      have h2 : n / 10 * 10 + n % 10 > 255 := by omega
      simp [h2]

theorem v4Fields_bad_after_dot (q s : Str) (hs : BadField s) (val dl : Nat) (fs : List Byte) :
    v4Fields (q ++ '.' :: s) val dl fs = none := by
  induction q generalizing val dl fs with
  | nil =>
    have : isDig '.' = false := by decide
    simp only [List.nil_append, v4Fields, this, hs (fs ++ [BitVec.ofNat 8 val])]
    simp
  | cons x q ih =>
    simp [v4Fields, ih]

theorem dispatch_no_colon (s t : Str) (h : ∀ c ∈ t, c ≠ ':') : dispatch s t = none ∨ dispatch s t = parseV4 s := by
  induction t with
  | nil => exact .inl rfl
  | cons c r ih =>
    have hc : c ≠ ':' := h c (by simp)
    simp only [dispatch, hc, if_false]
    split
    · exact .inr rfl
    · split
      · exact .inl rfl
      · exact ih (fun c' hc' => h c' (by simp [hc']))

theorem parseIP_no_colon (s : Str) (h : ∀ c ∈ s, c ≠ ':') (hv : v4Fields s 0 0 [] = none) : parseIP s = none := by
  rcases dispatch_no_colon s s h with h' | h'
  · exact h'
  · rw [parseIP, h', parseV4, hv]

/-- **parseIP_bad_field** — a dotted text in which some field (the first, or one after a dot) is
    refused by the field parser is not an address, whatever the other fields are. -/
theorem parseIP_bad_field (p s : Str) (hp : p = [] ∨ ∃ q, p = q ++ ['.']) (hs : BadField s)
    (hc : ∀ x ∈ p ++ s, x ≠ ':') : parseIP (p ++ s) = none := by
  apply parseIP_no_colon _ hc
  rcases hp with rfl | ⟨q, rfl⟩
  · exact hs []
  · rw [List.append_assoc]; exact v4Fields_bad_after_dot q s hs 0 0 []

/-- **parseIP_leading_zero** — no IPv4 field may have a leading zero (`01.2.3.4`, `1.2.3.04`, …) -/
theorem parseIP_leading_zero (p r : Str) (c : Char) (hp : p = [] ∨ ∃ q, p = q ++ ['.']) (hd : isDig c = true)
    (hc : ∀ x ∈ p ++ '0' :: c :: r, x ≠ ':') : parseIP (p ++ '0' :: c :: r) = none :=
  parseIP_bad_field p _ hp (badField_leading_zero c r hd) hc

/-- **parseIP_field_gt255** — no IPv4 field may exceed 255 (`256.1.1.1`, `1.2.3.1000`, …) -/
theorem parseIP_field_gt255 (p t : Str) (n : Nat) (hn : n > 255) (hp : p = [] ∨ ∃ q, p = q ++ ['.'])
    (hc : ∀ x ∈ p ++ (decStr n ++ t), x ≠ ':') : parseIP (p ++ (decStr n ++ t)) = none :=
  parseIP_bad_field p _ hp (badField_gt255 n hn t) hc

/-! ## accepted texts: their alphabet, and the 16 bytes that come out -/

/-- the alphabet of IP literals: hex digits (both cases), `.` and `:` -/
def okChar (c : Char) : Bool := (hexVal6 c).isSome || c == '.' || c == ':'

theorem v4Fields_some {s : Str} {val dl : Nat} {fs o : List Byte} (h : v4Fields s val dl fs = some o) :
    (∀ c ∈ s, isDig c = true ∨ c = '.') ∧ (fs.length ≤ 3 → o.length = 4) := by
  induction s generalizing val dl fs with
  | nil =>
    simp only [v4Fields, Option.ite_none_left_eq_some, Option.some.injEq] at h
    exact ⟨nofun, fun _ => by rw [← h.2, List.length_append]; simp; omega⟩
  | cons x r ih =>
    rw [v4Fields] at h
    by_cases hc : isDig x = true
    · simp only [if_pos hc, Option.ite_none_left_eq_some] at h
      have := ih h.2.2
      exact ⟨List.forall_mem_cons.mpr ⟨.inl hc, this.1⟩, this.2⟩
    · by_cases hd : x = '.'
      · simp only [if_neg hc, if_pos hd, Option.ite_none_left_eq_some] at h
        have := ih h.2.2
        exact ⟨List.forall_mem_cons.mpr ⟨.inr hd, this.1⟩, fun _ => this.2 (by simp; omega)⟩
      · simp only [if_neg hc, if_neg hd] at h; cases h

theorem okChar_of_v4 (c : Char) (h : isDig c = true ∨ c = '.') : okChar c = true := by
  rcases h with h | rfl
  · simp only [isDig, decide_eq_true_eq] at h
    simp [okChar, hexVal6, h]
  · rfl

theorem parseV4_some {s : Str} {ip : IP} (h : parseV4 s = some ip) :
    (∀ c ∈ s, okChar c = true) ∧ ip.length = 16 := by
  rw [parseV4] at h
  cases hv : v4Fields s 0 0 [] with
  | none => rw [hv] at h; cases h
  | some o =>
    rw [hv] at h; cases h
    have := v4Fields_some hv
    exact ⟨fun c hc => okChar_of_v4 c (this.1 c hc), by simp [v4InV6Prefix, this.2]⟩

theorem readHex_split (s : Str) (acc off a o : Nat) (rest : Str) (h : readHex s acc off = some (a, o, rest)) :
    ∃ ds, s = ds ++ rest ∧ ∀ c ∈ ds, (hexVal6 c).isSome = true := by
  induction s generalizing acc off with
  | nil => simp only [readHex] at h; cases h; exact ⟨[], rfl, by simp⟩
  | cons x r ih =>
    rw [readHex] at h
    split at h
    · cases h; exact ⟨[], rfl, by simp⟩
    · rename_i v hv
      split at h
      · cases h
      · obtain ⟨ds, hds, hall⟩ := ih _ _ h
        exact ⟨x :: ds, by simp [hds], List.forall_mem_cons.mpr ⟨by simp [hv], hall⟩⟩

/-- the two bytes the parser stores for a group value: `byte(acc >> 8)`, `byte(acc)` -/
def grp (g : Nat) : List Byte := [BitVec.ofNat 8 (g / 256), BitVec.ofNat 8 g]

/-- The ways one iteration of the main loop of `parseIPv6` does not fail, after its hex group
    `acc` with rest `rst`: a trailing embedded IPv4 address; or the group is stored, one or two
    colons `cs` follow (none at the end of the text), and either the text ends there or the loop
    goes on behind them. -/
theorem loop6_succ_some {f : Nat} {s : Str} {ip : List Byte} {ell : Option Nat}
    {out : Str × List Byte × Option Nat} (h : loop6 (f + 1) s ip ell = some out) :
    ∃ acc off rst, readHex s 0 0 = some (acc, off, rst) ∧
      ((∃ f4, v4Fields s 0 0 [] = some f4 ∧ ip.length + 4 ≤ 16 ∧ out = ([], ip ++ f4, ell)) ∨
       ∃ cs r ell', rst = cs ++ r ∧ (∀ c ∈ cs, c = ':') ∧
         (r = [] ∧ out = ([], ip ++ grp acc, ell') ∨ loop6 f r (ip ++ grp acc) ell' = some out)) := by
  rw [loop6] at h
  cases hr : readHex s 0 0 with
  | none => rw [hr] at h; cases h
  | some t =>
    obtain ⟨acc, off, rst⟩ := t
    refine ⟨acc, off, rst, rfl, ?_⟩
    simp only [hr, Option.ite_none_left_eq_some] at h
    obtain ⟨_, h⟩ := h
    by_cases hdot : rst.head? = some '.'
    · simp only [if_pos hdot, Option.ite_none_left_eq_some] at h
      obtain ⟨_, h16, h⟩ := h
      cases hv : v4Fields s 0 0 [] with
      | none => rw [hv] at h; cases h
      | some f4 =>
        rw [hv] at h
        exact .inl ⟨f4, rfl, by omega, (Option.some.inj h).symm⟩
    rw [if_neg hdot] at h
    right
    match rst, h with
    | [], h => exact ⟨[], [], ell, rfl, nofun, .inl ⟨rfl, (Option.some.inj h).symm⟩⟩
    | [c], h => simp only [Option.ite_none_left_eq_some] at h; exact nomatch h.2
    | c :: c2 :: r2, h =>
      simp only [Option.ite_none_left_eq_some] at h
      obtain ⟨hc, h⟩ := h
      cases Decidable.not_not.mp hc
      by_cases hc2 : c2 = ':'
      · simp only [if_pos hc2, Option.ite_none_left_eq_some] at h
        subst hc2
        refine ⟨[':', ':'], r2, some (ip ++ grp acc).length, rfl, by simp, ?_⟩
        by_cases hr2 : r2 = []
        · rw [if_pos hr2] at h; exact .inl ⟨hr2, (Option.some.inj h.2).symm⟩
        · rw [if_neg hr2] at h; exact .inr h.2
      · rw [if_neg hc2] at h
        exact ⟨[':'], c2 :: r2, ell, rfl, by simp, .inr h⟩

/-- what the loop has read consists of hex digits, dots and colons, and it never stores more
    than the 16 bytes its fuel allows -/
theorem loop6_some {f : Nat} {s : Str} {ip : List Byte} {ell : Option Nat} {rest : Str} {ip' : List Byte}
    {ell' : Option Nat} (h : loop6 f s ip ell = some (rest, ip', ell')) :
    (∃ pre, s = pre ++ rest ∧ ∀ c ∈ pre, okChar c = true) ∧
      (ip.length + 2 * f ≤ 16 → ip'.length ≤ 16) := by
  induction f generalizing s ip ell with
  | zero => simp only [loop6] at h; cases h; exact ⟨⟨[], rfl, nofun⟩, fun h => by omega⟩
  | succ f ih =>
    have hg : ∀ acc, (ip ++ grp acc).length = ip.length + 2 := fun _ => List.length_append
    obtain ⟨acc, off, rst, hr, hcases⟩ := loop6_succ_some h
    obtain ⟨ds, hds, hall⟩ := readHex_split s 0 0 acc off rst hr
    rcases hcases with ⟨f4, hv, h16, ho⟩ | ⟨cs, r, _, hrst, hcs, hfin⟩
    · cases ho
      have := v4Fields_some hv
      exact ⟨⟨s, by simp, fun c hc => okChar_of_v4 c (this.1 c hc)⟩,
        fun _ => by rw [List.length_append, this.2 (by simp)]; exact h16⟩
    · have hpre : ∀ c ∈ ds ++ cs, okChar c = true :=
        List.forall_mem_append.mpr ⟨fun c hc => by simp [okChar, hall c hc], fun c hc => hcs c hc ▸ rfl⟩
      have hs : s = ds ++ cs ++ r := by rw [hds, hrst, List.append_assoc]
      rcases hfin with ⟨hr, ho⟩ | h'
      · cases ho; exact ⟨⟨ds ++ cs, hr ▸ hs, hpre⟩, fun _ => by rw [hg]; omega⟩
      · obtain ⟨⟨pre, hpre', hok⟩, hlen⟩ := ih h'
        exact ⟨⟨ds ++ cs ++ pre, by rw [hs, hpre', ← List.append_assoc],
          List.forall_mem_append.mpr ⟨hpre, hok⟩⟩, fun _ => hlen (by rw [hg]; omega)⟩

theorem expand6_some {x : Option (Str × List Byte × Option Nat)} {ip : IP} (h : expand6 x = some ip) :
    ∃ ip' ell, x = some ([], ip', ell) ∧ (ip'.length ≤ 16 → ip.length = 16) := by
  match x, h with
  | some (s, ip', ell), h =>
    simp only [expand6, Option.ite_none_left_eq_some, Decidable.not_not] at h
    obtain ⟨rfl, h⟩ := h
    refine ⟨ip', ell, rfl, fun hle => ?_⟩
    split at h
    · match ell, h with
      | some e, h =>
        cases h
        simp only [List.length_append, List.length_take, List.length_replicate, List.length_drop]
        omega
    · simp only [Option.ite_none_left_eq_some] at h
      cases h.2; omega

/-- what `parseIPv6` (with the zone test) accepts: `::` alone, or a text, possibly after a leading
    `::`, that the loop reads to its end -/
theorem parseV6_cases {s : Str} {ip : IP} (h : parseV6 s = some ip) :
    (s = [':', ':'] ∧ ip = List.replicate 16 0) ∨
      ∃ cs r ell, s = cs ++ r ∧ (∀ c ∈ cs, c = ':') ∧ expand6 (loop6 8 r [] ell) = some ip := by
  unfold parseV6 at h
  simp only [Option.ite_none_left_eq_some] at h
  obtain ⟨_, h⟩ := h
  split at h
  · split at h
    · rename_i r _ hcc
      obtain ⟨rfl, rfl⟩ := hcc
      split at h
      · rename_i hr; subst hr; cases h; exact .inl ⟨rfl, rfl⟩
      · exact .inr ⟨[':', ':'], r, _, rfl, by simp, h⟩
    · exact .inr ⟨[], _, _, rfl, nofun, h⟩
  · exact .inr ⟨[], _, _, rfl, nofun, h⟩

theorem parseV6_some {s : Str} {ip : IP} (h : parseV6 s = some ip) :
    (∀ c ∈ s, okChar c = true) ∧ ip.length = 16 := by
  rcases parseV6_cases h with ⟨rfl, rfl⟩ | ⟨cs, r, ell, rfl, hcs, h⟩
  · exact ⟨by decide, by simp⟩
  · obtain ⟨_, _, hl, hlen⟩ := expand6_some h
    obtain ⟨⟨pre, hpre, hok⟩, hle⟩ := loop6_some hl
    rw [List.append_nil] at hpre
    exact ⟨List.forall_mem_append.mpr ⟨fun c hc => hcs c hc ▸ rfl, hpre ▸ hok⟩, hlen (hle (by simp))⟩

theorem dispatch_some (s t : Str) (ip : IP) (h : dispatch s t = some ip) :
    parseV4 s = some ip ∨ parseV6 s = some ip := by
  induction t with
  | nil => cases h
  | cons c r ih =>
    rw [dispatch] at h
    split at h
    · exact .inl h
    · split at h
      · exact .inr h
      · split at h
        · cases h
        · exact ih h

theorem parseIP_some {s : Str} {ip : IP} (h : parseIP s = some ip) :
    (∀ c ∈ s, okChar c = true) ∧ ip.length = 16 := by
  rcases dispatch_some s s ip h with h | h
  · exact parseV4_some h
  · exact parseV6_some h

/-- **parseIP_chars** — an accepted text consists of hex digits, dots and colons only: no white
    space (leading, trailing or inside), no brackets, no port, no zone, no sign, no byte ≥ 0x80
    (so no non-ASCII digit). -/
theorem parseIP_chars (s : Str) (ip : IP) (h : parseIP s = some ip) : ∀ c ∈ s, okChar c = true :=
  (parseIP_some h).1

/-- **parseIP_length** — like `net.ParseIP`, `parseIP` answers nil or a 16-byte slice -/
theorem parseIP_length (s : Str) (ip : IP) (h : parseIP s = some ip) : ip.length = 16 :=
  (parseIP_some h).2

/-- **parseIP_bad_char** — contrapositive: one byte outside `[0-9a-fA-F.:]` anywhere ⇒ `none` -/
theorem parseIP_bad_char (s : Str) (c : Char) (hc : c ∈ s) (hbad : okChar c = false) : parseIP s = none := by
  cases h : parseIP s with
  | none => rfl
  | some ip => have := parseIP_chars s ip h c hc; rw [hbad] at this; cases this

/-- **parseIP_zone** — `net.ParseIP` accepts no zone: any text containing `%` is refused
    (`fe80::1%eth0`, `1.2.3.4%eth0`, `%eth0`, …). -/
theorem parseIP_zone (s : Str) (h : '%' ∈ s) : parseIP s = none := parseIP_bad_char s '%' h (by decide)

/-! ## no white space around an accepted text -/

theorem okChar_not_space (c : Char) (h : isAsciiSpace c = true) : okChar c = false := by
  simp only [isAsciiSpace, Bool.or_eq_true, beq_iff_eq] at h
  rcases h with ((((h | h) | h) | h) | h) | h <;> (subst h; decide)

theorem okChar_lt128 (c : Char) (h : okChar c = true) : c.toNat < 128 := by
  simp only [okChar, Bool.or_eq_true, beq_iff_eq] at h
  rcases h with (h | h) | h
  · unfold hexVal6 at h
    split at h
    · omega
    · split at h
      · omega
      · split at h
        · omega
        · cases h
  · subst h; decide
  · subst h; decide

/-- every pattern starts with a byte ≥ 0x80 -/
def highPats (pats : List Str) : Bool :=
  pats.all fun p => match p with | x :: _ => decide (128 ≤ x.toNat) | [] => false

theorem stripOnePrefix_low (pats : List Str) (hp : highPats pats = true) (c : Char) (r : Str) (hc : c.toNat < 128) :
    stripOnePrefix pats (c :: r) = none := by
  induction pats with
  | nil => rfl
  | cons p ps ih =>
    simp only [highPats, List.all_cons, Bool.and_eq_true] at hp
    cases p with
    | nil => simp at hp
    | cons x xs =>
      have hx : 128 ≤ x.toNat := by simpa using hp.1
      have hne : (x == c) = false := by
        rw [beq_eq_false_iff_ne]; intro h; subst h; omega
      simp only [stripOnePrefix, List.findSome?_cons, List.isPrefixOf, hne, Bool.false_and]
      exact ih hp.2

theorem trimLeftFuel_ok (pats : List Str) (hp : highPats pats = true) (n : Nat) (s : Str)
    (h : ∀ c, s.head? = some c → okChar c = true) : trimLeftFuel pats n s = s := by
  cases n with
  | zero => rfl
  | succ n =>
    cases s with
    | nil => rfl
    | cons c r =>
      have hok := h c rfl
      have h1 : isAsciiSpace c = false := by
        cases hs : isAsciiSpace c with
        | false => rfl
        | true => rw [okChar_not_space c hs] at hok; cases hok
      simp [trimLeftFuel, h1, stripOnePrefix_low pats hp c r (okChar_lt128 c hok)]

theorem trimSpace_ok (s : Str) (h : ∀ c ∈ s, okChar c = true) : trimSpace s = s := by
  have h1 : highPats uniSpaces = true := by decide
  have h2 : highPats (uniSpaces.map List.reverse) = true := by decide
  simp only [trimSpace]
  rw [trimLeftFuel_ok _ h1 _ s (fun c hc => h c (List.mem_of_mem_head? hc))]
  rw [trimLeftFuel_ok _ h2 _ s.reverse (fun c hc => h c (by simpa using List.mem_of_mem_head? hc))]
  exact List.reverse_reverse s

/-- **parseIP_no_space** — an accepted text is invariant under `strings.TrimSpace` -/
theorem parseIP_no_space (s : Str) (h : (parseIP s).isSome = true) : trimSpace s = s := by
  cases hp : parseIP s with
  | none => rw [hp] at h; cases h
  | some ip => exact trimSpace_ok s (parseIP_chars s ip hp)

/-- ASCII white space is outside the alphabet, and so is every byte ≥ 0x80 (the Unicode spaces
    consist of such bytes) -/
theorem okChar_space (c : Char) (h : isAsciiSpace c = true ∨ 128 ≤ c.toNat) : okChar c = false := by
  rcases h with h | h
  · exact okChar_not_space c h
  · cases hk : okChar c with
    | false => rfl
    | true => have := okChar_lt128 c hk; omega

theorem parseIP_space_left (c : Char) (s : Str) (h : isAsciiSpace c = true ∨ 128 ≤ c.toNat) : parseIP (c :: s) = none :=
  parseIP_bad_char _ c (by simp) (okChar_space c h)

theorem parseIP_space_right (c : Char) (s : Str) (h : isAsciiSpace c = true ∨ 128 ≤ c.toNat) : parseIP (s ++ [c]) = none :=
  parseIP_bad_char _ c (by simp) (okChar_space c h)

/-! ## non-vacuity -/

example : dotted 192 168 1 1 = "192.168.1.1".toList ∧ dotted 0 0 0 0 = "0.0.0.0".toList ∧
    dotted 255 255 255 255 = "255.255.255.255".toList := by lit_chars; decide +kernel
example : parseIP "192.168.1.1".toList = some (v4 192 168 1 1) ∧ parseIP "0.0.0.0".toList = some (v4 0 0 0 0) ∧
    parseIP "255.255.255.255".toList = some (v4 255 255 255 255) := by lit_chars; decide +kernel
example : ipString [10, 0, 0, 1] = "10.0.0.1".toList ∧ ipString (v4 10 0 0 1) = "10.0.0.1".toList ∧
    parseIP (ipString [10, 0, 0, 1]) = some (v4 10 0 0 1) := by lit_chars; decide +kernel
-- the rejection lemmas speak about real inputs
example : parseIP "01.2.3.4".toList = none ∧ parseIP "1.2.3.04".toList = none ∧ parseIP "1.2.3.256".toList = none ∧
    parseIP "1.2.3.1000".toList = none ∧ parseIP "1.2.3".toList = none ∧ parseIP "1.2.3.4.5".toList = none ∧
    parseIP "1.2.3.4.".toList = none ∧ parseIP "+1.2.3.4".toList = none ∧ parseIP "0x1.2.3.4".toList = none ∧
    parseIP "1.2.3.4%eth0".toList = none ∧ parseIP " 1.2.3.4".toList = none ∧ parseIP "1.2.3.4 ".toList = none ∧
    parseIP "1.2.3.4:80".toList = none ∧ parseIP "".toList = none := by lit_chars; decide +kernel
example : BadField "04".toList ∧ BadField ("256".toList ++ ".1".toList) :=
  ⟨badField_leading_zero '4' [] (by decide), badField_gt255 256 (by omega) _⟩
example : okChar ' ' = false ∧ okChar '\t' = false ∧ okChar '%' = false ∧ okChar '[' = false ∧ okChar 'g' = false ∧
    okChar (Char.ofNat 0xa0) = false ∧ okChar 'F' = true ∧ okChar 'f' = true ∧ okChar '9' = true := by decide +kernel

end C10
