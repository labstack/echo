import EchoModel.C16
/-!
# C16 — paths: `splitOn`, `path.Clean`, `path.Join`, `path.Base`, the IgnoreBase rewrite

A clean path is `render rooted S` for a list `S` of real elements (`Normal`); `clean_render` puts every `Clean(p)`
into that form and the `_render` lemmas read its parts off.  On top of that: `Clean("/"+p)` has no `..`
(`clean_rooted_no_dotdot`), and the names the Static middleware computes stay `Under` its root (`name0_under`,
`join2_under`, `ignoreBase_under`).
-/
namespace C16

/-- a real path element: not empty, not `.`, not `..`, no separator inside -/
def Normal (s : Str) : Prop := s ≠ [] ∧ s ≠ dot ∧ s ≠ dotdot ∧ '/' ∉ s

/-! ## splitOn / joinSep

The model's `splitOn` and `joinSep` are core's `List.splitOn` and `List.intercalate`; what core proves about those
carries over. -/

theorem splitOn_eq (sep : Char) (s : Str) : splitOn sep s = s.splitOn sep := by
  induction s with
  | nil => rfl
  | cons c r ih =>
    rw [splitOn, ih, List.splitOn_cons_eq_if_modifyHead]
    cases h : r.splitOn sep with
    | nil => exact absurd h (List.splitOn_ne_nil sep r)
    | cons hd tl => rfl

theorem joinSep_eq (sep : Char) (l : List Str) : joinSep sep l = [sep].intercalate l := by
  induction l with
  | nil => rfl
  | cons x r ih =>
    cases r with
    | nil => simp [joinSep]
    | cons y r' => simp [joinSep, ih, List.intercalate_cons_cons]

theorem splitOn_ne_nil (sep : Char) (s : Str) : splitOn sep s ≠ [] :=
  splitOn_eq sep s ▸ List.splitOn_ne_nil sep s

theorem splitOn_append (sep : Char) (a b : Str) :
    splitOn sep (a ++ sep :: b) = splitOn sep a ++ splitOn sep b := by
  simp only [splitOn_eq, List.splitOn_append_cons_self]

theorem splitOn_nosep (sep : Char) (s : Str) (h : sep ∉ s) : splitOn sep s = [s] :=
  splitOn_eq sep s ▸ List.splitOn_eq_singleton h

theorem splitOn_joinSep (sep : Char) (l : List Str) (hne : l ≠ []) (h : ∀ x ∈ l, sep ∉ x) :
    splitOn sep (joinSep sep l) = l := by
  rw [splitOn_eq, joinSep_eq, List.splitOn_intercalate sep h hne]

theorem splitOn_cons_sep (sep : Char) (r : Str) : splitOn sep (sep :: r) = [] :: splitOn sep r := by
  simp [splitOn]

theorem splitOn_cons_ne (sep c : Char) (r : Str) (h : c ≠ sep) :
    ∃ hd tl, splitOn sep r = hd :: tl ∧ splitOn sep (c :: r) = (c :: hd) :: tl := by
  obtain ⟨hd, tl, hs⟩ := List.exists_cons_of_ne_nil (splitOn_ne_nil sep r)
  exact ⟨hd, tl, hs, by simp [splitOn, h, hs]⟩

theorem splitOn_no_sep (sep : Char) (s : Str) : ∀ x ∈ splitOn sep s, sep ∉ x := by
  induction s with
  | nil => simp [splitOn]
  | cons c r ih =>
    by_cases h : c = sep
    · subst h
      rw [splitOn_cons_sep]
      exact List.forall_mem_cons.mpr ⟨List.not_mem_nil, ih⟩
    · obtain ⟨hd, tl, h1, h2⟩ := splitOn_cons_ne sep c r h
      rw [h1] at ih
      rw [h2]
      obtain ⟨ihd, itl⟩ := List.forall_mem_cons.mp ih
      exact List.forall_mem_cons.mpr ⟨by simp [Ne.symm h, ihd], itl⟩

/-! ## cleanStep

`Clean` walks the elements of a path with a stack.  `cleanStep_empty`, `cleanStep_dot`, `cleanStep_dotdot_nil`,
`cleanStep_dotdot_cons`, `cleanStep_real` are all a proof needs to know about one step. -/

theorem cleanStep_empty (r : Bool) (st : List Str) : cleanStep r st [] = st := by simp [cleanStep]

theorem cleanStep_dot (r : Bool) (st : List Str) : cleanStep r st dot = st := by simp [cleanStep]

theorem cleanStep_dotdot_nil (r : Bool) : cleanStep r [] dotdot = if r then [] else [dotdot] := by
  simp [cleanStep, dotdot, dot]

theorem cleanStep_dotdot_cons (r : Bool) (top : Str) (rest : List Str) :
    cleanStep r (top :: rest) dotdot = if top = dotdot then dotdot :: top :: rest else rest := by
  simp [cleanStep, dotdot, dot]

theorem cleanStep_real (r : Bool) (st : List Str) {x : Str} (h1 : x ≠ []) (h2 : x ≠ dot) (h3 : x ≠ dotdot) :
    cleanStep r st x = x :: st := by
  simp [cleanStep, h1, h2, h3]

theorem cleanStep_normal (r : Bool) (st : List Str) (s : Str) (h : Normal s) : cleanStep r st s = s :: st :=
  cleanStep_real r st h.1 h.2.1 h.2.2.1

theorem foldl_skip (r : Bool) (st : List Str) : [([] : Str)].foldl (cleanStep r) st = st := by
  simp [cleanStep_empty]

theorem foldl_normal (r : Bool) (L : List Str) (h : ∀ s ∈ L, Normal s) :
    ∀ st, L.foldl (cleanStep r) st = L.reverse ++ st := by
  induction L with
  | nil => intro st; rfl
  | cons x xs ih =>
    intro st
    simp only [List.foldl_cons, cleanStep_normal r st x (h x (by simp))]
    rw [ih (fun s hs => h s (by simp [hs]))]
    simp

theorem cleanSegs_normal (r : Bool) (S : List Str) (h : ∀ s ∈ S, Normal s) : cleanSegs r S = S := by
  simp [cleanSegs, foldl_normal r S h]

theorem foldl_segsOf (r : Bool) (p : Str) (st : List Str) :
    (splitOn '/' p).foldl (cleanStep r) st = (segsOf p).foldl (cleanStep r) st := by
  rw [segsOf, List.foldl_filter]
  congr
  funext st x
  by_cases hx : x = [] <;> simp [hx, cleanStep_empty]

/-- What `Clean` keeps on its stack: elements of the input other than the empty one, `.` and `..`; and, in
    a relative path only, `..` itself.  Every property of the cleaned elements comes from here. -/
theorem cleanStep_forall {P : Str → Prop} {r : Bool} (hdd : r = false → P dotdot) {st : List Str} {x : Str}
    (hx : x ≠ [] → x ≠ dot → x ≠ dotdot → P x) (hst : ∀ s ∈ st, P s) : ∀ s ∈ cleanStep r st x, P s := by
  by_cases h1 : x = []
  · rw [h1, cleanStep_empty]; exact hst
  by_cases h2 : x = dot
  · rw [h2, cleanStep_dot]; exact hst
  by_cases h3 : x = dotdot
  · subst h3
    cases st with
    | nil =>
      rw [cleanStep_dotdot_nil]
      cases r with
      | true => simp
      | false => simpa using hdd rfl
    | cons top rest =>
      rw [cleanStep_dotdot_cons]
      split
      · rename_i ht
        exact List.forall_mem_cons.mpr ⟨ht ▸ hst top List.mem_cons_self, hst⟩
      · exact fun s hs => hst s (List.mem_cons_of_mem _ hs)
  · rw [cleanStep_real r st h1 h2 h3]
    exact List.forall_mem_cons.mpr ⟨hx h1 h2 h3, hst⟩

theorem foldl_cleanStep_forall {P : Str → Prop} {r : Bool} (hdd : r = false → P dotdot) (segs : List Str)
    (hx : ∀ x ∈ segs, x ≠ [] → x ≠ dot → x ≠ dotdot → P x) :
    ∀ st, (∀ s ∈ st, P s) → ∀ s ∈ segs.foldl (cleanStep r) st, P s := by
  induction segs with
  | nil => exact fun st h => h
  | cons x xs ih =>
    intro st hst
    exact ih (fun y hy => hx y (List.mem_cons_of_mem _ hy)) _
      (cleanStep_forall hdd (hx x List.mem_cons_self) hst)

theorem cleanSegs_ne_nil (r : Bool) (segs : List Str) : ∀ s ∈ cleanSegs r segs, s ≠ [] := fun s h =>
  foldl_cleanStep_forall (P := (· ≠ [])) (fun _ => by decide) segs (fun _ _ h _ _ => h) [] (by simp) s
    (List.mem_reverse.mp h)

theorem cleanSegs_rooted_normal (segs : List Str) (hs : ∀ s ∈ segs, '/' ∉ s) :
    ∀ s ∈ cleanSegs true segs, Normal s := fun s h =>
  foldl_cleanStep_forall (P := Normal) (r := true) (fun e => nomatch e) segs (fun x hx h1 h2 h3 => ⟨h1, h2, h3, hs x hx⟩)
    [] (by simp) s (List.mem_reverse.mp h)

/-- the stack of relative cleaning is the stack of rooted cleaning (which holds no `..`) on top of some `..` -/
def RelOverRooted (a b : List Str) : Prop := (∀ s ∈ b, s ≠ dotdot) ∧ ∃ k, a = b ++ List.replicate k dotdot

theorem cleanStep_relOverRooted (x : Str) {a b : List Str} (h : RelOverRooted a b) :
    RelOverRooted (cleanStep false a x) (cleanStep true b x) := by
  obtain ⟨hb, k, rfl⟩ := h
  refine ⟨cleanStep_forall (r := true) nofun (fun _ _ h => h) hb, ?_⟩
  by_cases h1 : x = []
  · rw [h1, cleanStep_empty, cleanStep_empty]; exact ⟨k, rfl⟩
  by_cases h2 : x = dot
  · rw [h2, cleanStep_dot, cleanStep_dot]; exact ⟨k, rfl⟩
  by_cases h3 : x = dotdot
  · subst h3
    cases b with
    | nil =>
      -- at the root `..` is dropped; the relative stack gains one
      refine ⟨k + 1, ?_⟩
      cases k with
      | zero => simp [cleanStep_dotdot_nil]
      | succ k' => simp [List.replicate_succ, cleanStep_dotdot_nil, cleanStep_dotdot_cons]
    | cons top rest =>
      have htop : top ≠ dotdot := hb top List.mem_cons_self
      rw [List.cons_append, cleanStep_dotdot_cons, cleanStep_dotdot_cons, if_neg htop, if_neg htop]
      exact ⟨k, rfl⟩
  · rw [cleanStep_real _ _ h1 h2 h3, cleanStep_real _ _ h1 h2 h3]; exact ⟨k, rfl⟩

theorem cleanSegs_rel_eq_rooted (segs : List Str) (h : ∀ s ∈ cleanSegs false segs, Normal s) :
    cleanSegs true segs = cleanSegs false segs := by
  obtain ⟨_, k, hk⟩ : RelOverRooted (segs.foldl (cleanStep false) []) (segs.foldl (cleanStep true) []) :=
    List.foldl_rel ⟨nofun, 0, rfl⟩ fun x _ _ _ => cleanStep_relOverRooted x
  cases k with
  | zero => simp only [cleanSegs]; rw [hk]; simp
  | succ k'' =>
    have : dotdot ∈ cleanSegs false segs := by simp [cleanSegs, hk, List.replicate_succ]
    exact absurd rfl (h _ this).2.2.1

/-- the text of the clean path with elements `S`; the relative path without elements is `.` -/
def render (rooted : Bool) (S : List Str) : Str :=
  if rooted then '/' :: joinSep '/' S else if S = [] then dot else joinSep '/' S

/-- the elements of `Clean(p)` -/
def cleanSegsOf (p : Str) : List Str := cleanSegs (isRooted p) (splitOn '/' p)

theorem joinSep_eq_nil (l : List Str) (h : ∀ s ∈ l, s ≠ []) : joinSep '/' l = [] ↔ l = [] := by
  cases l with
  | nil => simp [joinSep]
  | cons x r =>
    cases r with
    | nil => simp [joinSep, h x (by simp)]
    | cons y r' => simp [joinSep]

theorem clean_render (p : Str) (hp : p ≠ []) : clean p = render (isRooted p) (cleanSegsOf p) := by
  have hj := joinSep_eq_nil _ (cleanSegs_ne_nil (isRooted p) (splitOn '/' p))
  simp only [clean, hp, if_false, render]
  split
  · rfl
  · by_cases hc : cleanSegsOf p = []
    · rw [if_pos hc, if_pos (hj.mpr hc)]
    · rw [if_neg hc, if_neg (mt hj.mp hc)]; rfl

theorem isRooted_cons (c : Char) (r : Str) : isRooted (c :: r) = (c == '/') := by
  simp [isRooted]

theorem isRooted_append (a b : Str) (ha : a ≠ []) : isRooted (a ++ b) = isRooted a := by
  cases a with
  | nil => exact absurd rfl ha
  | cons c r => simp [isRooted]

theorem isRooted_nil : isRooted [] = false := rfl
theorem cleanSegsOf_nil : cleanSegsOf [] = [] := by decide
theorem isRooted_slash : isRooted ['/'] = true := by decide
theorem cleanSegsOf_slash : cleanSegsOf ['/'] = [] := by decide
theorem isRooted_dot : isRooted dot = false := rfl
theorem cleanSegsOf_dot : cleanSegsOf dot = [] := by decide

theorem isRooted_of_normal {p : Str} (h : ∀ s ∈ splitOn '/' p, Normal s) : isRooted p = false := by
  cases p with
  | nil => rfl
  | cons c r =>
    rw [isRooted_cons, beq_eq_false_iff_ne]
    rintro rfl
    exact (h [] (by simp [splitOn_cons_sep])).1 rfl

theorem splitOn_joinSep_normal {F : List Str} (hF : ∀ s ∈ F, Normal s) (hne : F ≠ []) :
    splitOn '/' (joinSep '/' F) = F :=
  splitOn_joinSep '/' F hne fun x hx => (hF x hx).2.2.2

theorem clean_rooted_render (p : Str) : clean ('/' :: p) = render true (cleanSegsOf ('/' :: p)) :=
  clean_render _ (List.cons_ne_nil _ _)

theorem cleanSegsOf_rooted (p : Str) : cleanSegsOf ('/' :: p) = cleanSegs true (splitOn '/' p) := by
  simp [cleanSegsOf, isRooted, splitOn_cons_sep, cleanSegs, cleanStep_empty]

theorem cleanSegsOf_rooted_normal (p : Str) : ∀ s ∈ cleanSegsOf ('/' :: p), Normal s :=
  cleanSegs_rooted_normal _ (splitOn_no_sep '/' _)

theorem splitOn_render (r : Bool) (S : List Str) (h : ∀ s ∈ S, Normal s) :
    splitOn '/' (render r S) = (if r then [[]] else []) ++ if S = [] then [if r then [] else dot] else S := by
  by_cases hS : S = []
  · subst hS; cases r <;> rfl
  · cases r <;> simp [render, hS, splitOn_cons_sep, splitOn_joinSep_normal h hS]

theorem isRooted_render (r : Bool) (S : List Str) (h : ∀ s ∈ S, Normal s) :
    isRooted (render r S) = r := by
  cases r with
  | true => rfl
  | false =>
    cases S with
    | nil => rfl
    | cons x rest =>
      -- the text starts with the first byte of the first element, which is no slash
      obtain ⟨c, cs, rfl⟩ := List.exists_cons_of_ne_nil (h x (by simp)).1
      have : c ≠ '/' := fun e => (h _ List.mem_cons_self).2.2.2 (by simp [e])
      cases rest <;> simp [render, joinSep, isRooted, this]

theorem render_ne_nil (r : Bool) (S : List Str) (h : ∀ s ∈ S, Normal s) : render r S ≠ [] := by
  by_cases hS : S = []
  · subst hS; cases r <;> decide
  · cases r <;> simp [render, hS, joinSep_eq_nil S fun s hs => (h s hs).1]

theorem cleanSegsOf_render (r : Bool) (S : List Str) (h : ∀ s ∈ S, Normal s) :
    cleanSegsOf (render r S) = S := by
  rw [cleanSegsOf, isRooted_render r S h, splitOn_render r S h, cleanSegs, List.foldl_append]
  by_cases hS : S = []
  · subst hS; cases r <;> simp [cleanStep_empty, cleanStep_dot]
  · cases r <;> simp [hS, cleanStep_empty, foldl_normal _ S h]

theorem segsOf_render (r : Bool) (S : List Str) (h : ∀ s ∈ S, Normal s) (hr : S ≠ [] ∨ r = true) :
    segsOf (render r S) = S := by
  rw [segsOf, splitOn_render r S h, List.filter_append]
  by_cases hS : S = []
  · obtain rfl : r = true := hr.resolve_left (fun h => h hS)
    subst hS; rfl
  · have hf : S.filter (· ≠ []) = S := List.filter_eq_self.mpr fun s hs => by simp [(h s hs).1]
    rw [if_neg hS, hf]
    cases r <;> rfl

theorem clean_render_self (r : Bool) (S : List Str) (h : ∀ s ∈ S, Normal s) :
    clean (render r S) = render r S := by
  rw [clean_render _ (render_ne_nil r S h), isRooted_render r S h, cleanSegsOf_render r S h]

theorem segsOf_clean_rooted (p : Str) : segsOf (clean ('/' :: p)) = cleanSegs true (splitOn '/' p) := by
  rw [clean_rooted_render, segsOf_render true _ (cleanSegsOf_rooted_normal p) (.inr rfl), cleanSegsOf_rooted]

/-- for EVERY string `p`: `Clean("/"+p)` starts with `/`, is `/`
    followed by real path elements joined by `/`; in particular it has no `..` element. -/
theorem clean_rooted_no_dotdot (p : Str) :
    (clean ('/' :: p)).head? = some '/' ∧
    dotdot ∉ splitOn '/' (clean ('/' :: p)) ∧
    (∀ s ∈ segsOf (clean ('/' :: p)), Normal s) ∧
    ∃ L, (∀ s ∈ L, Normal s) ∧ clean ('/' :: p) = '/' :: joinSep '/' L := by
  have hL := cleanSegsOf_rooted_normal p
  rw [clean_rooted_render]
  generalize cleanSegsOf ('/' :: p) = L at hL
  refine ⟨rfl, ?_, ?_, L, hL, rfl⟩
  · rw [splitOn_render true L hL]
    intro hm
    rcases List.mem_append.mp hm with hm | hm
    · simp [dotdot] at hm
    · split at hm
      · simp [dotdot] at hm
      · exact (hL _ hm).2.2.1 rfl
  · rw [segsOf_render true L hL (.inr rfl)]; exact hL

theorem join2_render (a b : Str) (ha : a ≠ []) (hB : ∀ s ∈ segsOf b, Normal s) :
    join2 a b = render (isRooted a) (cleanSegsOf a ++ segsOf b) := by
  simp only [join2, ha, false_and, if_false]
  rw [clean_render _ (by simp), isRooted_append a _ ha]
  congr 1
  simp only [cleanSegsOf, isRooted_append a _ ha, cleanSegs, splitOn_append, List.foldl_append]
  rw [foldl_segsOf, foldl_normal (isRooted a) (segsOf b) hB]; simp

theorem join2_nil_render (b : Str) (hb : ∀ s ∈ splitOn '/' b, Normal s) :
    join2 [] b = render false (splitOn '/' b) := by
  have hne : b ≠ [] := by rintro rfl; exact absurd rfl (hb [] (by simp [splitOn])).1
  simp only [join2, true_and, hne, if_false, if_true]
  rw [clean_render b hne, cleanSegsOf, isRooted_of_normal hb, cleanSegs_normal false _ hb]

/-- `n` lies lexically in the directory `root`: after `Clean`, `n` is `Clean(root)` followed by
    real path elements (no `..`), and it is absolute iff `root` is -/
def Under (root n : Str) : Prop :=
  isRooted n = isRooted root ∧
    ∃ L, (∀ s ∈ L, Normal s) ∧ cleanSegsOf n = cleanSegsOf root ++ L

/-- configuration sanity: `Root` is not empty and does not climb (`Clean(Root)` has no `..`) -/
def RootOK (root : Str) : Prop := root ≠ [] ∧ ∀ s ∈ cleanSegsOf root, Normal s

theorem under_self (root : Str) : Under root root :=
  ⟨rfl, [], by simp, by simp⟩

theorem under_nil (root : Str) (hrel : isRooted root = false) (hR : cleanSegsOf root = []) :
    Under root [] :=
  ⟨hrel.symm, [], by simp, by rw [cleanSegsOf_nil, hR]; rfl⟩

theorem under_render (root : Str) (h : RootOK root) (L : List Str) (hL : ∀ s ∈ L, Normal s) :
    Under root (render (isRooted root) (cleanSegsOf root ++ L)) :=
  have hall := List.forall_mem_append.mpr ⟨h.2, hL⟩
  ⟨isRooted_render _ _ hall, L, hL, cleanSegsOf_render _ _ hall⟩

/-- the name the middleware computes before the IgnoreBase rewrite: `path.Join(Root, path.Clean("/"+p))` -/
theorem name0_under (root p : Str) (h : RootOK root) :
    Under root (join2 root (clean ('/' :: p))) := by
  have hq := (clean_rooted_no_dotdot p).2.2.1
  rw [join2_render root _ h.1 hq]
  exact under_render root h _ hq

theorem join2_under (root a idx : Str) (h : RootOK root) (ha : Under root a)
    (hidx : ∀ s ∈ splitOn '/' idx, Normal s) : Under root (join2 a idx) := by
  obtain ⟨hr, L, hL, hc⟩ := ha
  have hI : segsOf idx = splitOn '/' idx := List.filter_eq_self.mpr fun s hs => by simp [(hidx s hs).1]
  have key : join2 a idx = render (isRooted root) (cleanSegsOf root ++ (L ++ splitOn '/' idx)) := by
    by_cases hae : a = []
    · -- `a` can be empty only under a relative root without elements
      subst hae
      obtain ⟨h1, h2⟩ := List.append_eq_nil_iff.mp (cleanSegsOf_nil ▸ hc).symm
      rw [join2_nil_render idx hidx, ← hr, h1, h2]; rfl
    · rw [join2_render a idx hae (hI ▸ hidx), hc, hI, hr, List.append_assoc]
  rw [key]
  exact under_render root h _ (List.forall_mem_append.mpr ⟨hL, hidx⟩)

theorem hasSuffix_append (x s : Str) : hasSuffix (x ++ s) s = true := by
  simp [hasSuffix, List.reverse_append]

theorem trimSuffix_append (x s : Str) : trimSuffix (x ++ s) s = x := by
  simp [trimSuffix, hasSuffix_append]

theorem joinSep_append (A B : List Str) (hA : A ≠ []) (hB : B ≠ []) :
    joinSep '/' (A ++ B) = joinSep '/' A ++ '/' :: joinSep '/' B := by
  induction A with
  | nil => exact absurd rfl hA
  | cons a r ih =>
    cases r with
    | nil =>
      cases B with
      | nil => exact absurd rfl hB
      | cons b rb => simp [joinSep]
    | cons a2 r2 =>
      have := ih (by simp)
      simp only [List.cons_append] at this ⊢
      simp [joinSep, this]

theorem base_render (r : Bool) (S : List Str) (h : ∀ s ∈ S, Normal s) :
    base (render r S) = match S.getLast? with
      | some s => s
      | none => if r then ['/'] else dot := by
  by_cases hS : S = []
  · subst hS; cases r <;> rfl
  · simp only [base, render_ne_nil r S h, if_false, segsOf_render r S h (.inl hS)]
    cases hl : S.getLast? with
    | none => exact absurd (List.getLast?_eq_none_iff.mp hl) hS
    | some s => rfl

theorem clean_rooted_last (p rp : Str) (hrp : Normal rp) (hb : base p = rp) :
    ∃ L', segsOf (clean ('/' :: p)) = L' ++ [rp] := by
  have hp : p ≠ [] := by rintro rfl; exact hrp.2.1 hb.symm
  simp only [base, hp, if_false] at hb
  cases hl : (segsOf p).getLast? with
  | none =>
    rw [hl] at hb
    exact absurd (hb ▸ List.mem_singleton_self '/') hrp.2.2.2
  | some s =>
    rw [hl] at hb
    obtain rfl : s = rp := hb
    obtain ⟨ini, hini⟩ := List.getLast?_eq_some_iff.mp hl
    refine ⟨cleanSegs true ini, ?_⟩
    -- the elements of the cleaned path, computed from the non-empty elements of `p`
    rw [segsOf_clean_rooted, cleanSegs, foldl_segsOf, hini]
    simp [cleanSegs, List.foldl_append, cleanStep_normal true _ s hrp]

theorem trimRightSet_last (s : Str) (cut : List Char) :
    trimRightSet s cut = [] ∨ ∃ y c, trimRightSet s cut = y ++ [c] ∧ cut.contains c = false := by
  unfold trimRightSet
  have hd := List.head?_dropWhile_not (fun c => cut.contains c) s.reverse
  cases h : s.reverse.dropWhile (fun c => cut.contains c) with
  | nil => left; simp
  | cons c r => rw [h] at hd; exact .inr ⟨r.reverse, c, by simp, hd⟩

theorem exists_ne_nil_splitOn (sep c : Char) (y : Str) (hc : c ≠ sep) : ∃ s ∈ splitOn sep (y ++ [c]), s ≠ [] := by
  induction y with
  | nil => exact ⟨[c], by simp [splitOn, hc], by simp⟩
  | cons d r ih =>
    by_cases hd : d = sep
    · subst hd
      obtain ⟨s, hs, hne⟩ := ih
      exact ⟨s, by simp [splitOn_cons_sep, hs], hne⟩
    · obtain ⟨hd', tl, _, h2⟩ := splitOn_cons_ne sep d (r ++ [c]) hd
      exact ⟨d :: hd', by simp [h2], by simp⟩

/-- the route base computed by the middleware is never `/`: what `TrimRight` leaves is empty or ends in a byte
    other than `/`, so it has a non-empty element, and the last such element contains no `/` -/
theorem route_base_ne_slash (cPath : Str) : base (trimRightSet cPath ['/', '*']) ≠ ['/'] := by
  rcases trimRightSet_last cPath ['/', '*'] with h | ⟨y, c, h, hc⟩
  · rw [h]; decide
  · rw [h]
    have hcs : c ≠ '/' := by rintro rfl; simp at hc
    obtain ⟨s, hs, hne⟩ := exists_ne_nil_splitOn '/' c y hcs
    have hmem : s ∈ segsOf (y ++ [c]) := List.mem_filter.mpr ⟨hs, by simpa using hne⟩
    simp only [base, show y ++ [c] ≠ [] by simp, if_false]
    cases hl : (segsOf (y ++ [c])).getLast? with
    | none => rw [List.getLast?_eq_none_iff.mp hl] at hmem; cases hmem
    | some l =>
      intro (e : l = ['/'])
      exact splitOn_no_sep '/' _ l (List.mem_filter.mp (List.mem_of_getLast? hl)).1 (e ▸ List.mem_singleton_self _)

theorem cleanSegsOf_trailing_slash (y : Str) (hy : y ≠ []) :
    cleanSegsOf (y ++ ['/']) = cleanSegsOf y ∧ isRooted (y ++ ['/']) = isRooted y := by
  have hr := isRooted_append y ['/'] hy
  refine ⟨?_, hr⟩
  simp only [cleanSegsOf, hr]
  rw [splitOn_append]
  simp [cleanSegs, splitOn, List.foldl_append, cleanStep_empty]

/-- cutting the last element off a clean path leaves a name for the path of the elements before it: `""` or
    `"/"` when there are none, the path with a trailing slash otherwise -/
theorem trimSuffix_render_snoc (r : Bool) (S : List Str) (s : Str) (hS : ∀ x ∈ S, Normal x) :
    isRooted (trimSuffix (render r (S ++ [s])) s) = r ∧ cleanSegsOf (trimSuffix (render r (S ++ [s])) s) = S := by
  by_cases hemp : S = []
  · subst hemp
    cases r with
    | false =>
      have : trimSuffix (render false ([] ++ [s])) s = [] := by
        simpa [render, joinSep] using trimSuffix_append [] s
      rw [this]; exact ⟨isRooted_nil, cleanSegsOf_nil⟩
    | true =>
      have : trimSuffix (render true ([] ++ [s])) s = ['/'] := by
        simpa [render, joinSep] using trimSuffix_append ['/'] s
      rw [this]; exact ⟨isRooted_slash, cleanSegsOf_slash⟩
  · have hy : render r (S ++ [s]) = (render r S ++ ['/']) ++ s := by
      cases r <;> simp [render, hemp, joinSep_append S [s] hemp (by simp), joinSep]
    rw [hy, trimSuffix_append]
    obtain ⟨h1, h2⟩ := cleanSegsOf_trailing_slash _ (render_ne_nil r S hS)
    exact ⟨h2.trans (isRooted_render r S hS), h1.trans (cleanSegsOf_render r S hS)⟩

/-- the IgnoreBase rewrite (fixed code) keeps the name under `Root`, for every route path and
    every request path -/
theorem ignoreBase_under (root cPath p : Str) (h : RootOK root) :
    Under root (ignoreBaseName cPath p (join2 root (clean ('/' :: p)))) := by
  have hq := (clean_rooted_no_dotdot p).2.2.1
  have hall := List.forall_mem_append.mpr ⟨h.2, hq⟩
  unfold ignoreBaseName
  simp only
  split
  · rename_i hcond
    obtain ⟨hbp, hbn⟩ := hcond
    rw [join2_render root _ h.1 hq] at hbn ⊢
    rw [base_render _ _ hall] at hbn
    cases hl : (cleanSegsOf root ++ segsOf (clean ('/' :: p))).getLast? with
    | none =>
      -- no element at all: the name is `/` (never a route base) or `.`, which is cut to the empty name
      have hS := List.getLast?_eq_none_iff.mp hl
      simp only [hl] at hbn
      cases hr : isRooted root with
      | true => rw [hr] at hbn; exact absurd hbn.symm (route_base_ne_slash cPath)
      | false =>
        simp only [hr, Bool.false_eq_true, if_false] at hbn
        rw [hS, ← hbn, show trimSuffix (render false []) dot = [] from rfl]
        exact under_nil root hr (List.append_eq_nil_iff.mp hS).1
    | some s =>
      -- the last element `s` is the route base; it is also the last element of `Clean("/"+p)`
      simp only [hl] at hbn
      obtain ⟨L', hL'⟩ := clean_rooted_last p s (hall s (List.mem_of_getLast? hl)) (hbp.trans hbn.symm)
      have hL'n : ∀ x ∈ L', Normal x := fun x hx => hq x (by rw [hL']; simp [hx])
      rw [hL', ← List.append_assoc, ← hbn]
      obtain ⟨h1, h2⟩ := trimSuffix_render_snoc (isRooted root) (cleanSegsOf root ++ L') s
        (List.forall_mem_append.mpr ⟨h.2, hL'n⟩)
      exact ⟨h1, L', hL'n, h2⟩
  · exact name0_under root p h

end C16
