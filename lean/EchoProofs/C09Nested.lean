import EchoProofs.C09
/-!
# C09 — precedence and 400 for EVERY leaf the walk reaches (nested / embedded / pointer structs)

A leaf is addressed by a path of field indices (`List Nat`) through nested `Fields`; the statements are
proved for every such leaf, and the top-level `C09_precedence` / `C09_400` are their case `[i]`:

* `leafAt fs a`   — the scalar leaf (meta, element kind) the address `a` denotes in the TYPE;
* `valAt vs a`    — what the VALUE holds there (`none` as soon as a struct on the way is a nil pointer);
* `reach src fs vs a` — the walk of `bindData src` gets to that leaf: the leaf is exported and exists,
  and every struct-typed field on the way is one the walk DESCENDS into for this source
  (`walks`, EchoProofs.C09): an exported plain struct WITHOUT a tag for `src` (embedded or not), or an exported
  EMBEDDED pointer to struct without a tag for `src` that is not nil.  Nothing else is descended:
  a struct field that carries a tag for `src` is handed to the unmarshaler path (leaf; for an
  ordinary struct: error as soon as the key is sent, untouched otherwise), an unexported field is
  skipped, a NAMED pointer-to-struct field is never descended (its kind is `Ptr`, not `Struct`),
  a nil embedded pointer is skipped (`Elem()` of nil cannot be set) — the walk never allocates a
  struct pointer in order to descend.

Reachability is PER SOURCE (the tag that blocks the descent is the tag of the source at hand).

`bindF_leaf` is the statement for one source: a reached leaf gets `stepLeaf` and its text was
convertible, a leaf that is NOT reached is literally unchanged, and reachability (for every source) is
not altered.  `C09_precedence_nested_gen` composes it over the three steps of `Bind` — each step is
applied exactly if the leaf is reached for that source (`stepIf`) — and the other theorems are read
off it.

Scope
* The statement with the three-step formula needs the leaf to be reached by ALL three walks
  (`reach3`).  It is FALSE without that: `B struct { K string `query:"k" form:"k"` } `form:"b"``
  — the form walk treats `B` as a leaf, so `K` keeps the query value although the form carries `k`
  (example below, replayed on the real code).  The general statement `…_gen` covers these leaves too.
* A TAGGED `*struct` is allocated and then rejected with 400 (`setField`); what happens below untagged
  ones is `reach_named_ptr`, `reach_nil_ptr`, `C09_unreached_untouched`.
* Slices / arrays / maps of structs are `Shape.other` in the model (no fields to address): bind.go
  never descends into them (kind is not `Struct`) and answers "unknown type" when they are tagged
  and the key is sent.  Leaves that are not `Shape.scalar` (pointer to scalar, slice, unmarshaler,
  file) are addressed by the mask theorems of EchoProofs.C09 only.
-/
namespace C09
open C08 (Elem SVal FVal structElem structElems zeroOf parseElem multiParse)

/-! ## addresses -/

def leafAt : Fields → List Nat → Option (FMeta × Elem)
  | _, [] => none
  | fs, [i] =>
    match fieldAt fs i with
    | some (m, .scalar e) => some (m, e)
    | _ => none
  | fs, i :: j :: rest =>
    match fieldAt fs i with
    | some (_, s) => leafAt (sub s) (j :: rest)
    | none => none

def valAt : List Val → List Nat → Option Val
  | _, [] => none
  | vs, [i] => vs[i]?
  | vs, i :: j :: rest =>
    match vs[i]? with
    | some (.struct vs') => valAt vs' (j :: rest)
    | _ => none

def reach (src : Src) : Fields → List Val → List Nat → Bool
  | _, _, [] => false
  | fs, vs, [i] =>
    match fieldAt fs i with
    | some (m, .scalar _) => m.exported && decide (i < vs.length)
    | _ => false
  | fs, vs, i :: j :: rest =>
    match fieldAt fs i, vs[i]? with
    | some (m, s), some (.struct vs') => walks src m s && reach src (sub s) vs' (j :: rest)
    | _, _ => false

/-- reached by all three sources of `Bind` -/
def reach3 (fs : Fields) (vs : List Val) (a : List Nat) : Bool :=
  reach .param fs vs a && reach .query fs vs a && reach .form fs vs a

def stepIf (b : Bool) (e : Elem) (tag : List Char) (data : Data) (cur : Option Val) : Option Val :=
  if b then stepLeaf e tag data cur else cur

theorem fieldAt_nil (i : Nat) : fieldAt .nil i = none := by simp [fieldAt]

theorem leafAt_nil : ∀ a : List Nat, leafAt .nil a = none
  | [] => rfl
  | [i] => by simp [leafAt, fieldAt]
  | i :: j :: rest => by simp [leafAt, fieldAt]

theorem leafAt_one (fs : Fields) (i : Nat) (m : FMeta) (e : Elem) :
    leafAt fs [i] = some (m, e) ↔ fieldAt fs i = some (m, .scalar e) := by
  simp only [leafAt]
  split
  · rename_i hf
    simp [hf]
  · rename_i hn
    simp only [reduceCtorEq, false_iff]
    exact fun h => hn _ _ h

theorem valAt_one (vs : List Val) (i : Nat) : valAt vs [i] = vs[i]? := rfl

theorem reach_one (src : Src) (fs : Fields) (vs : List Val) (i : Nat) (m : FMeta) (e : Elem)
    (hf : fieldAt fs i = some (m, .scalar e)) :
    reach src fs vs [i] = (m.exported && decide (i < vs.length)) := by
  simp only [reach, hf]

/-! ## struct-typed fields the walk does not descend into -/

theorem taggedStep_structShape (src : Src) (data files : Data) (m : FMeta) (s : Shape) (v : Val)
    (hs : (∃ fs, s = .struct fs) ∨ (∃ fs, s = .ptrStruct fs))
    (hok : (taggedStep src data files m s v).2 = none) : (taggedStep src data files m s v).1 = v := by
  have hnf : ∀ k, s ≠ .file k := by
    rcases hs with ⟨_, rfl⟩ | ⟨_, rfl⟩ <;> exact fun _ => nofun
  unfold taggedStep at hok ⊢
  rw [fileStep_eq_none files _ s v hnf] at hok ⊢
  cases hl : lookup data (m.tags.get src) with
  | none => rfl
  | some values =>
    -- with a value under its tag, `setField` rejects a struct-typed field
    rw [hl] at hok
    unfold setField at hok
    rcases hs with ⟨fs, rfl⟩ | ⟨fs, rfl⟩
    · cases values <;> simp at hok
    · cases values <;> simp at hok

theorem bindS_nowalk (src : Src) (data files : Data) (m : FMeta) (s : Shape) (v : Val)
    (hs : (∃ fs, s = .struct fs) ∨ (∃ fs, s = .ptrStruct fs))
    (hnw : ∀ vs', v = .struct vs' → walks src m s = false)
    (hok : (bindS src data files m s v).2 = none) : (bindS src data files m s v).1 = v := by
  rcases bindS_cases src data files m s v with h | ⟨_, _, h | h⟩ | ⟨vs', hv, hw⟩
  · rw [h]
  · rw [h] at hok; cases hok
  · rw [h] at hok ⊢
    exact taggedStep_structShape src data files m s v hs hok
  · rw [hnw vs' hv] at hw; cases hw

/-! ## one source, every leaf -/

theorem getElem?_none_of_bindF (src : Src) (data files : Data) (fs : Fields) (vs : List Val) (i : Nat)
    (h : vs[i]? = none) : (bindF src data files fs vs).1[i]? = none := by
  rw [List.getElem?_eq_none_iff] at h ⊢
  rw [bindF_length]; exact h

/-- **one source, every leaf** — if the walk over a source succeeds then, for every address that
    denotes a scalar leaf in the type:
    (1) if the walk reaches it, it holds `stepLeaf` of what it held, and its text was convertible;
    (2) if the walk does not reach it, it is exactly what it was;
    (3) which leaves which source reaches is unchanged (no pointer is allocated or cleared). -/
theorem bindF_leaf (src : Src) (data files : Data) :
    ∀ (a : List Nat) (fs : Fields) (vs : List Val) (m : FMeta) (e : Elem),
      leafAt fs a = some (m, e) → (bindF src data files fs vs).2 = none →
      (reach src fs vs a = true →
        valAt (bindF src data files fs vs).1 a = stepLeaf e (m.tags.get src) data (valAt vs a)
        ∧ ¬ badIn e (m.tags.get src) data)
      ∧ (reach src fs vs a = false → valAt (bindF src data files fs vs).1 a = valAt vs a)
      ∧ (∀ src', reach src' fs (bindF src data files fs vs).1 a = reach src' fs vs a)
  | [], fs, vs, m, e, hl, _ => by simp [leafAt] at hl
  | [i], fs, vs, m, e, hl, hok => by
    have hf := (leafAt_one fs i m e).1 hl
    -- `reach … [i]` is "exported and in range", and the walk keeps the length: that settles the third claim
    simp only [reach_one _ fs _ i m e hf, bindF_length, valAt_one, Bool.and_eq_true, Bool.and_eq_false_iff,
      decide_eq_true_eq, decide_eq_false_iff_not]
    refine ⟨fun hr => bindF_top src data files fs vs i m e hf hr.1 hr.2 hok, fun hr => ?_, fun _ => trivial⟩
    cases hv : vs[i]? with
    | none => exact getElem?_none_of_bindF src data files fs vs i hv
    | some v =>
      -- the index is in range, so the field is not reached because it is unexported
      have hexp := hr.resolve_right (not_not_intro (List.getElem?_eq_some_iff.1 hv).1)
      rw [(bindF_get src data files fs vs i m (.scalar e) v hf hv hok).1, bindS_unexported src data files m _ v hexp]
  | i :: j :: rest, fs, vs, m, e, hl, hok => by
    simp only [leafAt] at hl
    cases hfa : fieldAt fs i with
    | none => simp [hfa] at hl
    | some ms =>
      obtain ⟨mi, s⟩ := ms
      simp only [hfa] at hl
      cases hv : vs[i]? with
      | none => simp [reach, valAt, hfa, hv, getElem?_none_of_bindF src data files fs vs i hv]
      | some v =>
        obtain ⟨h1, h2⟩ := bindF_get src data files fs vs i mi s v hfa hv hok
        by_cases hdesc : (∃ vs', v = .struct vs') ∧ walks src mi s = true
        · obtain ⟨⟨vs', rfl⟩, hw⟩ := hdesc
          rw [bindS_walk src data files mi s vs' hw] at h1 h2
          obtain ⟨ih1, ih2, ih3⟩ := bindF_leaf src data files (j :: rest) (sub s) vs' m e hl h2
          simp only [reach, valAt, hfa, hv, h1, hw, Bool.true_and]
          exact ⟨ih1, ih2, fun src' => by rw [ih3 src']⟩
        · -- not descended: the field is as it was, and with it everything below, for every source
          have hnw : ∀ vs', v = .struct vs' → walks src mi s = false := fun vs' hvs =>
            Bool.eq_false_iff.2 fun hw => hdesc ⟨⟨vs', hvs⟩, hw⟩
          have hs : (∃ fs', s = .struct fs') ∨ (∃ fs', s = .ptrStruct fs') := by
            cases s with
            | struct fs' => exact Or.inl ⟨fs', rfl⟩
            | ptrStruct fs' => exact Or.inr ⟨fs', rfl⟩
            | _ => simp [sub, leafAt_nil] at hl
          rw [bindS_nowalk src data files mi s v hs hnw h2] at h1
          have hnr : reach src fs vs (i :: j :: rest) = false := by
            simp only [reach, hfa, hv]
            cases v with
            | struct vs' => simp [hnw vs' rfl]
            | _ => rfl
          refine ⟨fun hr => ?_, fun _ => ?_, fun src' => ?_⟩
          · rw [hnr] at hr; cases hr
          · simp only [valAt, hv, h1]
          · simp only [reach, hfa, hv, h1]

theorem bindData_leaf (src : Src) (data files : Data) (fs : Fields) (vs : List Val) (a : List Nat)
    (m : FMeta) (e : Elem) (hl : leafAt fs a = some (m, e)) (w : DVal)
    (hok : bindData src data files (.struct fs) (.struct vs) = (w, none)) :
    ∃ vs', w = .struct vs'
      ∧ (∀ src', reach src' fs vs' a = reach src' fs vs a)
      ∧ valAt vs' a = stepIf (reach src fs vs a) e (m.tags.get src) data (valAt vs a)
      ∧ (reach src fs vs a = true → ¬ badIn e (m.tags.get src) data) := by
  rw [bindData_struct_eq] at hok
  split at hok
  · rename_i hd
    cases hok
    refine ⟨vs, rfl, fun _ => rfl, ?_, fun _ => hd.1 ▸ not_badIn_nil _ _⟩
    rw [hd.1, stepIf, stepLeaf_nil, ite_self]
  · simp only [Prod.mk.injEq] at hok
    obtain ⟨h1, h2, h3⟩ := bindF_leaf src data files a fs vs m e hl hok.2
    refine ⟨_, hok.1.symm, h3, ?_, fun hr => (h1 hr).2⟩
    unfold stepIf
    cases hr : reach src fs vs a with
    | true => exact (h1 hr).1
    | false => exact h2 hr

/-! ## the headline theorems -/

/-- **C09_precedence_nested_gen** — every address that denotes a scalar leaf, at any depth, through
    plain, embedded and pointer structs: if `Bind` succeeds (body not json/xml) the leaf holds
    path → query → form applied in this order, EACH STEP EXACTLY IF THE WALK OF THAT SOURCE REACHES
    THE LEAF (`reach`, evaluated on the destination as it was before `Bind`); a source that does
    not reach it leaves it alone; and no source that reaches it carried a malformed text for it. -/
theorem C09_precedence_nested_gen (fs : Fields) (vs : List Val) (r : BindReq) (a : List Nat) (m : FMeta)
    (e : Elem) (hl : leafAt fs a = some (m, e)) (hnd : ¬ decoded r) (v' : DVal)
    (h : bind (.struct fs) (.struct vs) r = (v', .ok)) :
    ∃ vs', v' = .struct vs'
      ∧ valAt vs' a = stepIf (reach .form fs vs a) e m.tags.form (formOf r)
                        (stepIf (reach .query fs vs a) e m.tags.query (queryOf r)
                          (stepIf (reach .param fs vs a) e m.tags.param r.params (valAt vs a)))
      ∧ (reach .param fs vs a = true → ¬ badIn e m.tags.param r.params)
      ∧ (reach .query fs vs a = true → ¬ badIn e m.tags.query (queryOf r))
      ∧ (reach .form fs vs a = true → ¬ badIn e m.tags.form (formOf r))
      ∧ (∀ src, reach src fs vs' a = reach src fs vs a) := by
  obtain ⟨w1, w2, files, s1, s2, s3⟩ := bind_ok_steps _ _ r hnd v' h
  obtain ⟨vs1, rfl, r1, c1, d1⟩ := bindData_leaf .param r.params [] fs vs a m e hl w1 s1
  obtain ⟨vs2, rfl, r2, c2, d2⟩ := bindData_leaf .query (queryOf r) [] fs vs1 a m e hl w2 s2
  obtain ⟨vs3, rfl, r3, c3, d3⟩ := bindData_leaf .form (formOf r) files fs vs2 a m e hl v' s3
  refine ⟨vs3, rfl, ?_, d1, ?_, ?_, ?_⟩
  · rw [c3, c2, c1, r2, r1, r1]; rfl
  · intro hr; exact d2 (by rw [r1]; exact hr)
  · intro hr; exact d3 (by rw [r2, r1]; exact hr)
  · intro src; rw [r3, r2, r1]

theorem reach3_iff (fs : Fields) (vs : List Val) (a : List Nat) :
    reach3 fs vs a = true ↔ reach .param fs vs a = true ∧ reach .query fs vs a = true ∧ reach .form fs vs a = true := by
  simp [reach3, and_assoc]

/-- **C09_precedence_nested** — for every leaf the walk reaches (for the three sources of `Bind`),
    at any depth: after a successful `Bind` (body not json/xml) it holds exactly what the formula
    of `C09_precedence` says — the LAST of path → query (GET/DELETE/HEAD) → form body that carries
    a key for its tag wins, else the previous value — and none of the applied sources carried a
    malformed text for it. -/
theorem C09_precedence_nested (fs : Fields) (vs : List Val) (r : BindReq) (a : List Nat) (m : FMeta)
    (e : Elem) (hl : leafAt fs a = some (m, e)) (hr : reach3 fs vs a = true)
    (hnd : ¬ decoded r) (v' : DVal) (h : bind (.struct fs) (.struct vs) r = (v', .ok)) :
    ∃ vs', v' = .struct vs'
      ∧ valAt vs' a = stepLeaf e m.tags.form (formOf r)
                        (stepLeaf e m.tags.query (queryOf r)
                          (stepLeaf e m.tags.param r.params (valAt vs a)))
      ∧ ¬ badIn e m.tags.param r.params ∧ ¬ badIn e m.tags.query (queryOf r)
      ∧ ¬ badIn e m.tags.form (formOf r) := by
  obtain ⟨hp, hq, hf⟩ := (reach3_iff fs vs a).1 hr
  obtain ⟨vs', a1, a2, a3, a4, a5, _⟩ := C09_precedence_nested_gen fs vs r a m e hl hnd v' h
  refine ⟨vs', a1, ?_, a3 hp, a4 hq, a5 hf⟩
  rw [a2, hp, hq, hf]; rfl

/-- **C09_400_nested** — never bound in silence, at any depth: a malformed text for a scalar leaf in
    ANY applied source whose walk reaches the leaf makes `Bind` fail, whatever the other sources
    carry and whatever else the destination contains -/
theorem C09_400_nested (fs : Fields) (vs : List Val) (r : BindReq) (a : List Nat) (m : FMeta) (e : Elem)
    (hl : leafAt fs a = some (m, e)) (hnd : ¬ decoded r)
    (hbad : (reach .param fs vs a = true ∧ badIn e m.tags.param r.params)
      ∨ (reach .query fs vs a = true ∧ badIn e m.tags.query (queryOf r))
      ∨ (reach .form fs vs a = true ∧ badIn e m.tags.form (formOf r))) :
    (bind (.struct fs) (.struct vs) r).2 ≠ .ok := by
  intro hok
  obtain ⟨_, _, _, d1, d2, d3, _⟩ := C09_precedence_nested_gen fs vs r a m e hl hnd
    (bind (.struct fs) (.struct vs) r).1 (by rw [← hok])
  rcases hbad with hb | hb | hb
  · exact d1 hb.1 hb.2
  · exact d2 hb.1 hb.2
  · exact d3 hb.1 hb.2

/-! ## the top-level theorems are the case `[i]` -/

theorem reach3_one (fs : Fields) (vs : List Val) (i : Nat) (m : FMeta) (e : Elem)
    (hf : fieldAt fs i = some (m, .scalar e)) (hexp : m.exported = true) (hi : i < vs.length) :
    reach3 fs vs [i] = true := by
  simp [reach3, reach_one _ fs vs i m e hf, hexp, hi]

theorem C09_precedence_top_of_nested (fs : Fields) (vs : List Val) (r : BindReq) (i : Nat) (m : FMeta) (e : Elem)
    (hf : fieldAt fs i = some (m, .scalar e)) (hexp : m.exported = true) (hi : i < vs.length)
    (hnd : ¬ decoded r) (v' : DVal) (h : bind (.struct fs) (.struct vs) r = (v', .ok)) :
    ∃ vs', v' = .struct vs'
      ∧ vs'[i]? = stepLeaf e m.tags.form (formOf r)
                    (stepLeaf e m.tags.query (queryOf r)
                      (stepLeaf e m.tags.param r.params vs[i]?))
      ∧ ¬ badIn e m.tags.param r.params ∧ ¬ badIn e m.tags.query (queryOf r)
      ∧ ¬ badIn e m.tags.form (formOf r) :=
  C09_precedence_nested fs vs r [i] m e ((leafAt_one fs i m e).2 hf) (reach3_one fs vs i m e hf hexp hi) hnd v' h

/-- **C09_precedence** (+ **C09_400**) — if `Bind` succeeds (and the body is not handed to
    encoding/json|xml), a top-level exported scalar field holds what the LAST of the sources
    path → query (GET/DELETE/HEAD only) → form body that carries a key for the field's tag
    wrote, else its previous value; and none of the applied sources carried a malformed text
    for it (contrapositive: a malformed text in any applied source never ends in success). -/
theorem C09_precedence (fs : Fields) (vs : List Val) (r : BindReq) (i : Nat) (m : FMeta) (e : Elem)
    (hf : fieldAt fs i = some (m, .scalar e)) (hexp : m.exported = true) (hi : i < vs.length)
    (hnd : ¬ decoded r) (v' : DVal) (h : bind (.struct fs) (.struct vs) r = (v', .ok)) :
    ∃ vs', v' = .struct vs'
      ∧ vs'[i]? = stepLeaf e m.tags.form (formOf r)
                    (stepLeaf e m.tags.query (queryOf r)
                      (stepLeaf e m.tags.param r.params vs[i]?))
      ∧ ¬ badIn e m.tags.param r.params ∧ ¬ badIn e m.tags.query (queryOf r)
      ∧ ¬ badIn e m.tags.form (formOf r) :=
  C09_precedence_top_of_nested fs vs r i m e hf hexp hi hnd v' h

theorem C09_400_top_of_nested (fs : Fields) (vs : List Val) (r : BindReq) (i : Nat) (m : FMeta) (e : Elem)
    (hf : fieldAt fs i = some (m, .scalar e)) (hexp : m.exported = true) (hi : i < vs.length)
    (hnd : ¬ decoded r)
    (hbad : badIn e m.tags.param r.params ∨ badIn e m.tags.query (queryOf r)
      ∨ badIn e m.tags.form (formOf r)) :
    (bind (.struct fs) (.struct vs) r).2 ≠ .ok := by
  have hr := (reach3_iff fs vs [i]).1 (reach3_one fs vs i m e hf hexp hi)
  exact C09_400_nested fs vs r [i] m e ((leafAt_one fs i m e).2 hf) hnd
    (hbad.imp (And.intro hr.1) (Or.imp (And.intro hr.2.1) (And.intro hr.2.2)))

/-- **C09_400** — never bound in silence: a malformed text for a (top-level, exported, scalar)
    field in ANY applied source makes `Bind` fail, whatever the other sources carry -/
theorem C09_400 (fs : Fields) (vs : List Val) (r : BindReq) (i : Nat) (m : FMeta) (e : Elem)
    (hf : fieldAt fs i = some (m, .scalar e)) (hexp : m.exported = true) (hi : i < vs.length)
    (hnd : ¬ decoded r)
    (hbad : badIn e m.tags.param r.params ∨ badIn e m.tags.query (queryOf r)
      ∨ badIn e m.tags.form (formOf r)) :
    (bind (.struct fs) (.struct vs) r).2 ≠ .ok :=
  C09_400_top_of_nested fs vs r i m e hf hexp hi hnd hbad

/-! ## exactly 400 -/

theorem bindData_struct (src : Src) (data files : Data) (fs : Fields) (vs : List Val) :
    ∃ vs', (bindData src data files (.struct fs) (.struct vs)).1 = .struct vs' := by
  rw [bindData_struct_eq]
  split
  · exact ⟨vs, rfl⟩
  · exact ⟨_, rfl⟩

theorem statusOf_bad (e : Option Err) (hp : e ≠ some .panic) (hok : statusOf e ≠ .ok) : statusOf e = .bad := by
  cases e with
  | none => exact absurd rfl hok
  | some e =>
    cases e with
    | bad => rfl
    | panic => exact absurd rfl hp

/-- with data as net/http produces them, a walk that fails answers 400 -/
theorem walk_fail_bad {src : Src} {data files : Data} {fs : Fields} {vs : List Val} {w : DVal} {er : Err}
    (hne : ∀ kv ∈ data, kv.2 ≠ []) (h : bindData src data files (.struct fs) (.struct vs) = (w, some er)) :
    statusOf (some er) = .bad :=
  statusOf_bad _ (show (w, some er).2 ≠ _ from h ▸ C09_no_panic src data files hne fs vs) (statusOf_some_ne_ok er)

/-- **C09_400_nested_exact** — with request data as net/http produces them (every key has at least
    one value) a malformed text for a leaf in a source whose walk reaches it makes `Bind` answer
    EXACTLY 400 — not success, not 415 (even if the Content-Type is unsupported: the path and query
    steps come first), not a panic — whatever the other sources and fields hold. -/
theorem C09_400_nested_exact (fs : Fields) (vs : List Val) (r : BindReq) (a : List Nat) (m : FMeta) (e : Elem)
    (hl : leafAt fs a = some (m, e)) (hnd : ¬ decoded r)
    (hp : ∀ kv ∈ r.params, kv.2 ≠ []) (hq : ∀ kv ∈ queryOf r, kv.2 ≠ []) (hf : ∀ kv ∈ formOf r, kv.2 ≠ [])
    (hbad : (reach .param fs vs a = true ∧ badIn e m.tags.param r.params)
      ∨ (reach .query fs vs a = true ∧ badIn e m.tags.query (queryOf r))
      ∨ (reach .form fs vs a = true ∧ badIn e m.tags.form (formOf r))) :
    (bind (.struct fs) (.struct vs) r).2 = .bad := by
  have hnok := C09_400_nested fs vs r a m e hl hnd hbad
  rcases bind_cases (.struct fs) (.struct vs) r with ⟨w, er, h1, hb⟩ | ⟨v1, w, er, h1, h2, hb⟩ | ⟨v1, v2, h1, h2, hb⟩
  · rw [hb]
    exact walk_fail_bad hp h1
  · obtain ⟨vs1, rfl, _⟩ := bindData_leaf .param r.params [] fs vs a m e hl v1 h1
    rw [hb]
    exact walk_fail_bad hq h2
  · obtain ⟨vs1, rfl, r1, _, d1⟩ := bindData_leaf .param r.params [] fs vs a m e hl v1 h1
    obtain ⟨vs2, rfl, r2, _, d2⟩ := bindData_leaf .query (queryOf r) [] fs vs1 a m e hl v2 h2
    rw [hb] at hnok ⊢
    rcases bindBody_cases (.struct fs) (.struct vs2) r hnd with ⟨files, hbody⟩ | ⟨hst | hst, hform⟩
    · rw [hbody] at hnok ⊢
      exact statusOf_bad _ (C09_no_panic .form (formOf r) files hf fs vs2) hnok
    · rw [hst]
    · -- refused with 415: then no source carried the malformed text after all
      exfalso
      rcases hbad with hb' | hb' | hb'
      · exact d1 hb'.1 hb'.2
      · exact d2 (by rw [r1]; exact hb'.1) hb'.2
      · rw [hform] at hb'
        exact not_badIn_nil _ _ hb'.2

/-! ## what the walk does NOT reach -/

/-- **C09_unreached_untouched** — a leaf that none of the three walks reaches (below a NAMED
    pointer to struct, below a nil embedded pointer, below an unexported struct, below a struct
    field carrying param, query and form tags, unexported itself …) holds after a successful
    `Bind` (body not json/xml) exactly what it held, whatever keys the client sent -/
theorem C09_unreached_untouched (fs : Fields) (vs : List Val) (r : BindReq) (a : List Nat) (m : FMeta)
    (e : Elem) (hl : leafAt fs a = some (m, e))
    (hp : reach .param fs vs a = false) (hq : reach .query fs vs a = false) (hf : reach .form fs vs a = false)
    (hnd : ¬ decoded r) (v' : DVal) (h : bind (.struct fs) (.struct vs) r = (v', .ok)) :
    ∃ vs', v' = .struct vs' ∧ valAt vs' a = valAt vs a := by
  obtain ⟨vs', a1, a2, _⟩ := C09_precedence_nested_gen fs vs r a m e hl hnd v' h
  exact ⟨vs', a1, by rw [a2, hp, hq, hf]; rfl⟩

/-- a NAMED (not embedded) pointer-to-struct field is never descended, nil or not: `bindData`
    looks at the field's kind (`Ptr`), only an embedded pointer is dereferenced -/
theorem reach_named_ptr (src : Src) (fs : Fields) (vs : List Val) (i j : Nat) (rest : List Nat)
    (m : FMeta) (fs' : Fields) (hf : fieldAt fs i = some (m, .ptrStruct fs')) (hn : m.anonymous = false) :
    reach src fs vs (i :: j :: rest) = false := by
  simp only [reach, hf]
  cases vs[i]? with
  | none => rfl
  | some v =>
    cases v with
    | struct _ => simp [walks, hn]
    | _ => rfl

/-- below a nil pointer to struct there is nothing, and the walk does not allocate it -/
theorem reach_nil_ptr (src : Src) (fs : Fields) (vs : List Val) (i j : Nat) (rest : List Nat)
    (hv : vs[i]? = some .nilStruct) : reach src fs vs (i :: j :: rest) = false := by
  simp only [reach, hv]
  cases fieldAt fs i <;> rfl

/-- a struct field that carries a tag for the source is not descended by that source -/
theorem reach_tagged_struct (src : Src) (fs : Fields) (vs : List Val) (i j : Nat) (rest : List Nat)
    (m : FMeta) (s : Shape) (hf : fieldAt fs i = some (m, s)) (ht : m.tags.get src ≠ []) :
    reach src fs vs (i :: j :: rest) = false := by
  simp only [reach, hf]
  cases vs[i]? with
  | none => rfl
  | some v =>
    cases v with
    | struct vs' =>
      cases s with
      | struct _ => simp [walks, ht]
      | ptrStruct _ => simp [walks, ht]
      | _ => rfl
    | _ => rfl

/-! ## non-vacuity -/

def noTags : Tags := ⟨[], [], [], []⟩

/-- ```
    struct {
      Inner struct { N int `query:"n" form:"n"` }                   // 0: plain nested struct
      Emb                                                            // 1: embedded struct  { ID string `param:"id" form:"e"` }
      *EmbP                                                          // 2: embedded pointer { P int `query:"p"` }
      Named *struct { Z int `query:"z"` }                            // 3: named pointer
      B struct { K string `query:"k" form:"k"` } `form:"b"`          // 4: struct tagged for form
    }``` -/
def exN : Fields :=
  .cons ⟨noTags, false, true⟩
      (.struct (.cons ⟨⟨[], ['n'], ['n'], []⟩, false, true⟩ (.scalar (.num (.structInt .wInt))) .nil))
  (.cons ⟨noTags, true, true⟩
      (.struct (.cons ⟨⟨['i','d'], [], ['e'], []⟩, false, true⟩ (.scalar .str) .nil))
  (.cons ⟨noTags, true, true⟩
      (.ptrStruct (.cons ⟨⟨[], ['p'], [], []⟩, false, true⟩ (.scalar (.num (.structInt .wInt))) .nil))
  (.cons ⟨noTags, false, true⟩
      (.ptrStruct (.cons ⟨⟨[], ['z'], [], []⟩, false, true⟩ (.scalar (.num (.structInt .wInt))) .nil))
  (.cons ⟨⟨[], [], ['b'], []⟩, false, true⟩
      (.struct (.cons ⟨⟨[], ['k'], ['k'], []⟩, false, true⟩ (.scalar .str) .nil))
   .nil))))

/-- embedded pointer allocated, named pointer allocated -/
def exNv : List Val :=
  [.struct [.leaf (.one (.int 1))], .struct [.leaf (.one (.opq ['o']))], .struct [.leaf (.one (.int 2))],
   .struct [.leaf (.one (.int 3))], .struct [.leaf (.one (.opq ['o']))]]

/-- both pointers start nil -/
def exNv0 : List Val :=
  [.struct [.leaf (.one (.int 1))], .struct [.leaf (.one (.opq ['o']))], .nilStruct, .nilStruct,
   .struct [.leaf (.one (.opq ['o']))]]

/-- GET /:id?n=5&p=6&z=7&k=q with a multipart body n=8, e=x, k=f -/
def exNReq (method : List Char) (hasBody : Bool) : BindReq :=
  { method := method, params := [(['i','d'], [['a']])],
    query := [(['n'], [['5']]), (['p'], [['6']]), (['z'], [['7']]), (['k'], [['q']])],
    hasBody := hasBody, ctype := mMultipart, json := (.opaque, false), xml := (.opaque, false),
    formBody := none, multipart := some [(['n'], [['8']]), (['e'], [['x']]), (['k'], [['f']])],
    files := [], queryOK := true }

def GET : List Char := ['G','E','T']

-- the addresses denote leaves, and which walk reaches which
example : leafAt exN [0, 0] = some (⟨⟨[], ['n'], ['n'], []⟩, false, true⟩, .num (.structInt .wInt)) := by decide
example : leafAt exN [1, 0] = some (⟨⟨['i','d'], [], ['e'], []⟩, false, true⟩, .str) := by decide
example : reach3 exN exNv [0, 0] = true ∧ reach3 exN exNv [1, 0] = true ∧ reach3 exN exNv [2, 0] = true := by decide
example : reach3 exN exNv0 [0, 0] = true ∧ reach .query exN exNv0 [2, 0] = false := by decide
-- the named pointer is not descended even when it is not nil
example : (leafAt exN [3, 0]).isSome = true ∧ reach .query exN exNv [3, 0] = false := by decide
-- the struct tagged `form:"b"` is descended by path and query, not by form
example : reach .query exN exNv [4, 0] = true ∧ reach .form exN exNv [4, 0] = false := by decide
example : valAt exNv [0, 0] = some (.leaf (.one (.int 1))) := rfl
example : valAt exNv0 [2, 0] = none := rfl

-- two-level struct, `int` leaf tagged for query and form: GET without body — the query wins over the old 1
example : (bind (.struct exN) (.struct exNv) (exNReq GET false)).2 = .ok
    ∧ flatD (bind (.struct exN) (.struct exNv) (exNReq GET false)).1
      = flatVs [.struct [.leaf (.one (.int 5))], .struct [.leaf (.one (.opq ['a']))], .struct [.leaf (.one (.int 6))],
          .struct [.leaf (.one (.int 3))], .struct [.leaf (.one (.opq ['q']))]] := by decide +kernel
-- … with the multipart body: the body wins for N (8) and for the embedded ID (x over the path's a);
-- K below the struct tagged `form:"b"` keeps the QUERY value although the form carries `k` and K has a form tag
example : (bind (.struct exN) (.struct exNv) (exNReq GET true)).2 = .ok
    ∧ flatD (bind (.struct exN) (.struct exNv) (exNReq GET true)).1
      = flatVs [.struct [.leaf (.one (.int 8))], .struct [.leaf (.one (.opq ['x']))], .struct [.leaf (.one (.int 6))],
          .struct [.leaf (.one (.int 3))], .struct [.leaf (.one (.opq ['q']))]] := by
  rw [bind_eq_with]
  unfold exNReq mMultipart
  lit_chars
  decide +kernel
-- pointers that start nil stay nil: nothing below them is bound (`p=6`, `z=7` are ignored), no error
example : (bind (.struct exN) (.struct exNv0) (exNReq GET true)).2 = .ok
    ∧ flatD (bind (.struct exN) (.struct exNv0) (exNReq GET true)).1
      = flatVs [.struct [.leaf (.one (.int 8))], .struct [.leaf (.one (.opq ['x']))], .nilStruct, .nilStruct,
          .struct [.leaf (.one (.opq ['q']))]] := by
  rw [bind_eq_with]
  unfold exNReq mMultipart
  lit_chars
  decide +kernel
theorem exNReq_not_decoded : ¬ decoded (exNReq GET true) := by
  intro h; exact absurd h.2 (by simp [exNReq, mediaType_mMultipart, mediaTypes_ne])
example : ¬ decoded (exNReq GET true) := exNReq_not_decoded

/-- states `p = (p.1, b)` without comparing `p` with a pair, which for a closed `p` would evaluate it -/
theorem eq_pair_of_snd {α β : Type} {p : α × β} {b : β} (h : p.2 = b) : p = (p.1, b) := h ▸ rfl

-- C09_precedence_nested instantiated: its hypotheses hold for the request above, its conclusion is the 8
example : ∃ vs', (bind (.struct exN) (.struct exNv) (exNReq GET true)).1 = .struct vs'
    ∧ (valAt vs' [0, 0]).map flatV = some [.leaf (.one (.int 8))] := by
  have hok : (bind (.struct exN) (.struct exNv) (exNReq GET true)).2 = .ok := by
    rw [bind_eq_with]
    unfold exNReq mMultipart
    lit_chars
    decide +kernel
  obtain ⟨vs', h1, h2, _⟩ := C09_precedence_nested exN exNv (exNReq GET true) [0, 0]
    ⟨⟨[], ['n'], ['n'], []⟩, false, true⟩ (.num (.structInt .wInt)) (by decide) (by decide)
    exNReq_not_decoded _ (eq_pair_of_snd hok)
  refine ⟨vs', h1, ?_⟩
  rw [h2]
  unfold formOf queryOf queryMethods mJSON mXML mTextXML mForm mMultipart exNReq
  lit_chars
  decide +kernel

-- C09_400_nested(_exact): `?p=x` for the int below the embedded pointer, `n=x` in the body for the nested int
example : badIn (.num (.structInt .wInt)) ['p'] [(['p'], [['x']])] := by
  refine ⟨by decide, [['x']], by decide, by decide⟩
example : (bind (.struct exN) (.struct exNv) { exNReq GET false with query := [(['p'], [['x']])] }).2 = .bad := by
  decide +kernel
example : (bind (.struct exN) (.struct exNv)
    { exNReq GET true with multipart := some [(['n'], [['x']])] }).2 = .bad := by
  rw [bind_eq_with]
  unfold exNReq mMultipart
  lit_chars
  decide +kernel
-- … but the same malformed `p=x` is NOT an error when the embedded pointer is nil (not reached), and
-- `z=x` never is (named pointer)
example : (bind (.struct exN) (.struct exNv0) { exNReq GET false with query := [(['p'], [['x']]), (['z'], [['x']])] }).2 = .ok := by
  decide +kernel
-- the key of the tagged struct itself (`b=1` in the form) is a 400: an ordinary struct is no unmarshaler
example : (bind (.struct exN) (.struct exNv)
    { exNReq GET true with multipart := some [(['b'], [['1']])] }).2 = .bad := by
  rw [bind_eq_with]
  unfold exNReq mMultipart
  lit_chars
  decide +kernel

end C09
