import EchoProofs.C04Scope
import EchoProofs.Tree.OK
import EchoProofs.Lit
/-!
# C04 — group scoping, request level

`C04_group_never_outside`: for every registration program and every request, if a middleware id
that was only ever handed to groups goes in (`enter i` occurs in the trace), then the request is
for the host, and its path — as the Pre chain left it — starts with the prefix, of one of the groups
the id was handed to.  In other words group middleware never runs for a request outside the prefix
or for another host.

The theorem combines the registration invariant (`C04_scope_routes`) with the soundness of the
radix-tree model (`tree_dispatch_registered`: a dispatched record is a registration in force
whose pattern matches the path).  It needs every pattern registered for the request's host to be representable
(`okTable`: no escaped colon, no text after `*`); routes may be registered more than once — calling
`Group.Use` twice on one group registers its catch-all routes twice — the later registration is the one in
force.
-/
namespace C04
open Router Router.Spec Router.Tree

/-- literal text: no byte the pattern scanner treats specially -/
def Plain (s : Str) : Prop := ∀ ch ∈ s, ch ≠ ':' ∧ ch ≠ '*' ∧ ch ≠ '\\'

instance (s : Str) : Decidable (Plain s) := by unfold Plain; infer_instance

theorem plain_slash : Plain ['/'] := by decide

theorem plain_append {a b : Str} (ha : Plain a) (hb : Plain b) : Plain (a ++ b) := by
  intro ch hch
  rcases List.mem_append.mp hch with h | h
  · exact ha ch h
  · exact hb ch h

theorem normAux_plain (s q : Str) (hs : Plain s) :
    ∀ f, s.length ≤ f → (normAux f (s ++ q)).1 = lits s ++ (normAux (f - s.length) q).1 := by
  induction s with
  | nil => intro f _; simp [lits]
  | cons c s ih =>
    intro f hf
    cases f with
    | zero => simp at hf
    | succ f =>
      have hc := hs c (by simp)
      have hs' : Plain s := fun ch h => hs ch (List.mem_cons_of_mem _ h)
      have hrec := ih hs' f (by simpa using hf)
      simp only [List.cons_append, normAux]
      have h1 : ¬ (c = '\\' ∧ (s ++ q).head? = some ':') := fun h => hc.2.2 h.1
      simp only [h1, hc.1, hc.2.1, if_false]
      simp only [hrec, lits, List.map_cons, List.length_cons, Nat.add_sub_add_right, List.cons_append]

theorem inst_lits_prefix (s : Str) (ts : List Tok) (w : List Str) (path : Str)
    (h : inst (lits s ++ ts) w = some path) : s <+: path := by
  induction s generalizing path with
  | nil => exact List.nil_prefix
  | cons c s ih =>
    simp only [lits, List.map_cons, List.cons_append, inst, Option.map_eq_some_iff] at h
    obtain ⟨p', hp', rfl⟩ := h
    have := ih p' (by simpa [lits] using hp')
    exact List.cons_prefix_cons.mpr ⟨rfl, this⟩

theorem plain_prefix_of_match (s p path : Str) (hs : Plain s) (hp : s <+: normalizeSlash p)
    (w : List Str) (h : inst (norm p).1 w = some path) : s <+: path := by
  obtain ⟨q, hq⟩ := hp
  unfold norm at h
  simp only at h
  rw [← hq] at h
  rw [normAux_plain s q hs _ (by simp; omega)] at h
  exact inst_lits_prefix s _ w path h

theorem addRoute_normalized {c : Cfg} (h : ∀ r ∈ c.routes, normalizeSlash r.path = r.path)
    (host method path : Str) (hid : Nat) (fails : Bool) (mws : List Mw) :
    ∀ r ∈ (addRoute c host method path hid fails mws).routes, normalizeSlash r.path = r.path := by
  intro r hr
  rcases mem_addRoute.mp hr with hr | rfl
  · exact h r hr
  · exact normalizeSlash_idem _

theorem groupUse_normalized {c : Cfg} (h : ∀ r ∈ c.routes, normalizeSlash r.path = r.path) (gid : Nat) (ms : List Mw) :
    ∀ r ∈ (groupUse c gid ms).routes, normalizeSlash r.path = r.path := by
  intro r hr
  rcases mem_groupUse_routes.mp hr with hr | ⟨g, _, _, rfl | rfl⟩
  · exact h r hr
  · exact normalizeSlash_idem _
  · exact normalizeSlash_idem _

theorem routes_normalized (ops : List Op) : ∀ (c : Cfg),
    (∀ r ∈ c.routes, normalizeSlash r.path = r.path) →
    ∀ r ∈ (ops.foldl exec c).routes, normalizeSlash r.path = r.path := by
  induction ops with
  | nil => intro c h; exact h
  | cons op ops ih =>
    intro c h
    apply ih
    cases op with
    | pre m => exact h
    | use j => exact h
    | host name ms => exact groupUse_normalized (fun r hr => h r (List.mem_filter.mp hr).1) _ ms
    | group parent pfx ms =>
      cases parent with
      | none =>
        apply groupUse_normalized
        exact h
      | some p =>
        simp only [exec]
        split
        · exact h
        · apply groupUse_normalized
          exact h
    | groupUse g ms => exact groupUse_normalized h g ms
    | add g method path hid fails ms =>
      cases g with
      | none => exact addRoute_normalized h _ _ _ _ _ _
      | some gid =>
        simp only [exec]
        split
        · exact h
        · exact addRoute_normalized h _ _ _ _ _ _

theorem mem_tableOf {c : Cfg} {h : Str} {rt : Route} (hm : rt ∈ tableOf c h) :
    ∃ r, c.routes[rt.hid]? = some r ∧ r.host = h ∧ rt.method = r.method ∧ rt.path = r.path := by
  unfold tableOf at hm
  obtain ⟨⟨r, idx⟩, hf, rfl⟩ := List.mem_map.mp hm
  obtain ⟨hz, hh⟩ := List.mem_filter.mp hf
  simp only [decide_eq_true_eq] at hh
  have := List.mem_zipIdx hz
  simp only [Nat.zero_add, Nat.sub_zero] at this
  obtain ⟨_, hlt, hget⟩ := this
  refine ⟨r, ?_, hh, rfl, rfl⟩
  simp only
  rw [List.getElem?_eq_getElem hlt, hget]

/-- which route the tree dispatches: record number `rm.hid` of the configuration, filed under this host, in force
    with its method and pattern, and the pattern matches the path -/
theorem dispatch_route {c : Cfg} {h method path : Str} {rm : RouteMethod} {vals : List Str}
    (hok : okTable (tableOf c h) = true)
    (hfind : find (build (tableOf c h)) method path (List.replicate (maxParam (tableOf c h)) []) = .dispatch rm vals) :
    ∃ r, c.routes[rm.hid]? = some r ∧ r.host = h ∧ (⟨r.method, r.path, rm.hid⟩ : Route) ∈ dedupLast (tableOf c h)
      ∧ ∃ w, inst (norm r.path).1 w = some path := by
  obtain ⟨⟨m, p, k⟩, hrt, hhid, _, w, hw⟩ := tree_dispatch_registered (tableOf c h) method path
    (maxParam (tableOf c h)) (Nat.le_refl _) hok rm vals hfind
  obtain ⟨r, hget, hrh, hm, hp⟩ := mem_tableOf (dedupLast_subset _ _ hrt)
  simp only at hhid hm hp hget
  subst hhid hm hp
  exact ⟨r, hget, hrh, hrt, w, hw⟩

/-- **C04_group_never_outside** — if a middleware that was only ever handed to groups goes in for a request, the
    request is for the host of one of those groups, and (for a literal prefix) its path as the Pre chain left it
    starts with that group's prefix. -/
theorem C04_group_never_outside (i : Mw) (ops : List Op)
    (hgo : ∀ op ∈ ops, GroupOnlyOp i op) (hpo : ∀ op ∈ ops, PfxOKOp op)
    (hnu : i ∉ (run ops).use) (hnp : ∀ m ∈ (run ops).pre, m.id ≠ i)
    (host method path : Str)
    (hwf : okTable (tableOf (run ops)
              (if (run ops).hosts.contains host then host else [])) = true)
    (hin : Ev.enter i ∈ serve (run ops) host method path) :
    ∃ s ∈ scopes i ops,
      s.1 = (if (run ops).hosts.contains host then host else [])
      ∧ (Plain s.2 → s.2 <+: rewriteAll (run ops).pre path) := by
  generalize hc : run ops = c at *
  generalize hh : (if c.hosts.contains host then host else []) = h at *
  generalize hp : rewriteAll c.pre path = p'
  -- `i` is in the snapshot of the selected route
  have hid : i ∈ enterIds (serve c host method path) := by
    unfold enterIds
    exact List.mem_filterMap.mpr ⟨_, hin, rfl⟩
  rw [C04_enter_order, layers, hp] at hid
  have hsnap : i ∈ (selected c host method p').2.2 := by
    rcases List.mem_append.mp hid with h1 | h1
    · rcases List.mem_append.mp h1 with h2 | h2
      · obtain ⟨m, hm, rfl⟩ := List.mem_map.mp h2
        exact absurd rfl (hnp m hm)
      · exact absurd h2 hnu
    · exact h1
  -- unfold the selection
  unfold selected at hsnap
  simp only [hh] at hsnap
  generalize hfind : find (build (tableOf c h)) method p' (List.replicate (maxParam (tableOf c h)) []) = out at hsnap
  cases out with
  | notFound _ => simp at hsnap
  | methodNotAllowed _ _ => simp only at hsnap; split at hsnap <;> simp at hsnap
  | panic => simp at hsnap
  | dispatch rm vals =>
    simp only at hsnap
    -- the dispatched record is a registration in force of this host whose pattern matches the path
    obtain ⟨r, hget, hrh, _, w, hw⟩ := dispatch_route hwf hfind
    simp only [hget] at hsnap
    have hir : i ∈ r.mws := by
      split at hsnap <;> exact hsnap
    have hrm : r ∈ c.routes := List.mem_of_getElem? hget
    obtain ⟨s, hs, hs1, hs2⟩ := C04_scope_routes i ops hgo hpo r (by rw [hc]; exact hrm) hir
    refine ⟨s, hs, hs1.trans hrh, ?_⟩
    intro hpl
    have hnorm : normalizeSlash r.path = r.path :=
      routes_normalized ops {} (by intro r hr; simp at hr) r (by rw [← hc] at hrm; exact hrm)
    exact plain_prefix_of_match s.2 r.path p' hpl (by rw [hnorm]; exact hs2) w hw

/-! ### the hypotheses hold for this program and middleware 3 (handed to group `/g` only),
    and the request `/old` — rewritten to `/g/x` by the Pre middleware — makes it go in -/
def demo2 : List Op :=
  [ .pre ⟨1, some ("/old".toList, "/g/x".toList), none, none⟩, .use 2,
    .group none "/g".toList [3], .add (some 0) "GET".toList "/x".toList 7 false [4],
    .add none "GET".toList "/other/:id".toList 8 false [] ]

example : okTable (tableOf (run demo2) []) = true := by unfold demo2; lit_chars; decide +kernel
example : (run demo2).hosts.contains [] = false := by unfold demo2; lit_chars; decide +kernel
theorem demo2_trace : serve (run demo2) [] "GET".toList "/old".toList
    = [.enter 1, .enter 2, .enter 3, .enter 4, .hnd 7,
       .leave 4 false, .leave 3 false, .leave 2 false, .leave 1 false] := by
  unfold demo2; lit_chars; decide +kernel
example : Ev.enter 3 ∈ serve (run demo2) [] "GET".toList "/old".toList := by rw [demo2_trace]; decide
example : 3 ∉ (run demo2).use ∧ ∀ m ∈ (run demo2).pre, m.id ≠ 3 := by unfold demo2; lit_chars; decide +kernel
example : scopes 3 demo2 = [([], "/g".toList)] := by unfold demo2; lit_chars; decide +kernel
example : Plain "/g".toList := by lit_chars; decide +kernel
/-- the demo program repeats `Group.Use`, so its catch-all routes are registered twice: still covered -/
example : wfTable (tableOf (run demo) []) = false ∧ okTable (tableOf (run demo) []) = true := by
  unfold demo; lit_chars; decide +kernel
end C04
