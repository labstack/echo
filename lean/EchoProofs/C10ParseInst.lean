import EchoProofs.C10Parse6
/-!
# C10 — the extractor theorems with the concrete `net.ParseIP`

`EchoProofs/C10.lean` proves the C10 theorems for an ARBITRARY `parse : Str → Option IP`; its
`C10_valid_literal` needs the contract `ParseContract parse`.  Here `parse := parseIP` (the model of
`net.ParseIP`, tied to the real function by the correspondence run):

* `parseIP_contract` — the contract is a THEOREM for `parseIP` (it needs the IPv6 round trip);
* `C10P_*` — the headline theorems restated for `parseIP`;
* `C10P_xff_from_header`, `C10P_realip_from_header`, `C10P_result_denotes` — what the abstract
  version cannot say: an answer taken from a header is a text that `parseIP` accepts, it denotes
  exactly the address the decisive header entry denotes, that address has 16 bytes and its
  canonical text (`IP.String`) parses back to it; when the X-Forwarded-For scan stops at an
  untrusted hop the answer IS that canonical text.
-/
namespace C10

theorem parseIP_contract : ParseContract parseIP where
  string_parses := fun s ip h => by rw [parseIP_ipString_parse s ip h]; rfl
  no_space := parseIP_no_space

variable (cfg : Cfg)

/-! ## the headline theorems, instantiated -/

/-- **C10P_valid_literal** — with the real parser and no side condition: if the peer address is
    a valid IP literal, so is the reported client address (every extractor, configuration, request). -/
theorem C10P_valid_literal (e : Ext) (req : Req) (hd : (parseIP (peerOf req.remoteAddr)).isSome = true) :
    (parseIP (realIPCtx e cfg parseIP req)).isSome = true :=
  C10_valid_literal cfg parseIP parseIP_contract e req hd

theorem C10P_realip (req : Req) (h : extractRealIP cfg parseIP req ≠ peerOf req.remoteAddr) :
    trust cfg (parseD parseIP (peerOf req.remoteAddr)) = true ∧
    (∃ ip, parseIP (stripBrackets (req.realIP.headD [])) = some ip) ∧
    extractRealIP cfg parseIP req = stripBrackets (req.realIP.headD []) :=
  C10_realip cfg parseIP req h

theorem C10P_realip_untrusted_peer (req req' : Req) (hra : req.remoteAddr = req'.remoteAddr)
    (hu : trust cfg (parseD parseIP (peerOf req.remoteAddr)) = false) :
    extractRealIP cfg parseIP req = extractRealIP cfg parseIP req' ∧
    extractRealIP cfg parseIP req = peerOf req.remoteAddr :=
  C10_realip_untrusted_peer cfg parseIP req req' hra hu

theorem C10P_xff_suffix (d : Str) (pre pre' suf : List Str) (e : Str)
    (hsuf : ∀ t ∈ suf, TrustedTok cfg parseIP t) (he : Decisive cfg parseIP e) :
    xffList cfg parseIP d (pre ++ e :: suf) = xffList cfg parseIP d (pre' ++ e :: suf) :=
  C10_xff_suffix cfg parseIP d pre pre' suf e hsuf he

theorem C10P_xff_suffix_requests (req req' : Req) (pre pre' suf : List Str) (e : Str)
    (hra : req.remoteAddr = req'.remoteAddr) (hne : req.xff ≠ []) (hne' : req'.xff ≠ [])
    (h : entries req.xff (peerOf req.remoteAddr) = pre ++ e :: suf)
    (h' : entries req'.xff (peerOf req'.remoteAddr) = pre' ++ e :: suf)
    (hsuf : ∀ t ∈ suf, TrustedTok cfg parseIP t) (he : Decisive cfg parseIP e) :
    extractXFF cfg parseIP req = extractXFF cfg parseIP req' :=
  C10_xff_suffix_requests cfg parseIP req req' pre pre' suf e hra hne hne' h h' hsuf he

theorem C10P_xff_unparsable (d : Str) (pre suf : List Str) (e : Str)
    (hsuf : ∀ t ∈ suf, TrustedTok cfg parseIP t) (he : parseIP (norm e) = none) :
    xffList cfg parseIP d (pre ++ e :: suf) = d :=
  C10_xff_unparsable cfg parseIP d pre suf e hsuf he

theorem C10P_xff_rightmost_untrusted (d : Str) (pre suf : List Str) (e : Str) (ip : IP)
    (hsuf : ∀ t ∈ suf, TrustedTok cfg parseIP t) (he : parseIP (norm e) = some ip)
    (hu : trust cfg ip = false) :
    xffList cfg parseIP d (pre ++ e :: suf) = ipString ip :=
  C10_xff_rightmost_untrusted cfg parseIP d pre suf e ip hsuf he hu

theorem C10P_xff_untrusted_peer (req : Req) (he : Decisive cfg parseIP (peerOf req.remoteAddr)) :
    extractXFF cfg parseIP req = peerOf req.remoteAddr ∨
    ∃ ip, parseIP (norm (peerOf req.remoteAddr)) = some ip ∧ extractXFF cfg parseIP req = ipString ip :=
  C10_xff_untrusted_peer cfg parseIP req he

theorem C10P_xff_all_trusted (d : Str) (ips : List Str) (h : ∀ t ∈ ips, TrustedTok cfg parseIP t) :
    xffList cfg parseIP d ips = trimSpace (norm (ips.headD [])) :=
  C10_xff_all_trusted cfg parseIP d ips h

/-! ## concrete consequences of the rejection lemmas for the extractors -/

/-- an X-Forwarded-For entry carrying a zone, white space inside the (trimmed, unbracketed)
    text, a port, or any other byte outside `[0-9a-fA-F.:]` is an unparsable hop: if every hop
    to its right is trusted the answer is the peer address -/
theorem C10P_xff_bad_entry (d : Str) (pre suf : List Str) (e : Str) (c : Char)
    (hsuf : ∀ t ∈ suf, TrustedTok cfg parseIP t) (hc : c ∈ norm e) (hbad : okChar c = false) :
    xffList cfg parseIP d (pre ++ e :: suf) = d :=
  C10P_xff_unparsable cfg d pre suf e hsuf (parseIP_bad_char (norm e) c hc hbad)

/-- an X-Real-IP value with such a byte is never used -/
theorem C10P_realip_bad_header (req : Req) (c : Char) (hc : c ∈ stripBrackets (req.realIP.headD []))
    (hbad : okChar c = false) : extractRealIP cfg parseIP req = peerOf req.remoteAddr :=
  Decidable.byContradiction fun h => by
    obtain ⟨_, ⟨ip, hp⟩, _⟩ := C10P_realip cfg req h
    rw [parseIP_bad_char _ c hc hbad] at hp; cases hp

/-! ## the valid-literal rule, end to end -/

/-- **C10P_xff_from_header** — when the X-Forwarded-For extractor answers something other than
    the peer address, there is an entry `t` of the hop list (header entries, peer last) whose
    normalised text `parseIP` accepts as an address `ip`, and the ANSWER PARSES TO THAT SAME
    ADDRESS.  Either `ip` is the right-most untrusted hop and the answer is its canonical text
    `IP.String`, or every hop is trusted and the answer is the (normalised) left-most entry. -/
theorem C10P_xff_from_header (req : Req) (h : extractXFF cfg parseIP req ≠ peerOf req.remoteAddr) :
    ∃ t ∈ entries req.xff (peerOf req.remoteAddr), ∃ ip,
      parseIP (norm t) = some ip ∧ parseIP (extractXFF cfg parseIP req) = some ip ∧
      ((trust cfg ip = false ∧ extractXFF cfg parseIP req = ipString ip) ∨
       ((∀ t' ∈ entries req.xff (peerOf req.remoteAddr), TrustedTok cfg parseIP t') ∧
         extractXFF cfg parseIP req = norm t)) := by
  simp only [extractXFF, xffOf] at h ⊢
  split at h
  · exact absurd rfl h
  · rename_i hne
    rw [if_neg hne] at *
    unfold xffList at h ⊢
    cases hs : scan cfg parseIP (peerOf req.remoteAddr) (entries req.xff (peerOf req.remoteAddr)).reverse with
    | some r =>
      rw [hs] at h
      simp only at h ⊢
      rcases scan_some cfg parseIP _ _ r hs with hr | ⟨t, ht, ip, hp, hu, hr⟩
      · exact absurd hr h
      · refine ⟨t, by simpa using ht, ip, hp, ?_, .inl ⟨hu, hr⟩⟩
        rw [hr]; exact parseIP_ipString_parse _ ip hp
    | none =>
      simp only
      have hall := scan_none cfg parseIP _ _ hs
      have hall' : ∀ t' ∈ entries req.xff (peerOf req.remoteAddr), TrustedTok cfg parseIP t' :=
        fun t' ht' => hall t' (by simpa using ht')
      cases he : entries req.xff (peerOf req.remoteAddr) with
      | nil => simp [entries] at he
      | cons t ts =>
        rw [he] at hall'
        obtain ⟨ip, hp, _⟩ := hall' t (by simp)
        have hns : trimSpace (norm t) = norm t := parseIP_no_space _ (by simp [hp])
        simp only [List.headD_cons, hns]
        exact ⟨t, by simp, ip, hp, hp, .inr ⟨hall', rfl⟩⟩

/-- **C10P_realip_from_header** — when the X-Real-IP extractor answers something other than the
    peer address, the answer is the (bracket-stripped) header text, `parseIP` accepts it, it
    consists of hex digits, dots and colons only, and the canonical text of the address it
    denotes parses back to that address. -/
theorem C10P_realip_from_header (req : Req) (h : extractRealIP cfg parseIP req ≠ peerOf req.remoteAddr) :
    ∃ ip, parseIP (extractRealIP cfg parseIP req) = some ip ∧
      extractRealIP cfg parseIP req = stripBrackets (req.realIP.headD []) ∧
      (∀ c ∈ extractRealIP cfg parseIP req, okChar c = true) ∧
      ip.length = 16 ∧ parseIP (ipString ip) = some ip := by
  obtain ⟨_, ⟨ip, hp⟩, hr⟩ := C10P_realip cfg req h
  rw [hr]
  exact ⟨ip, hp, rfl, parseIP_chars _ ip hp, parseIP_length _ ip hp, parseIP_ipString_parse _ ip hp⟩

/-- **C10P_result_denotes** — every extractor, configuration and request: an answer that is not
    literally the peer address is a text `parseIP` accepts; the address it denotes has 16 bytes
    and is the one its canonical text denotes (valid-literal rule, end to end, no hypothesis). -/
theorem C10P_result_denotes (e : Ext) (req : Req) (h : realIPCtx e cfg parseIP req ≠ peerOf req.remoteAddr) :
    ∃ ip, parseIP (realIPCtx e cfg parseIP req) = some ip ∧ ip.length = 16 ∧
      parseIP (ipString ip) = some ip ∧ (∀ c ∈ realIPCtx e cfg parseIP req, okChar c = true) := by
  cases e with
  | direct => exact absurd rfl h
  | realIP =>
    obtain ⟨ip, hp, _, hc, hl, hs⟩ := C10P_realip_from_header cfg req h
    exact ⟨ip, hp, hl, hs, hc⟩
  | xff =>
    obtain ⟨_, _, ip, _, hp, _⟩ := C10P_xff_from_header cfg req h
    exact ⟨ip, hp, parseIP_length _ ip hp, parseIP_ipString_parse _ ip hp, parseIP_chars _ ip hp⟩

/-! ## non-vacuity: concrete requests through the concrete parser -/

section Examples

-- trusted peer, valid header: the header text is the answer, and it is an accepted literal
example : extractRealIP defaultCfg parseIP ⟨"10.0.0.1:80".toList, ["[2001:db8::1]".toList], []⟩ = "2001:db8::1".toList ∧
    extractRealIP defaultCfg parseIP ⟨"10.0.0.1:80".toList, ["[2001:db8::1]".toList], []⟩ ≠ peerOf "10.0.0.1:80".toList := by
  lit_chars; decide +kernel

-- a zone, a leading zero, a port, white space inside: the header is not used
example : extractRealIP defaultCfg parseIP ⟨"10.0.0.1:80".toList, ["fe80::1%eth0".toList], []⟩ = "10.0.0.1".toList ∧
    extractRealIP defaultCfg parseIP ⟨"10.0.0.1:80".toList, ["8.8.8.08".toList], []⟩ = "10.0.0.1".toList ∧
    extractRealIP defaultCfg parseIP ⟨"10.0.0.1:80".toList, ["8.8.8.8:53".toList], []⟩ = "10.0.0.1".toList ∧
    extractRealIP defaultCfg parseIP ⟨"10.0.0.1:80".toList, [" 8.8.8.8".toList], []⟩ = "10.0.0.1".toList := by lit_chars; decide +kernel

-- X-Forwarded-For: the right-most untrusted hop, in canonical form (upper case, long zero run, mapped form)
example : extractXFF defaultCfg parseIP ⟨"[::1]:80".toList, [], ["evil, 2001:DB8:0:0:0:0:0:A , 10.0.0.2".toList, "[fd00::1]".toList]⟩
    = "2001:db8::a".toList := by lit_chars; decide +kernel
example : extractXFF defaultCfg parseIP ⟨"10.0.0.1:80".toList, [], ["1.1.1.1, ::ffff:8.8.8.8".toList]⟩ = "8.8.8.8".toList := by lit_chars; decide +kernel

-- prefix independence, with its hypotheses discharged for the concrete parser
example :
    Decisive defaultCfg parseIP " 8.8.8.8".toList ∧
    (∀ t ∈ ["[10.0.0.2]".toList, "fe80::1".toList], TrustedTok defaultCfg parseIP t) ∧
    xffList defaultCfg parseIP "fe80::1".toList (["evil".toList, "::1".toList] ++ " 8.8.8.8".toList :: ["[10.0.0.2]".toList, "fe80::1".toList])
      = "8.8.8.8".toList := by
  lit_chars
  refine ⟨.inr ⟨v4 8 8 8 8, by decide +kernel, by decide +kernel⟩, ?_, by decide +kernel⟩
  intro t ht
  simp only [List.mem_cons, List.not_mem_nil, or_false] at ht
  rcases ht with rfl | rfl
  · exact ⟨v4 10 0 0 2, by decide +kernel, by decide +kernel⟩
  · exact ⟨[0xfe, 0x80, 0, 0, 0, 0, 0, 0, 0, 0, 0, 0, 0, 0, 0, 1], by decide +kernel, by decide +kernel⟩

-- an entry with a leading zero / a zone / a fifth field is an unparsable hop: the peer is the answer
example : extractXFF defaultCfg parseIP ⟨"10.0.0.1:80".toList, [], ["8.8.8.8, 010.0.0.2".toList]⟩ = "10.0.0.1".toList ∧
    extractXFF defaultCfg parseIP ⟨"10.0.0.1:80".toList, [], ["8.8.8.8, fe80::1%eth0".toList]⟩ = "10.0.0.1".toList ∧
    extractXFF defaultCfg parseIP ⟨"10.0.0.1:80".toList, [], ["8.8.8.8, 10.0.0.2.1".toList]⟩ = "10.0.0.1".toList := by lit_chars; decide +kernel

-- C10P_xff_from_header is not vacuous: an answer that differs from the peer
example : extractXFF defaultCfg parseIP ⟨"10.0.0.1:80".toList, [], ["8.8.8.8".toList]⟩ ≠ peerOf "10.0.0.1:80".toList := by lit_chars; decide +kernel

end Examples

end C10
