import EchoModel.C06
/-!
# C06 — theorems about the response model

Everything is stated for ALL handler programs (`List Op`, any length), all initial pending
statuses (`200` after `reset`, `0` after `NewResponse`, or anything else), all capacities
of the underlying writer (so for every pattern of short writes), and writers with and without
`http.Flusher` (`fl`).

Three specifications, each written independently of the model's control flow, carry the property:
`Inv`, the bookkeeping invariant (committed ↔ headers out, status/size = what was sent, at most one
`WriteHeader` call); `Scan`, the hook/order clause as an acceptor over event traces, with lemmas that
say what acceptance means (`scan_before_once`, `scan_after_each_write`); `firstStatus`, the status on
the wire as a function of the program text only.  The `C06_*` theorems say that the model meets them
after every program, after every request of a sequence served on one recycled context (`reset`
between them) and — `stepS true`, with the restriction stated there — on an underlying writer that
refuses invalid status codes.

Every operation is a short sequence of elementary actions, of which there are nine (`Act`, `acts`,
`step_fst`); what holds of every operation is proved action by action and lifted along that sequence.
-/
namespace C06

/-! ## the hook / ordering clause as an acceptor over traces (specification) -/

inductive Phase where
  | idle                          -- headers not out, no before-hook has run
  | running (rest : List Nat)     -- before-hooks are running; `rest` still to run
  | out (pend : List Nat)         -- headers out; `pend` = after-hooks owed to the last body write
deriving DecidableEq, Repr

structure Scan where
  bef : List Nat := []
  aft : List Nat := []
  ph : Phase := .idle
deriving DecidableEq, Repr

def Scan.quiet (σ : Scan) : Bool :=
  match σ.ph with
  | .idle => true
  | .out [] => true
  | _ => false

def Scan.next (σ : Scan) : Ev → Option Scan
  | .regB h => if σ.quiet then some { σ with bef := σ.bef ++ [h] } else none
  | .regA h => if σ.quiet then some { σ with aft := σ.aft ++ [h] } else none
  | .runB h =>
    match σ.ph with
    | .idle =>
      (match σ.bef with
       | h' :: rest => if h' = h then some { σ with ph := .running rest } else none
       | [] => none)
    | .running (h' :: rest) => if h' = h then some { σ with ph := .running rest } else none
    | _ => none
  | .hdr _ =>
    match σ.ph with
    | .idle => if σ.bef = [] then some { σ with ph := .out [] } else none
    | .running [] => some { σ with ph := .out [] }
    | _ => none
  | .impl => none
  | .body _ =>
    match σ.ph with
    | .out [] => some { σ with ph := .out σ.aft }
    | _ => none
  | .runA h =>
    match σ.ph with
    | .out (h' :: p) => if h' = h then some { σ with ph := .out p } else none
    | _ => none
  | .rflush =>
    match σ.ph with
    | .out [] => some σ
    | _ => none
  | .warn =>
    match σ.ph with
    | .out [] => some σ
    | _ => none

def scanFrom : Scan → List Ev → Option Scan
  | σ, [] => some σ
  | σ, e :: es =>
    match σ.next e with
    | none => none
    | some σ' => scanFrom σ' es

def traceOK (tr : List Ev) : Bool :=
  match scanFrom {} tr with
  | some σ => σ.quiet
  | none => false

theorem scanFrom_append (σ : Scan) (l₁ l₂ : List Ev) :
    scanFrom σ (l₁ ++ l₂) = (scanFrom σ l₁).bind (fun σ' => scanFrom σ' l₂) := by
  induction l₁ generalizing σ with
  | nil => rfl
  | cons e es ih =>
    simp only [List.cons_append, scanFrom]
    cases σ.next e with
    | none => rfl
    | some σ' => exact ih σ'

theorem scan_runB (b a : List Nat) (rest : List Nat) :
    scanFrom ⟨b, a, .running rest⟩ (rest.map .runB) = some ⟨b, a, .running []⟩ := by
  induction rest with
  | nil => rfl
  | cons h r ih => simpa [scanFrom, Scan.next] using ih

theorem scan_runB_idle (b a : List Nat) :
    scanFrom ⟨b, a, .idle⟩ (b.map .runB ++ [.hdr c]) = some ⟨b, a, .out []⟩ := by
  cases b with
  | nil => rfl
  | cons h r =>
    simp only [List.map_cons, List.cons_append, scanFrom, Scan.next, if_true]
    rw [scanFrom_append, scan_runB]
    rfl

theorem scan_runA (b a : List Nat) (pend : List Nat) :
    scanFrom ⟨b, a, .out pend⟩ (pend.map .runA) = some ⟨b, a, .out []⟩ := by
  induction pend with
  | nil => rfl
  | cons h r ih => simpa [scanFrom, Scan.next] using ih

/-! ## the invariant -/

def bodyBytes : List Ev → Nat
  | [] => 0
  | .body k :: r => k + bodyBytes r
  | _ :: r => bodyBytes r

def hdrCalls : List Ev → List Nat
  | [] => []
  | .hdr c :: r => c :: hdrCalls r
  | _ :: r => hdrCalls r

theorem bodyBytes_append (l₁ l₂ : List Ev) : bodyBytes (l₁ ++ l₂) = bodyBytes l₁ + bodyBytes l₂ := by
  induction l₁ with
  | nil => simp [bodyBytes]
  | cons e r ih => cases e <;> simp only [List.cons_append, bodyBytes, ih, Nat.add_assoc]

theorem hdrCalls_append (l₁ l₂ : List Ev) : hdrCalls (l₁ ++ l₂) = hdrCalls l₁ ++ hdrCalls l₂ := by
  induction l₁ with
  | nil => rfl
  | cons e r ih => cases e <;> simp only [List.cons_append, hdrCalls, ih]

@[simp] theorem bodyBytes_runB (l : List Nat) : bodyBytes (l.map .runB) = 0 := by
  induction l with
  | nil => rfl
  | cons h r ih => exact ih
@[simp] theorem bodyBytes_runA (l : List Nat) : bodyBytes (l.map .runA) = 0 := by
  induction l with
  | nil => rfl
  | cons h r ih => exact ih
@[simp] theorem hdrCalls_runB (l : List Nat) : hdrCalls (l.map .runB) = [] := by
  induction l with
  | nil => rfl
  | cons h r ih => exact ih
@[simp] theorem hdrCalls_runA (l : List Nat) : hdrCalls (l.map .runA) = [] := by
  induction l with
  | nil => rfl
  | cons h r ih => exact ih

/-- the scanner state that corresponds to a model state between two operations -/
def scanOf (s : St) : Scan := ⟨s.before, s.after, if s.committed then .out [] else .idle⟩

structure Inv (s : St) : Prop where
  /-- the committed flag tells whether the headers have gone out -/
  comm : s.committed = s.raw.sent.isSome
  /-- once out: the reported status is the one sent, by the one and only `WriteHeader` call -/
  sent : s.committed = true → s.raw.sent = some s.status ∧ s.raw.calls = [s.status]
  /-- before that: the underlying writer has not been touched at all -/
  unsent : s.committed = false → s.raw.calls = [] ∧ s.raw.body = 0 ∧ s.raw.flushes = 0
  /-- the reported size is the number of body bytes the writer accepted -/
  size : s.size = s.raw.body
  /-- hooks / order: the events so far are accepted by the specification `Scan` -/
  trace : scanFrom {} s.trace = some (scanOf s)
  /-- the writer's counters agree with the recorded events -/
  bodyTrace : bodyBytes s.trace = s.raw.body
  hdrTrace : hdrCalls s.trace = s.raw.calls

theorem scanOf_quiet (s : St) : (scanOf s).quiet = true := by
  unfold scanOf Scan.quiet
  cases s.committed <;> rfl

theorem Inv.calls_le {s : St} (h : Inv s) : s.raw.calls.length ≤ 1 := by
  cases hc : s.committed with
  | true => simp [(h.sent hc).2]
  | false => simp [(h.unsent hc).1]

theorem inv_init (p cap : Nat) (fl : Bool) : Inv (init p cap fl) where
  comm := rfl
  sent := nofun
  unsent _ := ⟨rfl, rfl, rfl⟩
  size := rfl
  trace := rfl
  bodyTrace := rfl
  hdrTrace := rfl

theorem Inv.sent_none {s : St} (h : Inv s) (hc : s.committed = false) : s.raw.sent = none :=
  Option.not_isSome_iff_eq_none.mp (h.comm ▸ hc ▸ Bool.false_ne_true)

theorem Inv.traceOK {s : St} (h : Inv s) : traceOK s.trace = true := by
  simp only [C06.traceOK, h.trace]
  exact scanOf_quiet s

theorem scanOf_committed {s : St} (hc : s.committed = true) : scanOf s = ⟨s.before, s.after, .out []⟩ := by
  simp [scanOf, hc]

/-- `Inv` survives recording events `es` that the acceptor takes and that contain no
    `WriteHeader` call, if the counters move by what the events say: the committed flag,
    what was sent and the call list stay; body and size grow by the bytes recorded; the
    status may only change, and bytes or flushes may only be recorded, on the side of the
    commit where `Inv` does not speak of them.  Every hypothesis defaults to "unchanged". -/
theorem Inv.record {s s' : St} (h : Inv s) (es : List Ev)
    (htr : s'.trace = s.trace ++ es := by rfl)
    (hscan : scanFrom (scanOf s) es = some ⟨s'.before, s'.after, (scanOf s).ph⟩ := by rfl)
    (hh : hdrCalls es = [] := by rfl)
    (hc : s'.committed = s.committed := by rfl)
    (hsent : s'.raw.sent = s.raw.sent := by rfl)
    (hcalls : s'.raw.calls = s.raw.calls := by rfl)
    (hbody : s'.raw.body = s.raw.body + bodyBytes es := by rfl)
    (hsize : s'.size = s.size + bodyBytes es := by rfl)
    (hst : s.committed = true → s'.status = s.status := by exact fun _ => rfl)
    (hun : s.committed = false → bodyBytes es = 0 ∧ s'.raw.flushes = s.raw.flushes := by
      exact fun _ => ⟨rfl, rfl⟩) : Inv s' where
  comm := by rw [hc, hsent]; exact h.comm
  sent := by
    intro hc'
    rw [hc] at hc'
    rw [hsent, hcalls, hst hc']
    exact h.sent hc'
  unsent := by
    intro hc'
    rw [hc] at hc'
    obtain ⟨u1, u2, u3⟩ := h.unsent hc'
    obtain ⟨v1, v2⟩ := hun hc'
    rw [hcalls, hbody, v1, v2]
    exact ⟨u1, u2, u3⟩
  size := by rw [hsize, hbody, h.size]
  trace := by
    rw [htr, scanFrom_append, h.trace]
    unfold scanOf at hscan ⊢
    rw [hc]
    exact hscan
  bodyTrace := by rw [htr, bodyBytes_append, h.bodyTrace, hbody]
  hdrTrace := by rw [htr, hdrCalls_append, hh, List.append_nil, h.hdrTrace, hcalls]

theorem Inv.headerMap {s : St} (h : Inv s) (ct : Nat) (loc : Bool) (disp st : Nat)
    (hst : s.committed = true → st = s.status) :
    Inv { s with ct := ct, loc := loc, disp := disp, status := st } :=
  h.record [] (htr := (List.append_nil _).symm) (hst := hst)

/-! ### what the pieces of response.go do, case by case -/

/-- the status `Write`/`Flush` commit with when nothing was set: `Status == 0` becomes 200
    (the same function as the model's `pendOf`, through which `commitAttempt` is written) -/
def pend (p : Nat) : Nat := if p = 0 then 200 else p

theorem writeHeader_committed_eq {s : St} (hc : s.committed = true) (c : Nat) :
    writeHeader s c = emit s [.warn] := by
  simp [writeHeader, hc]

theorem writeHeader_uncommitted_eq {s : St} (hc : s.committed = false) (hn : s.raw.sent = none)
    (c : Nat) :
    writeHeader s c =
      { s with committed := true, status := c,
               raw := { s.raw with calls := s.raw.calls ++ [c], sent := some c, sentCt := s.ct,
                                   sentLoc := s.loc, sentDisp := s.disp },
               trace := s.trace ++ (s.before.map .runB ++ [.hdr c]) } := by
  simp [writeHeader, hc, emit, rawWriteHeader, rawSend, hn]

theorem writeHeader_committed (s : St) (c : Nat) : (writeHeader s c).committed = true := by
  unfold writeHeader; split <;> simp_all [emit]

theorem ensureCommitted_of_committed {s : St} (hc : s.committed = true) : ensureCommitted s = s := by
  simp [ensureCommitted, hc]

/-- `Write` and `Flush` on an uncommitted response begin with `WriteHeader(pend Status)`:
    the preliminary `Status = 200` is overwritten by the call it prepares -/
theorem ensureCommitted_uncommitted {s : St} (hc : s.committed = false) :
    ensureCommitted s = writeHeader s (pend s.status) := by
  by_cases h0 : s.status = 0 <;> simp [ensureCommitted, pend, writeHeader, hc, h0]

theorem ensureCommitted_committed (s : St) : (ensureCommitted s).committed = true := by
  cases hc : s.committed with
  | true => rw [ensureCommitted_of_committed hc, hc]
  | false => rw [ensureCommitted_uncommitted hc]; exact writeHeader_committed _ _

/-- bytes the writer accepts of an `n`-byte write -/
def accepted (t : St) (n : Nat) : Nat := min n (t.raw.cap - t.raw.body)

theorem write_committed_eq {t : St} {v : Nat} (hc : t.committed = true) (hs : t.raw.sent = some v)
    (n : Nat) :
    write t n =
      ({ t with size := t.size + accepted t n,
                raw := { t.raw with body := t.raw.body + accepted t n },
                trace := t.trace ++ ([.body (accepted t n)] ++ t.after.map .runA) },
       accepted t n, decide (accepted t n < n)) := by
  have hr : rawWrite t n =
      ({ t with raw := { t.raw with body := t.raw.body + accepted t n },
                trace := t.trace ++ [.body (accepted t n)] }, accepted t n) := by
    simp [rawWrite, rawImplicit, hs, emit, accepted]
  simp [write, ensureCommitted_of_committed hc, hr, emit]

theorem flush_committed_eq {t : St} {v : Nat} (hc : t.committed = true) (hs : t.raw.sent = some v) :
    flush t =
      if t.raw.canFlush then
        { t with raw := { t.raw with flushes := t.raw.flushes + 1 }, trace := t.trace ++ [.rflush] }
      else t := by
  simp [flush, ensureCommitted_of_committed hc, rawFlush, rawImplicit, hs, emit]

theorem write_eq_ensure (s : St) (n : Nat) : write s n = write (ensureCommitted s) n := by
  simp [write, ensureCommitted_of_committed (ensureCommitted_committed s)]

theorem flush_eq_ensure (s : St) : flush s = flush (ensureCommitted s) := by
  simp only [flush, ensureCommitted_of_committed (ensureCommitted_committed s)]

theorem writes_single (s : St) (n : Nat) : (writes s [n]).1 = (write s n).1 := by
  simp only [writes]; split <;> rfl

theorem writes_induction {P : St → Prop} (hw : ∀ s n, P s → P (write s n).1) (l : List Nat) :
    ∀ {s}, P s → P (writes s l).1 := by
  induction l with
  | nil => exact id
  | cons n ns ih =>
    intro s h
    simp only [writes]
    split
    · exact hw s n h
    · exact ih (hw s n h)

/-! ### preservation -/

theorem inv_writeHeader {s : St} (h : Inv s) (c : Nat) : Inv (writeHeader s c) := by
  cases hc : s.committed with
  | true =>
    rw [writeHeader_committed_eq hc]
    exact h.record [.warn] (hscan := by rw [scanOf_committed hc]; rfl) (hun := by simp [hc])
  | false =>
    have hu := h.unsent hc
    rw [writeHeader_uncommitted_eq hc (h.sent_none hc)]
    exact {
      comm := rfl
      sent := fun _ => ⟨rfl, by simp [hu.1]⟩
      unsent := by simp
      size := h.size
      trace := by
        simp only
        rw [scanFrom_append, h.trace]
        simp only [scanOf, hc, Option.bind]
        exact scan_runB_idle _ _
      bodyTrace := by simpa [bodyBytes_append, bodyBytes] using h.bodyTrace
      hdrTrace := by simp [hdrCalls_append, hdrCalls, h.hdrTrace, hu.1] }

theorem inv_ensureCommitted {s : St} (h : Inv s) : Inv (ensureCommitted s) := by
  cases hc : s.committed with
  | true => rw [ensureCommitted_of_committed hc]; exact h
  | false => rw [ensureCommitted_uncommitted hc]; exact inv_writeHeader h _

theorem inv_write_committed {t : St} (h : Inv t) (hc : t.committed = true) (n : Nat) :
    Inv (write t n).1 := by
  have hb : bodyBytes ([.body (accepted t n)] ++ t.after.map .runA) = accepted t n := by
    simp [bodyBytes]
  rw [write_committed_eq hc (h.sent hc).1]
  exact h.record ([.body (accepted t n)] ++ t.after.map .runA)
    (hscan := by
      rw [scanOf_committed hc]
      simpa [scanFrom, Scan.next] using scan_runA t.before t.after t.after)
    (hh := by simp [hdrCalls]) (hbody := by rw [hb]) (hsize := by rw [hb]) (hun := by simp [hc])

theorem inv_write {s : St} (h : Inv s) (n : Nat) : Inv (write s n).1 := by
  rw [write_eq_ensure]
  exact inv_write_committed (inv_ensureCommitted h) (ensureCommitted_committed s) n

theorem inv_flush {s : St} (h : Inv s) : Inv (flush s) := by
  have h1 := inv_ensureCommitted h
  have hc := ensureCommitted_committed s
  rw [flush_eq_ensure, flush_committed_eq hc (h1.sent hc).1]
  split
  · exact h1.record [.rflush] (hscan := by rw [scanOf_committed hc]; rfl) (hun := by simp [hc])
  · exact h1

theorem inv_writes {s : St} (h : Inv s) (l : List Nat) : Inv (writes s l).1 :=
  writes_induction (P := Inv) (fun _ n h => inv_write h n) l h

theorem inv_writeCT {s : St} (h : Inv s) (v : Nat) : Inv (writeCT s v) := by
  unfold writeCT
  split
  · exact h.headerMap v _ _ _ (fun _ => rfl)
  · exact h

/-! ### the operations as sequences of elementary actions -/

/-- what the operations are made of: the three header-map entries the helpers touch, the status
    preset of `context.json` (with the F6 repair), `Response.WriteHeader`, a run of `Write`s that
    stops at the first error, `Response.Flush`, hook registration -/
inductive Act where
  | ct (v : Nat)
  | loc
  | disp (d : Nat)
  | preset (c : Nat)
  | hdr (c : Nat)
  | writes (l : List Nat)
  | flush
  | regB (h : Nat)
  | regA (h : Nat)

def Act.exec (s : St) : Act → St
  | .ct v => writeCT s v
  | .loc => { s with loc := true }
  | .disp d => if d = 0 then s else { s with disp := d }
  | .preset c => if s.committed then emit s [.warn] else { s with status := c }
  | .hdr c => writeHeader s c
  | .writes l => (C06.writes s l).1
  | .flush => C06.flush s
  | .regB h => emit { s with before := s.before ++ [h] } [.regB h]
  | .regA h => emit { s with after := s.after ++ [h] } [.regA h]

/-- the state part of `step`, read off its definition line by line -/
def acts : Op → List Act
  | .writeHeader c | .noContent c => [.hdr c]
  | .write n | .writeString n => [.writes [n]]
  | .flush | .flushRC | .flushFE => [.flush]
  | .before h => [.regB h]
  | .after h => [.regA h]
  | .json c k ok => .ct ctJSON :: .preset c :: if ok then [.writes [k + 3]] else []
  | .blob c ct n => [.ct ct, .hdr c, .writes [n]]
  | .redirect c => if c < 300 ∨ c > 308 then [] else [.loc, .hdr c]
  | .stream c chunks _ => [.ct ctStream, .hdr c, .writes (chunks.filter (· ≠ 0))]
  | .xmlBlob c n => [.ct ctXML, .hdr c, .writes [xmlHeaderLen, n]]
  | .jsonpBlob c cb n => [.ct ctJS, .hdr c, .writes [cb + 1, n, 2]]
  | .unwrap | .hijack => []
  | .copy chunks _ => [.writes (chunks.filter (· ≠ 0))]
  | .jsonp c cb k ok => [.ct ctJS, .hdr c, .writes (if ok then [cb + 1, k + 3, 2] else [cb + 1])]
  | .xml c k ok => [.ct ctXML, .hdr c, .writes (if ok then [xmlHeaderLen, k + 17] else [xmlHeaderLen])]
  | .render c n ok => if ok then [.ct ctHTML, .hdr c, .writes [n]] else []
  | .file found n disp ct =>
    .disp disp :: if found then [.ct ct, .hdr 200, .writes ([n].filter (· ≠ 0))] else []
  | .copyWT n => [.writes ([n].filter (· ≠ 0))]

theorem step_fst (s : St) (op : Op) : (step s op).1 = (acts op).foldl Act.exec s := by
  cases op with
  | json c k ok =>
    cases ok with
    | true => exact (writes_single _ _).symm
    | false => rfl
  | redirect c => simp only [step, acts]; split <;> rfl
  | render c n ok =>
    cases ok with
    | true => exact (writes_single _ _).symm
    | false => rfl
  | file found n disp ct => cases found <;> rfl
  -- rewriting with the equations of `step` is much cheaper than unfolding it (`rfl`)
  | _ => simp only [step, acts, List.foldl, Act.exec, writes_single]

theorem inv_exec {s : St} (h : Inv s) (a : Act) : Inv (a.exec s) := by
  cases a with
  | ct v => exact inv_writeCT h v
  | loc => exact h.headerMap _ true _ _ (fun _ => rfl)
  | disp d =>
    simp only [Act.exec]
    split
    · exact h
    · exact h.headerMap _ _ d _ (fun _ => rfl)
  | preset c =>
    cases hc : s.committed with
    | true =>
      rw [Act.exec, if_pos hc, ← writeHeader_committed_eq hc c]
      exact inv_writeHeader h c
    | false =>
      rw [Act.exec, if_neg (by simp [hc])]
      exact h.headerMap _ _ _ c (by simp [hc])
  | hdr c => exact inv_writeHeader h c
  | writes l => exact inv_writes h l
  | flush => exact inv_flush h
  -- hooks are registered between operations, where the acceptor is quiet
  | regB k => exact h.record [.regB k] (hscan := by simp only [scanFrom, Scan.next, scanOf_quiet]; rfl)
  | regA k => exact h.record [.regA k] (hscan := by simp only [scanFrom, Scan.next, scanOf_quiet]; rfl)

theorem inv_acts {s : St} (h : Inv s) (l : List Act) : Inv (l.foldl Act.exec s) :=
  l.foldlRecOn Act.exec h fun _ h a _ => inv_exec h a

theorem inv_step {s : St} (h : Inv s) (op : Op) : Inv (step s op).1 := by
  rw [step_fst]; exact inv_acts h _

theorem inv_run {s : St} (h : Inv s) (prog : List Op) : Inv (run s prog) :=
  prog.foldlRecOn _ h fun _ h op _ => inv_step h op

/-- **C06_inv** — the bookkeeping invariant holds after every handler program, from every
    initial pending status and for every capacity of the underlying writer. -/
theorem C06_inv (p cap : Nat) (fl : Bool) (prog : List Op) : Inv (run (init p cap fl) prog) :=
  inv_run (inv_init p cap fl) prog

/-! ## what is sent and reported: first status wins, later status writes are ignored and logged -/

/-- the header-related view of a state: `Committed`, `Status`, what the writer sent, the
    `WriteHeader` calls it received, and the number of "already committed" warnings -/
structure HV where
  committed : Bool
  status : Nat
  sent : Option Nat
  calls : List Nat
  warns : Nat
deriving DecidableEq, Repr

def hv (s : St) : HV := ⟨s.committed, s.status, s.raw.sent, s.raw.calls, countWarn s.trace⟩

/-- what the header block carried when it went out: Content-Type, Location, Content-Disposition -/
def sh (s : St) : Nat × Bool × Nat := (s.raw.sentCt, s.raw.sentLoc, s.raw.sentDisp)

/-- headers are out and `Committed` says so -/
def Sent (t : St) : Prop := t.committed = true ∧ ∃ v, t.raw.sent = some v

theorem Inv.toSent {s : St} (h : Inv s) (hc : s.committed = true) : Sent s :=
  ⟨hc, s.status, (h.sent hc).1⟩

theorem Sent.of_hv {a b : St} {w : Nat} (h : hv a = { hv b with warns := w }) (hb : Sent b) : Sent a := by
  simp only [hv, HV.mk.injEq] at h
  obtain ⟨h1, _, h3, _⟩ := h
  exact ⟨h1 ▸ hb.1, by rw [h3]; exact hb.2⟩

theorem countWarn_append (a b : List Ev) : countWarn (a ++ b) = countWarn a + countWarn b := by
  simp [countWarn, List.count_append]

@[simp] theorem countWarn_runA (l : List Nat) : countWarn (l.map .runA) = 0 := by
  induction l with
  | nil => rfl
  | cons h r ih => simpa [countWarn, List.count_cons] using ih

@[simp] theorem countWarn_runB (l : List Nat) : countWarn (l.map .runB) = 0 := by
  induction l with
  | nil => rfl
  | cons h r ih => simpa [countWarn, List.count_cons] using ih

def Act.carries : Act → Bool
  | .hdr _ | .preset _ => true
  | _ => false

theorem sent_emit (s : St) (es : List Ev) :
    hv (emit s es) = { hv s with warns := (hv s).warns + countWarn es } ∧ sh (emit s es) = sh s :=
  ⟨by simp only [hv, emit, countWarn_append], rfl⟩

theorem sent_write {t : St} (ht : Sent t) (n : Nat) :
    hv (write t n).1 = hv t ∧ sh (write t n).1 = sh t := by
  obtain ⟨hc, v, hs⟩ := ht
  rw [write_committed_eq hc hs]
  refine ⟨?_, rfl⟩
  simp only [hv]
  rw [countWarn_append, countWarn_append, countWarn_runA]
  rfl

theorem sent_writes {t : St} (ht : Sent t) (l : List Nat) :
    hv (writes t l).1 = hv t ∧ sh (writes t l).1 = sh t :=
  (writes_induction (P := fun u => Sent u ∧ hv u = hv t ∧ sh u = sh t)
    (fun _ n ⟨hu, h1, h2⟩ =>
      have ⟨g1, g2⟩ := sent_write hu n
      ⟨Sent.of_hv g1 hu, g1.trans h1, g2.trans h2⟩) l ⟨ht, rfl, rfl⟩).2

theorem sent_flush {t : St} (ht : Sent t) : hv (flush t) = hv t ∧ sh (flush t) = sh t := by
  obtain ⟨hc, v, hs⟩ := ht
  rw [flush_committed_eq hc hs]
  split
  · exact sent_emit { t with raw := { t.raw with flushes := t.raw.flushes + 1 } } [.rflush]
  · exact ⟨rfl, rfl⟩

theorem sent_exec {s : St} (hs : Sent s) (a : Act) :
    hv (a.exec s) = { hv s with warns := (hv s).warns + if a.carries then 1 else 0 } ∧
    sh (a.exec s) = sh s := by
  cases a with
  | ct v => simp only [Act.exec, writeCT]; split <;> exact ⟨rfl, rfl⟩
  | loc => exact ⟨rfl, rfl⟩
  | disp d => simp only [Act.exec]; split <;> exact ⟨rfl, rfl⟩
  | preset c => rw [Act.exec, if_pos hs.1]; exact sent_emit s [.warn]
  | hdr c => rw [Act.exec, writeHeader_committed_eq hs.1]; exact sent_emit s [.warn]
  | writes l => exact sent_writes hs l
  | flush => exact sent_flush hs
  | regB k => exact sent_emit _ [.regB k]
  | regA k => exact sent_emit _ [.regA k]

theorem sent_acts {s : St} (hs : Sent s) (l : List Act) :
    hv (l.foldl Act.exec s) = { hv s with warns := (hv s).warns + l.countP Act.carries } ∧
    sh (l.foldl Act.exec s) = sh s := by
  induction l generalizing s with
  | nil => exact ⟨rfl, rfl⟩
  | cons a l ih =>
    obtain ⟨h1, h2⟩ := sent_exec hs a
    obtain ⟨g1, g2⟩ := ih (Sent.of_hv h1 hs)
    rw [List.foldl_cons, g1, g2, h1, h2, List.countP_cons]
    exact ⟨by rw [Nat.add_assoc, Nat.add_comm (List.countP _ _)], rfl⟩

/-- does the operation carry a status code that it tries to set? -/
def carriesStatus : Op → Bool
  | .writeHeader _ | .json _ _ _ | .blob _ _ _ | .noContent _ | .stream _ _ _ | .xmlBlob _ _
  | .jsonpBlob _ _ _ | .jsonp _ _ _ _ | .xml _ _ _ => true
  | .redirect c => !(decide (c < 300 ∨ c > 308))
  | .render _ _ ok => ok          -- without a rendered page no status write is attempted
  | .file found _ _ _ => found    -- ServeContent's `WriteHeader(200)`; a missing file attempts none
  | .write _ | .flush | .before _ | .after _ | .flushRC | .flushFE | .unwrap | .copy _ _ | .writeString _ | .copyWT _
  | .hijack => false

theorem carries_acts (op : Op) : (acts op).countP Act.carries = if carriesStatus op then 1 else 0 := by
  cases op with
  | json c k ok => cases ok <;> rfl
  | redirect c => simp only [acts, carriesStatus]; split <;> simp [*, Act.carries]
  | render c n ok => cases ok <;> rfl
  | file found n disp ct => cases found <;> rfl
  | _ => rfl

theorem sent_step {s : St} (hs : Sent s) (op : Op) :
    hv (step s op).1 = { hv s with warns := (hv s).warns + if carriesStatus op then 1 else 0 } ∧
    sh (step s op).1 = sh s := by
  rw [step_fst, ← carries_acts]; exact sent_acts hs _

theorem Sent.writeHeader {t : St} (ht : Sent t) (c : Nat) : Sent (writeHeader t c) := by
  rw [writeHeader_committed_eq ht.1]; exact ⟨ht.1, ht.2⟩

/-- **C06_late_writeHeader_ignored** — `WriteHeader` on a committed response changes nothing
    on the underlying writer and nothing in `Status`/`Size`/`Committed`; it only logs. -/
theorem C06_late_writeHeader_ignored (s : St) (hc : s.committed = true) (c : Nat) :
    (writeHeader s c).raw = s.raw ∧ (writeHeader s c).status = s.status ∧
    (writeHeader s c).size = s.size ∧ (writeHeader s c).committed = true ∧
    (writeHeader s c).trace = s.trace ++ [.warn] := by
  rw [writeHeader_committed_eq hc]
  exact ⟨rfl, rfl, rfl, hc, rfl⟩

/-- **C06_committed_stable** — once the headers are out, NO operation (status write, body
    write, flush, helper, hook registration) changes the committed flag, the reported status,
    the status that was sent, or the list of `WriteHeader` calls the underlying writer
    received; a status-carrying operation is logged exactly once, the others not at all. -/
theorem C06_committed_stable {s : St} (h : Inv s) (hc : s.committed = true) (op : Op) :
    let s' := (step s op).1
    s'.committed = true ∧ s'.status = s.status ∧ s'.raw.sent = s.raw.sent ∧
    s'.raw.calls = s.raw.calls ∧
    countWarn s'.trace = countWarn s.trace + (if carriesStatus op then 1 else 0) := by
  have := (sent_step (h.toSent hc) op).1
  simp only [hv, HV.mk.injEq] at this
  obtain ⟨h1, h2, h3, h4, h5⟩ := this
  exact ⟨h1.trans hc, h2, h3, h4, h5⟩

/-- **C06_ignored_status_logged** — a status write on a committed response is logged. -/
theorem C06_ignored_status_logged {s : St} (h : Inv s) (hc : s.committed = true) (op : Op)
    (hop : carriesStatus op = true) :
    countWarn (step s op).1.trace = countWarn s.trace + 1 := by
  have := (C06_committed_stable h hc op).2.2.2.2
  rwa [hop] at this

theorem sent_run {s : St} (hs : Sent s) (prog : List Op) :
    (∃ w, hv (run s prog) = { hv s with warns := w }) ∧ sh (run s prog) = sh s := by
  induction prog generalizing s with
  | nil => exact ⟨⟨_, rfl⟩, rfl⟩
  | cons op ops ih =>
    obtain ⟨h1, h2⟩ := sent_step hs op
    obtain ⟨⟨w, g1⟩, g2⟩ := ih (Sent.of_hv h1 hs)
    exact ⟨⟨w, by rw [show run s (op :: ops) = run (step s op).1 ops from rfl, g1, h1]⟩, g2.trans h2⟩

/-! ### first status wins: an independent specification read off the program text -/

inductive Eff where
  | commits (c : Nat)    -- the operation makes the headers go out with status `c`
  | pending (p : Nat)    -- the headers stay in; the pending status is `p` afterwards
deriving DecidableEq, Repr

/-- effect of an operation on an UNCOMMITTED response with pending status `p` -/
def opEffect (p : Nat) : Op → Eff
  | .writeHeader c => .commits c
  | .write _ => .commits (pend p)
  | .flush => .commits (pend p)
  | .before _ => .pending p
  | .after _ => .pending p
  | .json c _ ok => if ok then .commits (pend c) else .pending c
  | .blob c _ _ => .commits c
  | .noContent c => .commits c
  | .redirect c => if c < 300 ∨ c > 308 then .pending p else .commits c
  | .stream c _ _ => .commits c
  | .xmlBlob c _ => .commits c
  | .jsonpBlob c _ _ => .commits c
  | .flushRC => .commits (pend p)
  | .flushFE => .commits (pend p)
  | .unwrap => .pending p
  | .copy chunks _ => if chunks.filter (· ≠ 0) = [] then .pending p else .commits (pend p)
  | .writeString _ => .commits (pend p)
  | .copyWT n => if [n].filter (· ≠ 0) = [] then .pending p else .commits (pend p)
  | .jsonp c _ _ _ => .commits c         -- also when the value cannot be serialised
  | .xml c _ _ => .commits c             -- also when the value cannot be encoded
  | .render c _ ok => if ok then .commits c else .pending p
  | .file found _ _ _ => if found then .commits 200 else .pending p
  | .hijack => .pending p

/-- the first status set by a program started with pending status `p` (`none`: the program
    never sends anything) -/
def firstStatus : Nat → List Op → Option Nat
  | _, [] => none
  | p, op :: ops =>
    match opEffect p op with
    | .commits c => some c
    | .pending p' => firstStatus p' ops

/-- header view right after the commit with status `c` -/
def committedWith (s : St) (c : Nat) : HV := ⟨true, c, some c, [c], countWarn s.trace⟩

theorem hv_writeHeader_unsent {s : St} (h : Inv s) (hc : s.committed = false) (c : Nat) :
    hv (writeHeader s c) = committedWith s c := by
  rw [writeHeader_uncommitted_eq hc (h.sent_none hc)]
  simp [hv, committedWith, (h.unsent hc).1, countWarn_append]
  rfl

theorem Sent.of_hv_out {t : St} {c w : Nat} (h : hv t = ⟨true, c, some c, [c], w⟩) : Sent t := by
  simp only [hv, HV.mk.injEq] at h
  exact ⟨h.1, c, h.2.2.1⟩

theorem hv_ensureCommitted_unsent {s : St} (h : Inv s) (hc : s.committed = false) :
    hv (ensureCommitted s) = committedWith s (pend s.status) := by
  rw [ensureCommitted_uncommitted hc]; exact hv_writeHeader_unsent h hc _

theorem hv_flush_unsent {s : St} (h : Inv s) (hc : s.committed = false) :
    hv (flush s) = committedWith s (pend s.status) := by
  have h1 := hv_ensureCommitted_unsent h hc
  rw [flush_eq_ensure, (sent_flush (Sent.of_hv_out h1)).1]
  exact h1

theorem hv_writes_unsent_cons {s : St} (h : Inv s) (hc : s.committed = false) (n : Nat) (ns : List Nat) :
    hv (writes s (n :: ns)).1 = committedWith s (pend s.status) := by
  have h1 := hv_ensureCommitted_unsent h hc
  have hs := Sent.of_hv_out h1
  have h2 : hv (write s n).1 = committedWith s (pend s.status) := by
    rw [write_eq_ensure, (sent_write hs n).1]; exact h1
  simp only [writes]
  split
  · exact h2
  · rw [(sent_writes (Sent.of_hv_out h2) ns).1]; exact h2

/-- what an action does to an UNCOMMITTED response with pending status `p` -/
def Act.effect (p : Nat) : Act → Eff
  | .hdr c => .commits c
  | .flush | .writes (_ :: _) => .commits (pend p)
  | .preset c => .pending c
  | _ => .pending p

/-- the same for a sequence of actions: the first commit decides -/
def effects : Nat → List Act → Eff
  | p, [] => .pending p
  | p, a :: as =>
    match a.effect p with
    | .commits c => .commits c
    | .pending p' => effects p' as

theorem exec_effect {s : St} (h : Inv s) (hc : s.committed = false) (a : Act) :
    match a.effect s.status with
    | .commits c => hv (a.exec s) = committedWith s c
    | .pending p => (a.exec s).committed = false ∧ (a.exec s).status = p := by
  cases a with
  | ct v => simp only [Act.effect, Act.exec, writeCT]; split <;> exact ⟨hc, rfl⟩
  | disp d => simp only [Act.effect, Act.exec]; split <;> exact ⟨hc, rfl⟩
  | preset c => rw [Act.exec, if_neg (by simp [hc])]; exact ⟨hc, rfl⟩
  | hdr c => exact hv_writeHeader_unsent h hc c
  | writes l =>
    cases l with
    | nil => exact ⟨hc, rfl⟩
    | cons n ns => exact hv_writes_unsent_cons h hc n ns
  | flush => exact hv_flush_unsent h hc
  | loc | regB k | regA k => exact ⟨hc, rfl⟩

theorem acts_effect {s : St} (h : Inv s) (hc : s.committed = false) (l : List Act) :
    match effects s.status l with
    | .commits c => ∃ w, hv (l.foldl Act.exec s) = ⟨true, c, some c, [c], w⟩
    | .pending p => (l.foldl Act.exec s).committed = false ∧ (l.foldl Act.exec s).status = p := by
  induction l generalizing s with
  | nil => exact ⟨hc, rfl⟩
  | cons a l ih =>
    have he := exec_effect h hc a
    simp only [effects, List.foldl_cons]
    cases hea : a.effect s.status with
    | commits c =>
      rw [hea] at he
      rw [(sent_acts (Sent.of_hv_out he) l).1, he]
      exact ⟨_, rfl⟩
    | pending p =>
      rw [hea] at he
      have := ih (inv_exec h a) he.1
      rwa [he.2] at this

theorem effects_writes (p : Nat) (l : List Nat) :
    effects p [.writes l] = if l = [] then .pending p else .commits (pend p) := by
  cases l <;> rfl

theorem opEffect_eq (p : Nat) (op : Op) : opEffect p op = effects p (acts op) := by
  cases op with
  | json c k ok => cases ok <;> rfl
  | redirect c => simp only [opEffect, acts]; split <;> rfl
  | copy chunks rerr => exact (effects_writes _ _).symm
  | copyWT n => exact (effects_writes _ _).symm
  | render c n ok => cases ok <;> rfl
  | file found n disp ct => cases found <;> rfl
  | _ => rfl

theorem step_effect {s : St} (h : Inv s) (hc : s.committed = false) (op : Op) :
    match opEffect s.status op with
    | .commits c => ∃ w, hv (step s op).1 = ⟨true, c, some c, [c], w⟩
    | .pending p' => (step s op).1.committed = false ∧ (step s op).1.status = p' := by
  rw [step_fst, opEffect_eq]; exact acts_effect h hc _

theorem first_status_run {s : St} (h : Inv s) (hc : s.committed = false) (prog : List Op) :
    (run s prog).raw.sent = firstStatus s.status prog ∧
    (run s prog).raw.calls = (firstStatus s.status prog).toList ∧
    (∀ c, firstStatus s.status prog = some c → (run s prog).status = c) := by
  induction prog generalizing s with
  | nil =>
    exact ⟨h.sent_none hc, (h.unsent hc).1, by intro c hcc; simp [firstStatus] at hcc⟩
  | cons op ops ih =>
    have he := step_effect h hc op
    simp only [firstStatus]
    show (run (step s op).1 ops).raw.sent = _ ∧ (run (step s op).1 ops).raw.calls = _ ∧ _
    cases hop : opEffect s.status op with
    | commits c =>
      rw [hop] at he
      obtain ⟨w, he⟩ := he
      obtain ⟨⟨w', g⟩, _⟩ := sent_run (Sent.of_hv_out he) ops
      rw [he] at g
      simp only [hv, HV.mk.injEq] at g
      obtain ⟨_, g2, g3, g4, _⟩ := g
      exact ⟨g3, by rw [g4]; rfl, fun c' hcc => Option.some.inj hcc ▸ g2⟩
    | pending p' =>
      rw [hop] at he
      obtain ⟨e1, e2⟩ := he
      have := ih (inv_step h op) e1
      rwa [e2] at this

/-- **C06_first_status_wins** — for every program: the status the underlying writer sent is
    the first status the program set (`firstStatus`, a function of the program text alone);
    the writer received exactly that one `WriteHeader` call (or none at all if the program
    never sends), and `Response.Status` reports it at the end of the program, whatever later
    operations tried to set. -/
theorem C06_first_status_wins (p cap : Nat) (fl : Bool) (prog : List Op) :
    (run (init p cap fl) prog).raw.sent = firstStatus p prog ∧
    (run (init p cap fl) prog).raw.calls = (firstStatus p prog).toList ∧
    (∀ c, firstStatus p prog = some c → (run (init p cap fl) prog).status = c) :=
  first_status_run (inv_init p cap fl) rfl prog

/-! ## what acceptance by `Scan` means (lemmas about the specification itself, for ANY trace) -/

def isRegB? : Ev → Option Nat | .regB h => some h | _ => none
def isRunB? : Ev → Option Nat | .runB h => some h | _ => none
def isRegA? : Ev → Option Nat | .regA h => some h | _ => none
/-- before-hooks registered / executed / after-hooks registered in a trace, in order -/
def regBs (l : List Ev) : List Nat := l.filterMap isRegB?
def runBs (l : List Ev) : List Nat := l.filterMap isRunB?
def regAs (l : List Ev) : List Nat := l.filterMap isRegA?
/-- events that may precede the headers: hook registrations and before-hook executions -/
def isPre : Ev → Bool
  | .regB _ | .regA _ | .runB _ => true
  | _ => false

theorem regBs_append (a b : List Ev) : regBs (a ++ b) = regBs a ++ regBs b := List.filterMap_append
theorem runBs_append (a b : List Ev) : runBs (a ++ b) = runBs a ++ runBs b := List.filterMap_append
theorem regAs_append (a b : List Ev) : regAs (a ++ b) = regAs a ++ regAs b := List.filterMap_append

/-- the transitions of the acceptor: one rule for each way `Scan.next` takes an event -/
inductive Scan.Step : Scan → Ev → Scan → Prop
  | regB_idle : Step ⟨b, a, .idle⟩ (.regB h) ⟨b ++ [h], a, .idle⟩
  | regB_out : Step ⟨b, a, .out []⟩ (.regB h) ⟨b ++ [h], a, .out []⟩
  | regA_idle : Step ⟨b, a, .idle⟩ (.regA h) ⟨b, a ++ [h], .idle⟩
  | regA_out : Step ⟨b, a, .out []⟩ (.regA h) ⟨b, a ++ [h], .out []⟩
  | runB_first : Step ⟨h :: r, a, .idle⟩ (.runB h) ⟨h :: r, a, .running r⟩
  | runB_next : Step ⟨b, a, .running (h :: r)⟩ (.runB h) ⟨b, a, .running r⟩
  | hdr_idle : Step ⟨[], a, .idle⟩ (.hdr c) ⟨[], a, .out []⟩
  | hdr_run : Step ⟨b, a, .running []⟩ (.hdr c) ⟨b, a, .out []⟩
  | body : Step ⟨b, a, .out []⟩ (.body k) ⟨b, a, .out a⟩
  | runA : Step ⟨b, a, .out (h :: p)⟩ (.runA h) ⟨b, a, .out p⟩
  | rflush : Step ⟨b, a, .out []⟩ .rflush ⟨b, a, .out []⟩
  | warn : Step ⟨b, a, .out []⟩ .warn ⟨b, a, .out []⟩

theorem Scan.Step.of_next {σ σ' : Scan} {e : Ev} (h : σ.next e = some σ') : Step σ e σ' := by
  obtain ⟨b, a, ph⟩ := σ
  cases e with
  | regB k | regA k =>
    rcases ph with _ | r | (_ | ⟨x, p⟩) <;> simp [Scan.next, Scan.quiet] at h <;> subst h <;> constructor
  | runB k =>
    rcases ph with _ | (_ | ⟨x, r⟩) | p
    · cases b <;> simp [Scan.next] at h
      obtain ⟨rfl, rfl⟩ := h; exact .runB_first
    · simp [Scan.next] at h
    · simp [Scan.next] at h
      obtain ⟨rfl, rfl⟩ := h; exact .runB_next
    · simp [Scan.next] at h
  | hdr c =>
    rcases ph with _ | (_ | ⟨x, r⟩) | p <;> simp [Scan.next] at h
    · obtain ⟨rfl, rfl⟩ := h; exact .hdr_idle
    · subst h; exact .hdr_run
  | impl => simp [Scan.next] at h
  | body k | rflush | warn =>
    rcases ph with _ | r | (_ | ⟨x, p⟩) <;> simp [Scan.next] at h
    subst h; constructor
  | runA k =>
    rcases ph with _ | r | (_ | ⟨x, p⟩) <;> simp [Scan.next] at h
    obtain ⟨rfl, rfl⟩ := h; exact .runA

theorem scanFrom_cons {σ σ' : Scan} {e : Ev} {es : List Ev} (h : scanFrom σ (e :: es) = some σ') :
    ∃ σ₁, σ.Step e σ₁ ∧ scanFrom σ₁ es = some σ' := by
  simp only [scanFrom] at h
  cases hn : σ.next e with
  | none => simp [hn] at h
  | some σ₁ => simp only [hn] at h; exact ⟨σ₁, .of_next hn, h⟩

theorem scan_split {σ₀ σ : Scan} {pre post : List Ev} {e : Ev}
    (h : scanFrom σ₀ (pre ++ e :: post) = some σ) :
    ∃ σ₁ σ₂, scanFrom σ₀ pre = some σ₁ ∧ σ₁.Step e σ₂ ∧ scanFrom σ₂ post = some σ := by
  rw [scanFrom_append] at h
  obtain ⟨σ₁, h1, h2⟩ := Option.bind_eq_some_iff.mp h
  obtain ⟨σ₂, hs, h3⟩ := scanFrom_cons h2
  exact ⟨σ₁, σ₂, h1, hs, h3⟩

theorem Scan.Step.bef_aft {σ σ' : Scan} {e : Ev} (h : σ.Step e σ') :
    σ'.bef = σ.bef ++ regBs [e] ∧ σ'.aft = σ.aft ++ regAs [e] := by
  cases h with
  | regB_idle | regB_out => exact ⟨rfl, (List.append_nil _).symm⟩
  | regA_idle | regA_out => exact ⟨(List.append_nil _).symm, rfl⟩
  | _ => exact ⟨(List.append_nil _).symm, (List.append_nil _).symm⟩

theorem scan_bef_aft {l : List Ev} {σ σ' : Scan} (h : scanFrom σ l = some σ') :
    σ'.bef = σ.bef ++ regBs l ∧ σ'.aft = σ.aft ++ regAs l := by
  induction l generalizing σ with
  | nil =>
    cases h
    exact ⟨(List.append_nil _).symm, (List.append_nil _).symm⟩
  | cons e es ih =>
    obtain ⟨σ₁, hs, h2⟩ := scanFrom_cons h
    obtain ⟨b1, a1⟩ := hs.bef_aft
    obtain ⟨b2, a2⟩ := ih h2
    rw [b2, a2, b1, a1, List.append_assoc, List.append_assoc, ← regBs_append, ← regAs_append]
    exact ⟨rfl, rfl⟩

/-- what the scanner's phase says about the events `acc` it has accepted (from the empty state) -/
def Good (σ : Scan) (acc : List Ev) : Prop :=
  match σ.ph with
  | .idle => runBs acc = [] ∧ hdrCalls acc = [] ∧ ∀ e ∈ acc, isPre e = true
  | .running rest => runBs acc ++ rest = σ.bef ∧ hdrCalls acc = [] ∧ ∀ e ∈ acc, isPre e = true
  | .out _ => hdrCalls acc ≠ []

theorem good_step {σ σ' : Scan} {acc : List Ev} {e : Ev} (g : Good σ acc) (h : σ.Step e σ') :
    Good σ' (acc ++ [e]) := by
  cases h with
  | regB_idle | regA_idle | runB_first =>
    obtain ⟨g1, g2, g3⟩ := g
    exact ⟨by rw [runBs_append, g1]; rfl, by rw [hdrCalls_append, g2]; rfl, List.forall_mem_append.2 ⟨g3, List.forall_mem_singleton.2 rfl⟩⟩
  | runB_next =>
    obtain ⟨g1, g2, g3⟩ := g
    exact ⟨by rw [runBs_append, List.append_assoc]; exact g1, by rw [hdrCalls_append, g2]; rfl,
      List.forall_mem_append.2 ⟨g3, List.forall_mem_singleton.2 rfl⟩⟩
  | hdr_idle | hdr_run =>
    show hdrCalls (acc ++ [.hdr _]) ≠ []
    rw [hdrCalls_append]
    exact List.append_ne_nil_of_right_ne_nil _ (List.cons_ne_nil _ _)
  | regB_out | regA_out | body | runA | rflush | warn =>
    show hdrCalls (acc ++ [_]) ≠ []
    rw [hdrCalls_append]
    exact List.append_ne_nil_of_left_ne_nil g _

theorem good_scan {l : List Ev} {σ σ' : Scan} {acc : List Ev} (g : Good σ acc)
    (h : scanFrom σ l = some σ') : Good σ' (acc ++ l) := by
  induction l generalizing σ acc with
  | nil => cases h; rwa [List.append_nil]
  | cons e es ih =>
    obtain ⟨σ₁, hs, h2⟩ := scanFrom_cons h
    have := ih (good_step g hs) h2
    rwa [List.append_assoc] at this

theorem good_of_scan {tr : List Ev} {σ : Scan} (h : scanFrom {} tr = some σ) : Good σ tr :=
  good_scan (σ := {}) (acc := []) ⟨rfl, rfl, fun _ he => nomatch he⟩ h

theorem Scan.Step.of_out {σ' : Scan} {e : Ev} (h : Step ⟨b, a, .out p⟩ e σ') :
    (∃ b' a' p', σ' = ⟨b', a', .out p'⟩) ∧ runBs [e] = [] ∧ hdrCalls [e] = [] := by
  cases h <;> exact ⟨⟨_, _, _, rfl⟩, rfl, rfl⟩

theorem scan_out_forever {post : List Ev} {b a p : List Nat} {σ' : Scan}
    (h : scanFrom ⟨b, a, .out p⟩ post = some σ') : runBs post = [] ∧ hdrCalls post = [] := by
  induction post generalizing b a p with
  | nil => exact ⟨rfl, rfl⟩
  | cons e es ih =>
    obtain ⟨σ₁, hs, h2⟩ := scanFrom_cons h
    obtain ⟨⟨b', a', p', rfl⟩, r1, r2⟩ := hs.of_out
    obtain ⟨i1, i2⟩ := ih h2
    exact ⟨by rw [show e :: es = [e] ++ es from rfl, runBs_append, r1, i1]; rfl,
      by rw [show e :: es = [e] ++ es from rfl, hdrCalls_append, r2, i2]; rfl⟩

/-- **meaning of acceptance, before-hooks**: in an accepted trace, whatever precedes the
    (first) `WriteHeader` call consists only of hook registrations and before-hook
    executions; the before-hooks executed there are exactly the before-hooks registered
    there, each once, in registration order; and after it no before-hook runs and no second
    `WriteHeader` call reaches the writer. -/
theorem scan_before_once {pre post : List Ev} {c : Nat} {σ : Scan}
    (h : scanFrom {} (pre ++ .hdr c :: post) = some σ) :
    runBs pre = regBs pre ∧ (∀ e ∈ pre, isPre e = true) ∧ runBs post = [] ∧ hdrCalls post = [] := by
  obtain ⟨σ₁, σ₂, h1, hs, h2⟩ := scan_split h
  have g := good_of_scan h1
  have hb : σ₁.bef = regBs pre := (scan_bef_aft h1).1
  cases hs with
  | hdr_idle =>
    obtain ⟨g1, _, g3⟩ := g
    exact ⟨g1.trans hb, g3, scan_out_forever h2⟩
  | hdr_run =>
    obtain ⟨g1, _, g3⟩ := g
    exact ⟨(List.append_nil _).symm.trans (g1.trans hb), g3, scan_out_forever h2⟩

theorem scan_pending_consumed {pend : List Nat} {post : List Ev} {b a : List Nat} {σ' : Scan}
    (h : scanFrom ⟨b, a, .out pend⟩ post = some σ') (hq : σ'.quiet = true) :
    pend.map .runA <+: post := by
  induction pend generalizing post with
  | nil => exact List.nil_prefix
  | cons x xs ih =>
    cases post with
    | nil => cases h; cases hq
    | cons e es =>
      obtain ⟨σ₁, hs, h2⟩ := scanFrom_cons h
      cases hs
      exact List.cons_prefix_cons.2 ⟨rfl, ih h2⟩

/-- **meaning of acceptance, after-hooks**: in an accepted complete trace every body write
    happens after the headers went out and is immediately followed by the execution of
    exactly the after-hooks registered before it, each once, in registration order. -/
theorem scan_after_each_write {pre post : List Ev} {k : Nat} {σ : Scan}
    (h : scanFrom {} (pre ++ .body k :: post) = some σ) (hq : σ.quiet = true) :
    (regAs pre).map .runA <+: post ∧ hdrCalls pre ≠ [] := by
  obtain ⟨σ₁, σ₂, h1, hs, h2⟩ := scan_split h
  have g := good_of_scan h1
  have ha : σ₁.aft = regAs pre := (scan_bef_aft h1).2
  cases hs
  exact ⟨ha ▸ scan_pending_consumed h2 hq, g⟩

theorem scan_no_implicit (tr : List Ev) : ∀ (σ σ' : Scan), scanFrom σ tr = some σ' → Ev.impl ∉ tr := by
  induction tr with
  | nil => intro _ _ _; exact List.not_mem_nil
  | cons e es ih =>
    intro σ σ' h hm
    obtain ⟨σ₁, hs, h2⟩ := scanFrom_cons h
    cases List.mem_cons.1 hm with
    | inl he => subst he; cases hs
    | inr he => exact ih σ₁ σ' h2 he

theorem scan_flush_after_headers {pre post : List Ev} {σ : Scan}
    (h : scanFrom {} (pre ++ .rflush :: post) = some σ) : hdrCalls pre ≠ [] := by
  obtain ⟨σ₁, σ₂, h1, hs, _⟩ := scan_split h
  have g := good_of_scan h1
  cases hs
  exact g

/-! ## the hook clauses for every program -/

/-- the trace of every program is accepted by the specification, and ends quiet -/
theorem C06_trace_ok (p cap : Nat) (fl : Bool) (prog : List Op) : traceOK (run (init p cap fl) prog).trace = true :=
  (C06_inv p cap fl prog).traceOK

/-- **C06_before_hooks_once** — for every program: if the underlying writer received a
    `WriteHeader(c)` call, then before that call nothing but hook registrations and
    before-hook executions happened (no body byte, no flush, no after-hook, no implicit
    send), the before-hooks that ran are exactly those registered before it — once each, in
    order — and afterwards no before-hook runs again and no further `WriteHeader` call
    reaches the writer. -/
theorem C06_before_hooks_once (p cap : Nat) (fl : Bool) (prog : List Op) (pre post : List Ev) (c : Nat)
    (htr : (run (init p cap fl) prog).trace = pre ++ .hdr c :: post) :
    runBs pre = regBs pre ∧ (∀ e ∈ pre, isPre e = true) ∧ runBs post = [] ∧ hdrCalls post = [] := by
  have h := (C06_inv p cap fl prog).trace
  rw [htr] at h
  exact scan_before_once h

/-- before-hooks never run while the response stays uncommitted -/
theorem C06_before_hooks_not_without_headers (p cap : Nat) (fl : Bool) (prog : List Op)
    (hc : (run (init p cap fl) prog).committed = false) :
    runBs (run (init p cap fl) prog).trace = [] ∧ ∀ e ∈ (run (init p cap fl) prog).trace, isPre e = true := by
  have g := good_of_scan (C06_inv p cap fl prog).trace
  rw [scanOf, hc] at g
  exact ⟨g.1, g.2.2⟩

/-- **C06_after_hooks_each_write** — for every program: every body write that reaches the
    underlying writer comes after the headers and is immediately followed by the execution
    of exactly the after-hooks registered up to then, once each, in registration order. -/
theorem C06_after_hooks_each_write (p cap : Nat) (fl : Bool) (prog : List Op) (pre post : List Ev) (k : Nat)
    (htr : (run (init p cap fl) prog).trace = pre ++ .body k :: post) :
    (regAs pre).map .runA <+: post ∧ hdrCalls pre ≠ [] := by
  have h := (C06_inv p cap fl prog).trace
  rw [htr] at h
  exact scan_after_each_write h (scanOf_quiet _)

/-- **C06_headers_at_most_once** — for every program the underlying writer receives at most
    one `WriteHeader` call and never has to send an implicit 200 of its own. -/
theorem C06_headers_at_most_once (p cap : Nat) (fl : Bool) (prog : List Op) :
    (run (init p cap fl) prog).raw.calls.length ≤ 1 ∧ Ev.impl ∉ (run (init p cap fl) prog).trace :=
  ⟨(C06_inv p cap fl prog).calls_le, scan_no_implicit _ _ _ (C06_inv p cap fl prog).trace⟩

/-- **C06_committed_iff_headers_out**, **C06_status_size_match** — the state clauses of the
    invariant, spelled out for every program. -/
theorem C06_committed_iff_headers_out (p cap : Nat) (fl : Bool) (prog : List Op) :
    (run (init p cap fl) prog).committed = true ↔ ∃ c, (run (init p cap fl) prog).raw.sent = some c := by
  have h := (C06_inv p cap fl prog).comm
  rw [h, Option.isSome_iff_exists]

theorem C06_status_size_match (p cap : Nat) (fl : Bool) (prog : List Op) (c : Nat)
    (hs : (run (init p cap fl) prog).raw.sent = some c) :
    (run (init p cap fl) prog).status = c ∧
    (run (init p cap fl) prog).size = (run (init p cap fl) prog).raw.body ∧
    (run (init p cap fl) prog).size = bodyBytes (run (init p cap fl) prog).trace := by
  have h := C06_inv p cap fl prog
  have hc : (run (init p cap fl) prog).committed = true := by rw [h.comm, hs]; rfl
  have := (h.sent hc).1
  rw [hs] at this
  exact ⟨(Option.some.inj this).symm, h.size, h.size.trans h.bodyTrace.symm⟩

/-! ## the header block goes out once: what it carried is fixed at commit time -/

theorem run_append (s : St) (a b : List Op) : run s (a ++ b) = run (run s a) b := by
  simp [run, List.foldl_append]

/-- **C06_sent_headers_stable** — the header block goes out once: whatever a program does
    after the commit (helpers that set Content-Type, Redirect setting Location,
    Attachment/Inline setting Content-Disposition), the Content-Type / Location /
    Content-Disposition the underlying writer sent stay what they were at commit time. -/
theorem C06_sent_headers_stable (p cap : Nat) (fl : Bool) (prog later : List Op)
    (hc : (run (init p cap fl) prog).committed = true) :
    sh (run (init p cap fl) (prog ++ later)) = sh (run (init p cap fl) prog) := by
  rw [run_append]
  exact (sent_run ((C06_inv p cap fl prog).toSent hc) later).2

/-- **C06_headers_snapshot_at_commit** — the commit takes the header map as it is at that
    moment: a Content-Disposition put there by an earlier `Attachment` of a missing file
    goes out with it. -/
theorem C06_headers_snapshot_at_commit {s : St} (h : Inv s) (hc : s.committed = false) (c : Nat) :
    sh (writeHeader s c) = (s.ct, s.loc, s.disp) := by
  rw [writeHeader_uncommitted_eq hc (h.sent_none hc)]; rfl

/-! ## a writer without `http.Flusher`, `Hijack` -/

/-- **C06_flush_without_flusher** — the F5 clause on a writer that cannot flush: `Flush`
    (which panics there) has committed exactly like a `Write` would have — `Committed` is
    true, the invariant holds in the state the recovering caller sees — and the underlying
    writer received no flush and no body byte. -/
theorem C06_flush_without_flusher {s : St} (h : Inv s) (hf : s.raw.canFlush = false) :
    flush s = ensureCommitted s ∧ (flush s).committed = true ∧ Inv (flush s) ∧
    (flush s).raw.flushes = s.raw.flushes ∧ (flush s).raw.body = s.raw.body := by
  have hs : (ensureCommitted s).raw.canFlush = s.raw.canFlush ∧
      (ensureCommitted s).raw.flushes = s.raw.flushes ∧ (ensureCommitted s).raw.body = s.raw.body := by
    cases hc : s.committed with
    | true => rw [ensureCommitted_of_committed hc]; exact ⟨rfl, rfl, rfl⟩
    | false =>
      rw [ensureCommitted_uncommitted hc, writeHeader_uncommitted_eq hc (h.sent_none hc)]
      exact ⟨rfl, rfl, rfl⟩
  have he : flush s = ensureCommitted s := by
    show (if (ensureCommitted s).raw.canFlush = true then rawFlush (ensureCommitted s)
          else ensureCommitted s) = ensureCommitted s
    rw [hs.1, hf]; rfl
  rw [he]
  exact ⟨rfl, ensureCommitted_committed s, inv_ensureCommitted h, hs.2.1, hs.2.2⟩

/-- **C06_hijack_touches_nothing** — `Response.Hijack` leaves the whole state alone. -/
theorem C06_hijack_touches_nothing (s : St) : (step s .hijack).1 = s := rfl

/-! ## sequences of requests on one recycled context -/

/-- **reset_eq_init** — `Context.Reset` (response.reset on a fresh writer) leaves NOTHING of
    the earlier request: the state is the initial one with pending status 200. -/
theorem reset_eq_init (s : St) (cap : Nat) (fl : Bool) : reset s cap fl = init 200 cap fl := rfl

theorem runSnaps_fst (s : St) (ops : List Op) : (runSnaps s ops).1 = run s ops := by
  induction ops generalizing s with
  | nil => rfl
  | cons o os ih =>
    show (runSnaps (step s o).1 os).1 = run (step s o).1 os
    exact ih _

/-- the driver's `runSeqObs` visits the states of `runSeq` -/
theorem runSeqObs_fst (cap : Nat) (fl : Bool) (s : St) (progs : List (List Op)) :
    (runSeqObs cap fl s progs).map (·.1) = runSeq cap fl s progs := by
  induction progs generalizing s with
  | nil => rfl
  | cons p ps ih =>
    simp only [runSeqObs, runSeq, List.map_cons, runSnaps_fst]
    rw [ih]

theorem runSeq_getElem? (cap : Nat) (fl : Bool) (s0 : St) (progs : List (List Op)) (i : Nat) :
    (runSeq cap fl s0 progs)[i]? =
      (progs[i]?).map (fun prog => run (if i = 0 then s0 else init 200 cap fl) prog) := by
  induction progs generalizing s0 i with
  | nil => simp [runSeq]
  | cons p ps ih =>
    cases i with
    | zero => simp [runSeq]
    | succ j =>
      simp only [runSeq, List.getElem?_cons_succ]
      rw [ih, reset_eq_init]
      simp

/-- **C06_seq_fresh** — on a recycled context, the `i`-th request of ANY sequence of handler
    programs ends in exactly the state a brand-new response would end in (pending status 200
    for every request after the first): hooks, status, size, committed flag, header map —
    nothing of an earlier request survives, whatever that request did or left undone. -/
theorem C06_seq_fresh (p cap : Nat) (fl : Bool) (progs : List (List Op)) (i : Nat) :
    (runSeq cap fl (init p cap fl) progs)[i]? =
      (progs[i]?).map (fun prog => run (init (if i = 0 then p else 200) cap fl) prog) := by
  rw [runSeq_getElem?]
  cases i <;> simp

theorem runSeq_length (cap : Nat) (fl : Bool) (s0 : St) (progs : List (List Op)) :
    (runSeq cap fl s0 progs).length = progs.length := by
  induction progs generalizing s0 with
  | nil => rfl
  | cons p ps ih => simp [runSeq, ih]

/-- **C06_inv_seq** — the bookkeeping invariant holds at the end of every request of every
    sequence of requests served on one context. -/
theorem C06_inv_seq (p cap : Nat) (fl : Bool) (progs : List (List Op)) :
    ∀ s ∈ runSeq cap fl (init p cap fl) progs, Inv s := by
  intro s hs
  obtain ⟨i, hi⟩ := List.mem_iff_getElem?.1 hs
  rw [C06_seq_fresh] at hi
  obtain ⟨prog, _, rfl⟩ := Option.map_eq_some_iff.1 hi
  exact C06_inv _ cap fl prog

/-- **C06_seq_first_status** — the `i`-th request sends the first status ITS OWN program
    sets (`firstStatus` started from 200, from `p` for the very first request): a status
    preset by an earlier request that never committed is not sent, and `Status` reports the
    status of this request. -/
theorem C06_seq_first_status (p cap : Nat) (fl : Bool) (progs : List (List Op)) (i : Nat)
    (prog : List Op) (s : St) (hp : progs[i]? = some prog)
    (hs : (runSeq cap fl (init p cap fl) progs)[i]? = some s) :
    s.raw.sent = firstStatus (if i = 0 then p else 200) prog ∧
    s.raw.calls = (firstStatus (if i = 0 then p else 200) prog).toList ∧
    (∀ c, firstStatus (if i = 0 then p else 200) prog = some c → s.status = c) := by
  rw [C06_seq_fresh, hp] at hs
  simp only [Option.map_some, Option.some.injEq] at hs
  subst hs
  exact C06_first_status_wins _ cap fl prog

/-- **C06_seq_trace_ok** — the events recorded during each request ALONE are accepted by the
    hook/order specification started from the empty state: before/after-hooks registered by
    an earlier request never run in a later one. -/
theorem C06_seq_trace_ok (p cap : Nat) (fl : Bool) (progs : List (List Op)) :
    ∀ s ∈ runSeq cap fl (init p cap fl) progs, traceOK s.trace = true :=
  fun s hs => (C06_inv_seq p cap fl progs s hs).traceOK

/-! ## non-vacuity: concrete programs that exercise the hypotheses -/

/-- flush first, then a late status, with hooks: 200 goes out once, the hook runs before it -/
example : (run (init 200 100) [.before 7, .flush, .writeHeader 404, .write 3]).trace
    = [.regB 7, .runB 7, .hdr 200, .rflush, .warn, .body 3] := by decide +kernel
example : firstStatus 200 [.before 7, .flush, .writeHeader 404, .write 3] = some 200 := by decide +kernel
/-- helper after commit (F6 shape): status stays what was sent, the late status is logged -/
example : hv (run (init 200 100) [.blob 200 1 2, .json 500 2 true])
    = ⟨true, 200, some 200, [200], 1⟩ := by decide +kernel
/-- unserialisable JSON presets the pending status; the next write sends it -/
example : firstStatus 200 [.json 418 0 false, .after 1, .write 1] = some 418 := by decide +kernel
/-- a short write: 5 bytes offered, capacity 3 — Size counts what was written -/
example : (run (init 0 3) [.after 2, .write 5]).size = 3 ∧
    (run (init 0 3) [.after 2, .write 5]).trace = [.regA 2, .hdr 200, .body 3, .runA 2] := by decide +kernel
/-- the hypotheses of the trace theorems are met by a real trace split -/
example : (run (init 200 100) [.after 1, .before 2, .jsonpBlob 201 2 4]).trace
    = [.regA 1, .regB 2, .runB 2] ++ .hdr 201 :: [.body 3, .runA 1, .body 4, .runA 1, .body 2, .runA 1] := by
  decide +kernel

/-- a first flush issued through http.ResponseController commits like `Flush` itself: the
    before-hook runs, 200 goes out once, the later status is ignored and logged -/
example : (run (init 200 100) [.before 7, .flushRC, .writeHeader 404]).trace
    = [.regB 7, .runB 7, .hdr 200, .rflush, .warn] := by decide +kernel
/-- io.Copy into the response: every chunk is a `Write`, so the after-hook runs after each -/
example : (run (init 200 100) [.after 1, .copy [2, 0, 3] false]).trace
    = [.regA 1, .hdr 200, .body 2, .runA 1, .body 3, .runA 1] := by decide +kernel
example : firstStatus 0 [.unwrap, .copy [0] false, .copy [0, 4] true, .writeHeader 500] = some 200 := by decide +kernel

/-! ### the serialising helpers, Render, the file helpers, Hijack, a writer without `http.Flusher` -/

/-- JSONP commits BEFORE serialising: an unserialisable value leaves a committed 201 response
    with `cb(` (3 bytes) written; the later status write is ignored and logged -/
example : (run (init 200 100) [.jsonp 201 2 0 false, .writeHeader 500]).trace
    = [.hdr 201, .body 3, .warn] := by decide +kernel
example : (step (init 200 100) (.jsonp 201 2 0 false)).2.err = true := by decide +kernel
/-- XML: header (39 bytes) then the element in one write; short write inside the element -/
example : (run (init 200 45) [.after 1, .xml 202 3 true]).trace
    = [.regA 1, .hdr 202, .body 39, .runA 1, .body 6, .runA 1] := by decide +kernel
example : firstStatus 200 [.xml 418 0 false, .writeHeader 500] = some 418 := by decide +kernel
/-- Render without a (working) renderer touches nothing; with one it is HTMLBlob -/
example : firstStatus 200 [.render 500 4 false, .render 203 4 true] = some 203 := by decide +kernel
example : step (init 200 9) (.render 203 4 true) = step (init 200 9) (.blob 203 ctHTML 4) := by decide +kernel
/-- Attachment of a missing file leaves Content-Disposition in the header map; it goes out
    with the later commit.  A found file commits with 200 whatever was pending. -/
example : (run (init 200 100) [.file false 0 1 7, .blob 201 1 2]).raw.sentDisp = 1 := by decide +kernel
example : firstStatus 200 [.json 202 0 false, .file true 5 0 7] = some 200 := by decide +kernel
example : (run (init 200 100) [.before 3, .file true 5 2 7, .file true 2 0 7]).trace
    = [.regB 3, .runB 3, .hdr 200, .body 5, .warn, .body 2] := by decide +kernel
/-- the hypothesis of `C06_sent_headers_stable` is met; a late Inline does not change what went out -/
example : (run (init 200 100) [.file false 0 1 7, .blob 201 1 2]).committed = true ∧
    sh (run (init 200 100) ([.file false 0 1 7, .blob 201 1 2] ++ [.file true 3 2 7, .redirect 302]))
      = (1, false, 1) := by decide +kernel
/-- Hijack changes nothing, before or after commit -/
example : run (init 0 5) [.hijack, .write 1, .hijack] = run (init 0 5) [.write 1] := by decide +kernel
/-- flush on a writer without http.Flusher: commits (hook runs, 200 out), no flush reaches
    the writer, the later status write is ignored and logged -/
example : (run (init 200 100 false) [.before 7, .flush, .writeHeader 404]).trace
    = [.regB 7, .runB 7, .hdr 200, .warn] := by decide +kernel
example : (step (init 200 100 false) .flushRC).2.err = true ∧
    (step (init 200 100 true) .flushRC).2.err = false := by decide +kernel
example : (init 200 100 false).raw.canFlush = false := rfl

/-! ### sequences -/

/-- request A presets 202 and never commits, registers hooks; request B just writes: B sends
    200, none of A's hooks run in B -/
example : (runSeq 100 true (init 200 100) [[.before 1, .after 2, .json 202 0 false], [.write 2]]).map
      (fun s => (s.raw.sent, s.trace))
    = [(none, [.regB 1, .regA 2]), (some 200, [.hdr 200, .body 2])] := by decide +kernel
/-- request A commits 404 with 5 bytes; request B starts from Size 0 / uncommitted -/
example : (runSeq 100 true (init 0 100) [[.blob 404 1 5], [.hijack], [.flush]]).map
      (fun s => (s.committed, s.status, s.size))
    = [(true, 404, 5), (false, 200, 0), (true, 200, 0)] := by decide +kernel
/-- the hypotheses of `C06_seq_first_status` are met by a concrete sequence -/
example : ([[.json 202 0 false], [.write 2]] : List (List Op))[1]? = some [.write 2] ∧
    ((runSeq 100 true (init 200 100) [[.json 202 0 false], [.write 2]])[1]?).map (·.raw.sent)
      = some (some 200) := by decide +kernel
/-- what a `reset` that forgot the pending status of an uncommitted response would do (the
    shape of an early return when `!Committed`): the second request goes out with 202 -/
example : (run { reset (run (init 200 100) [.json 202 0 false]) 100 true with status := 202 } [.write 2]).raw.sent
    = some 202 := by decide +kernel

/-! ## the unrepaired code violates the invariant (F5, F6)

`Response.Flush` as it was (forwarding without committing) and `Context.json` as it was
(unconditional status preset), plugged into the same model, break `Inv` on two-step
programs — which is what the harness observed on the unchanged tree. -/

def flushUnfixed (s : St) : St := rawFlush s

/-- F5: `Flush` then `WriteHeader(404)`: the writer sent 200 (implicitly), received a second
    call, and `Committed` was false in between -/
example : ¬ Inv (flushUnfixed (init 200 10)) := by
  intro h; have := h.comm; revert this; decide +kernel
example : (writeHeader (flushUnfixed (init 200 10)) 404).raw.calls = [404] ∧
    (writeHeader (flushUnfixed (init 200 10)) 404).raw.sent = some 200 ∧
    (writeHeader (flushUnfixed (init 200 10)) 404).status = 404 := by decide +kernel

def jsonUnfixed (s : St) (c k : Nat) : St := (write { writeCT s ctJSON with status := c } (k + 3)).1

/-- F6: `String(200)` then `JSON(500)`: `Status` says 500, the wire says 200 -/
example : ¬ Inv (jsonUnfixed (step (init 200 100) (.blob 200 1 2)).1 500 2) := by
  intro h; have := (h.sent (by decide)).1; revert this; decide +kernel

/-! ## a writer that refuses invalid status codes

`stepS strict` is what the driver runs.  For a writer that accepts every code (`strict =
false`), for a committed response and for valid codes it IS `step`, so every theorem above
applies to what the driver computes.  On a refusing writer an invalid code aborts the commit. -/

theorem stepS_lenient (s : St) (op : Op) : stepS false s op = step s op := rfl

theorem runS_lenient (s : St) (prog : List Op) : runS false s prog = run s prog := rfl

theorem runSnapsS_lenient (s : St) (prog : List Op) : runSnapsS false s prog = runSnaps s prog := by
  induction prog generalizing s with
  | nil => rfl
  | cons o os ih => simp [runSnapsS, runSnaps, stepS_lenient, ih]

/-- the driver's function on a lenient writer is the proven one -/
theorem runSeqObsS_lenient (cap : Nat) (fl : Bool) (s : St) (progs : List (List Op)) :
    runSeqObsS false cap fl s progs = runSeqObs cap fl s progs := by
  induction progs generalizing s with
  | nil => rfl
  | cons p ps ih => simp [runSeqObsS, runSeqObs, runSnapsS_lenient, ih]

theorem stepS_committed (b : Bool) {s : St} (hc : s.committed = true) (op : Op) :
    stepS b s op = step s op := by
  simp [stepS, hc]

theorem stepS_valid (b : Bool) (s s' : St) (op : Op) (c : Nat)
    (ha : commitAttempt s op = some (s', c)) (hv : validCode c = true) :
    stepS b s op = step s op := by
  unfold stepS
  split
  · simp [ha, hv]
  · rfl

theorem commitAttempt_frame {s s' : St} {op : Op} {c : Nat} (ha : commitAttempt s op = some (s', c)) :
    ∃ ct st, s' = { s with ct := ct, status := st } := by
  have hw : ∀ v, ∃ ct, writeCT s v = { s with ct := ct } := by
    intro v; unfold writeCT; split <;> exact ⟨_, rfl⟩
  cases op with
  | writeHeader | noContent | write | flush | flushRC | flushFE | writeString =>
    cases ha; exact ⟨_, _, rfl⟩
  | copy | copyWT =>
    simp only [commitAttempt] at ha
    split at ha <;> cases ha
    exact ⟨_, _, rfl⟩
  | blob | stream | xmlBlob | xml | jsonpBlob | jsonp =>
    cases ha
    exact (hw _).imp fun _ h => ⟨s.status, h⟩
  | render =>
    simp only [commitAttempt] at ha
    split at ha <;> cases ha
    exact (hw _).imp fun _ h => ⟨s.status, h⟩
  | json =>
    simp only [commitAttempt] at ha
    split at ha <;> cases ha
    exact (hw ctJSON).imp fun _ h => ⟨_, by rw [h]⟩
  | redirect | file | before | after | unwrap | hijack => cases ha

/-- **C06_refused_commit** — on a writer that refuses invalid codes, an operation whose commit
    carries one leaves: `Committed = false`, the writer untouched (no call recorded, nothing
    sent, no byte), `Size` unchanged, `Status` = the refused code, the before-hooks run once
    (in order) and nothing else recorded; the operation fails.  In particular `Committed` still
    tells the truth about the headers. -/
theorem C06_refused_commit {s s' : St} {op : Op} {c : Nat} (hc : s.committed = false)
    (ha : commitAttempt s op = some (s', c)) (hv : validCode c = false) :
    let r := stepS true s op
    r.1.committed = false ∧ r.1.raw = s.raw ∧ r.1.size = s.size ∧ r.1.status = c ∧
    r.1.trace = s.trace ++ s.before.map .runB ∧ r.2.err = true := by
  obtain ⟨ct, st, rfl⟩ := commitAttempt_frame ha
  simp [stepS, hc, ha, hv, abortCommit, emit]

/-- `stepS` is `step`, except where it is a refused commit: what holds of both holds of `stepS` -/
theorem stepS_cases {P : St × Ret → Prop} (b : Bool) (s : St) (op : Op) (hstep : P (step s op))
    (habort : ∀ s' c, commitAttempt s op = some (s', c) → s.committed = false →
      P (abortCommit s' c, ⟨0, true⟩)) : P (stepS b s op) := by
  unfold stepS
  split
  · rename_i hg
    split
    · rename_i s' c ha
      split
      · exact hstep
      · exact habort s' c ha (by simp at hg; exact hg.2)
    · exact hstep
  · exact hstep

/-- the invariant survives a refused commit as long as no before-hook is registered … -/
theorem inv_stepS_nohooks (b : Bool) {s : St} (h : Inv s) (hb : s.before = []) (op : Op) :
    Inv (stepS b s op).1 := by
  refine stepS_cases (P := fun r => Inv r.1) b s op (inv_step h op) fun s' c ha hc => ?_
  obtain ⟨ct, st, rfl⟩ := commitAttempt_frame ha
  exact h.record [] (htr := by simp [abortCommit, emit, hb]) (hst := by simp [hc])

theorem writeHeader_before (s : St) (c : Nat) : (writeHeader s c).before = s.before := by
  unfold writeHeader
  split
  · rfl
  · simp only [emit, rawWriteHeader, rawSend]
    split <;> rfl

theorem ensureCommitted_before (s : St) : (ensureCommitted s).before = s.before := by
  cases hc : s.committed with
  | true => rw [ensureCommitted_of_committed hc]
  | false => rw [ensureCommitted_uncommitted hc]; exact writeHeader_before _ _

theorem write_before (s : St) (n : Nat) : (write s n).1.before = s.before := by
  simp only [write, rawWrite, rawImplicit, emit]
  split <;> exact ensureCommitted_before s

theorem writes_before (s : St) (l : List Nat) : (writes s l).1.before = s.before :=
  writes_induction (P := fun t => t.before = s.before) (fun t n h => (write_before t n).trans h) l rfl

theorem flush_before (s : St) : (flush s).before = s.before := by
  simp only [flush, rawFlush, rawImplicit, emit]
  split
  · split <;> exact ensureCommitted_before s
  · exact ensureCommitted_before s

def isBefore : Op → Bool
  | .before _ => true
  | _ => false

def Act.isRegB : Act → Bool
  | .regB _ => true
  | _ => false

theorem exec_before (s : St) {a : Act} (ha : a.isRegB = false) : (a.exec s).before = s.before := by
  cases a with
  | ct v => simp only [Act.exec, writeCT]; split <;> rfl
  | disp d => simp only [Act.exec]; split <;> rfl
  | preset c => simp only [Act.exec]; split <;> rfl
  | hdr c => exact writeHeader_before s c
  | writes l => exact writes_before s l
  | flush => exact flush_before s
  | regB k => cases ha
  | loc | regA k => rfl

theorem acts_before (s : St) {l : List Act} (hl : l.any Act.isRegB = false) :
    (l.foldl Act.exec s).before = s.before :=
  l.foldlRecOn (motive := fun t => t.before = s.before) Act.exec rfl fun t ht a ha =>
    (exec_before t (Bool.eq_false_iff.2 (List.any_eq_false.1 hl a ha))).trans ht

theorem regB_acts (op : Op) : (acts op).any Act.isRegB = isBefore op := by
  cases op with
  | json c k ok => cases ok <;> rfl
  | redirect c => simp only [acts, isBefore]; split <;> rfl
  | render c n ok => cases ok <;> rfl
  | file found n disp ct => cases found <;> rfl
  | _ => rfl

/-- only `Response.Before` registers before-hooks -/
theorem step_before (s : St) (op : Op) (hop : isBefore op = false) : (step s op).1.before = s.before := by
  rw [step_fst]; exact acts_before s ((regB_acts op).trans hop)

theorem stepS_before (b : Bool) (s : St) (op : Op) (hop : isBefore op = false) :
    (stepS b s op).1.before = s.before := by
  refine stepS_cases (P := fun r => r.1.before = s.before) b s op (step_before s op hop) fun s' c ha _ => ?_
  obtain ⟨ct, st, rfl⟩ := commitAttempt_frame ha
  rfl

/-- **C06_inv_strict_nohooks** — … so for every program that registers no before-hook the
    bookkeeping invariant holds on a refusing writer too, whatever codes it uses and however
    often its commits are refused (the program going on after each refusal, as under Recover). -/
theorem C06_inv_strict_nohooks (p cap : Nat) (fl : Bool) (prog : List Op)
    (hp : ∀ op ∈ prog, isBefore op = false) : Inv (runS true (init p cap fl) prog) :=
  -- no before-hook is ever registered, so every refused commit meets `inv_stepS_nohooks`
  (prog.foldlRecOn (motive := fun s => Inv s ∧ s.before = []) _ ⟨inv_init p cap fl, rfl⟩
    fun s ⟨h, hb⟩ op hop =>
      ⟨inv_stepS_nohooks true h hb op, (stepS_before true s op (hp op hop)).trans hb⟩).1

/-! With a before-hook registered the full invariant FAILS after a refused commit: the hook has
run, the headers have not gone out, and the hook will run again at the next commit (under
Recover: when the error handler sends its 500).  The harness therefore does not combine
refusing writers with before-hooks in C06. -/
example : ¬ Inv (runS true (init 200 9) [.before 1, .writeHeader 0]) := by
  intro h; have := h.trace; revert this; decide +kernel
example : (runS true (init 200 9) [.before 1, .writeHeader 0, .writeHeader 500]).trace
    = [.regB 1, .runB 1, .runB 1, .hdr 500] := by decide +kernel

/-- non-vacuity: a refused `String(0, …)` (zero-valued config field) leaves an uncommitted,
    untouched response with `Status = 0`; the following `Write` sends 200 -/
example : let s := runS true (init 200 9) [.blob 0 1 2]
    s.committed = false ∧ s.raw.calls = [] ∧ s.raw.sent = none ∧ s.status = 0 ∧ s.ct = 1 := by decide +kernel
example : (runS true (init 200 9) [.blob 0 1 2, .write 1]).raw.sent = some 200 := by decide +kernel
/-- a refused 1000 stays pending: the next implicit commit is refused again -/
example : (runS true (init 200 9) [.noContent 1000, .write 1, .flush]).raw.calls = [] ∧
    (runS true (init 200 9) [.noContent 1000, .write 1, .writeHeader 204]).raw.calls = [204] := by decide +kernel
/-- an accepting writer sends whatever it is given, and `Status` says so -/
example : let s := runS false (init 200 9) [.noContent 1000, .writeHeader 204]
    s.raw.sent = some 1000 ∧ s.status = 1000 ∧ s.raw.calls = [1000] := by decide +kernel
/-- the hypotheses of `C06_refused_commit` -/
example : commitAttempt (init 200 9) (.json 99 4 true) = some ({ writeCT (init 200 9) ctJSON with status := 99 }, 99) ∧
    validCode 99 = false ∧ validCode 0 = false ∧ validCode 1000 = false ∧ validCode 100 = true ∧ validCode 999 = true := by
  decide +kernel

/-! ## the optional-interface probes land in `Write` -/

/-- **C06_writeString_is_write** — `io.WriteString` into the response is `Response.Write`:
    same state, same recording, same return values (so commit, Size and hooks are Write's). -/
theorem C06_writeString_is_write (s : St) (n : Nat) : step s (.writeString n) = step s (.write n) := rfl

/-- **C06_copyWT_is_copy** — `io.Copy` from a source with `WriteTo` is one `Write` of
    everything: the same as copying from a reader that hands out one chunk. -/
theorem C06_copyWT_is_copy (s : St) (n : Nat) : step s (.copyWT n) = step s (.copy [n] false) := by
  simp only [step, Bool.or_false]

/-- whichever probe is the first to touch an uncommitted response, the commit is complete:
    headers out once with the pending status, `Committed` true, `Status` = what was sent -/
theorem C06_probe_commits {s : St} (h : Inv s) (hc : s.committed = false) (op : Op)
    (hop : op = .writeString n ∨ op = .copyWT (n + 1) ∨ op = .copy [n + 1] false ∨ op = .flushRC ∨ op = .flushFE) :
    hv (step s op).1 = committedWith s (pend s.status) := by
  rw [step_fst]
  rcases hop with rfl | rfl | rfl | rfl | rfl
  · exact hv_writes_unsent_cons h hc n []
  · exact hv_writes_unsent_cons h hc (n + 1) []
  · exact hv_writes_unsent_cons h hc (n + 1) []
  · exact hv_flush_unsent h hc
  · exact hv_flush_unsent h hc

example : (run (init 0 100) [.before 1, .after 2, .writeString 3, .copyWT 0, .copyWT 2]).trace
    = [.regB 1, .regA 2, .runB 1, .hdr 200, .body 3, .runA 2, .body 2, .runA 2] := by decide +kernel
example : firstStatus 200 [.json 202 0 false, .copyWT 0, .copyWT 4, .writeHeader 500] = some 202 := by decide +kernel

end C06
