import EchoModel.C10
import EchoProofs.C10
/-!
# C10 — what an extra trusted range admits (`TrustIPRange`, `IPNet.Contains`)

`C10_trust_ranges` says an extra range admits what the model of `IPNet.Contains` admits.  This
file characterises that for IPv4 ranges numerically: a range `N/bits` (as `net.ParseCIDR` /
`net.CIDRMask` build it) contains an address — given as a 4-byte slice or as a 16-byte
IPv4-mapped slice — exactly when the two 32-bit numbers agree on their first `bits` bits.
-/
namespace C10

/-- a byte with its `k` most significant bits set (`k ≥ 8`: all) -/
def maskByte : Nat → Byte
  | 0 => 0x00 | 1 => 0x80 | 2 => 0xc0 | 3 => 0xe0 | 4 => 0xf0 | 5 => 0xf8 | 6 => 0xfc | 7 => 0xfe
  | _ => 0xff

/-- `net.CIDRMask(bits, 32)` -/
def cidrMask4 (bits : Nat) : List Byte :=
  [maskByte bits, maskByte (bits - 8), maskByte (bits - 16), maskByte (bits - 24)]

/-- `net.CIDRMask(bits, 8 * len)`: `cidrMask bits 16` is the mask of an IPv6 range -/
def cidrMask (bits : Nat) : Nat → List Byte
  | 0 => []
  | len + 1 => maskByte bits :: cidrMask (bits - 8) len

theorem cidrMask4_eq (bits : Nat) : cidrMask4 bits = cidrMask bits 4 := by
  simp only [cidrMask4, cidrMask, Nat.sub_sub]

/-! ## one byte under a mask byte -/

theorem maskByte_eq_shift : ∀ k, maskByte k = BitVec.allOnes 8 <<< (8 - k)
  | 0 | 1 | 2 | 3 | 4 | 5 | 6 | 7 => by decide
  | k + 8 => by simp [maskByte]

theorem toNat_and_maskByte (x : Byte) (k : Nat) :
    (x &&& maskByte k).toNat = x.toNat / 2 ^ (8 - k) * 2 ^ (8 - k) := by
  rw [maskByte_eq_shift, toNat_and_allOnes_shiftLeft]

theorem masked_beq (x y : Byte) (k : Nat) :
    ((x &&& maskByte k) == (y &&& maskByte k)) = true ↔
      x.toNat / 2 ^ (8 - k) = y.toNat / 2 ^ (8 - k) := by
  rw [byte_beq, toNat_and_maskByte, toNat_and_maskByte]
  exact Nat.mul_left_inj (Nat.pos_iff_ne_zero.mp (Nat.two_pow_pos _))

/-! ## leading bits of a number written with one more leading digit

`a·2^p + r` with `r < 2^p` is the number `r` of `p` bits with the digit `a` put in front. -/

/-- dropping all of `r` and `j` more bits: only the leading digits are compared -/
theorem prefix_hi (a b r s p j : Nat) (hr : r < 2 ^ p) (hs : s < 2 ^ p) :
    (a * 2 ^ p + r) / 2 ^ (p + j) = (b * 2 ^ p + s) / 2 ^ (p + j) ↔ a / 2 ^ j = b / 2 ^ j := by
  have hpos : 0 < 2 ^ p := Nat.two_pow_pos p
  rw [Nat.pow_add, ← Nat.div_div_eq_div_mul, ← Nat.div_div_eq_div_mul,
    Nat.mul_comm a, Nat.mul_comm b, Nat.mul_add_div hpos, Nat.mul_add_div hpos,
    Nat.div_eq_of_lt hr, Nat.div_eq_of_lt hs, Nat.add_zero, Nat.add_zero]

/-- dropping `d` bits of `r` only: the leading digits are compared in full -/
theorem prefix_lo (a b r s d q : Nat) (hr : r < 2 ^ (d + q)) (hs : s < 2 ^ (d + q)) :
    (a * 2 ^ (d + q) + r) / 2 ^ d = (b * 2 ^ (d + q) + s) / 2 ^ d ↔
      a = b ∧ r / 2 ^ d = s / 2 ^ d := by
  have hd : 0 < 2 ^ d := Nat.two_pow_pos d
  rw [Nat.pow_add] at hr hs
  rw [Nat.pow_add, Nat.mul_left_comm a, Nat.mul_left_comm b, Nat.mul_add_div hd, Nat.mul_add_div hd]
  exact mul_add_inj (Nat.div_lt_of_lt_mul hr) (Nat.div_lt_of_lt_mul hs)

/-- With digits of `w` bits: the numbers agree on their first `bits` bits iff the leading digits
    agree on their first `bits` bits and the rests on their first `bits - w`. -/
theorem prefix_cons (a b r s p w bits : Nat) (hr : r < 2 ^ p) (hs : s < 2 ^ p) :
    (a * 2 ^ p + r) / 2 ^ (p + w - bits) = (b * 2 ^ p + s) / 2 ^ (p + w - bits) ↔
      a / 2 ^ (w - bits) = b / 2 ^ (w - bits) ∧
        r / 2 ^ (p - (bits - w)) = s / 2 ^ (p - (bits - w)) := by
  by_cases h : bits ≤ w
  · rw [Nat.add_sub_assoc h, Nat.sub_eq_zero_of_le h, Nat.sub_zero, prefix_hi a b r s p _ hr hs,
      Nat.div_eq_of_lt hr, Nat.div_eq_of_lt hs]
    exact (and_iff_left rfl).symm
  · obtain ⟨t, rfl⟩ := Nat.exists_eq_add_of_le (Nat.le_of_not_le h)
    rw [Nat.add_comm w t, Nat.add_sub_add_right, Nat.add_sub_cancel,
      Nat.sub_eq_zero_of_le (Nat.le_add_left w t), Nat.pow_zero, Nat.div_one, Nat.div_one]
    have hd : p - t ≤ p := Nat.sub_le p t
    generalize p - t = d at hd ⊢
    obtain ⟨q, rfl⟩ := Nat.exists_eq_add_of_le hd
    exact prefix_lo a b r s d q hr hs

/-! ## `IPNet.Contains` under a CIDR mask -/

theorem pow256 (L : Nat) : 256 ^ L = 2 ^ (8 * L) := (Nat.pow_mul 2 8 L).symm

theorem val_lt_two_pow (l : List Byte) : val l < 2 ^ (8 * l.length) := pow256 _ ▸ val_lt l

/-- byte-wise masked equality under `net.CIDRMask(bits, 8·len)` is agreement of the two numbers
    on their first `bits` bits, for slices of any length `len` (4: IPv4, 16: IPv6) -/
theorem allMasked_cidr (n : List Byte) : ∀ (p : List Byte) (bits : Nat), n.length = p.length →
    (allMasked n (cidrMask bits n.length) p = true ↔
      val n / 2 ^ (8 * n.length - bits) = val p / 2 ^ (8 * n.length - bits)) := by
  induction n with
  | nil => intro p bits hl; cases p with
    | nil => simp [allMasked]
    | cons _ _ => simp at hl
  | cons x n ih =>
    intro p bits hl
    cases p with
    | nil => simp at hl
    | cons y p =>
      have hl' : n.length = p.length := by simpa using hl
      have hp := val_lt_two_pow p
      rw [← hl'] at hp
      simp only [List.length_cons, cidrMask, allMasked, val, Bool.and_eq_true, masked_beq,
        ih p (bits - 8) hl', ← hl', pow256, Nat.mul_succ]
      exact (prefix_cons x.toNat y.toNat (val n) (val p) (8 * n.length) 8 bits (val_lt_two_pow n) hp).symm

/-- `IPNet.Contains` for a 4-byte network and mask and an address whose `To4` form is the
    4-byte slice `p` (`ip` itself, or the tail of a 16-byte IPv4-mapped `ip`) -/
theorem contains_v4 (n m p : List Byte) (ip : IP) (hn : n.length = 4) (hm : m.length = 4)
    (hp : p.length = 4) (h : to4 ip = some p) : contains ⟨n, m⟩ ip = allMasked n m p := by
  simp [contains, networkNumberAndMask, to4_of_length4 n hn, hn, hm, hp, h]

theorem contains_v4_not4 (n m : List Byte) (ip : IP) (hn : n.length = 4) (hm : m.length = 4)
    (h : to4 ip = none) : contains ⟨n, m⟩ ip = false := by
  have hl : ip.length ≠ 4 := fun h4 => by simp [to4_of_length4 ip h4] at h
  simp [contains, networkNumberAndMask, to4_of_length4 n hn, hn, hm, h, hl]

/-- **C10_cidr_v4** — for every prefix length `bits ≤ 32`, every network number and every
    address (4-byte or IPv4-mapped 16-byte slice): the range `N/bits` contains the address iff
    the 32-bit values agree on their first `bits` bits (`/ 2^(32-bits)` drops the host bits). -/
theorem C10_cidr_v4 (bits : Nat) (hb : bits ≤ 32) (n0 n1 n2 n3 a b c d : Byte) (ip : IP)
    (h : to4 ip = some [a, b, c, d]) :
    contains ⟨[n0, n1, n2, n3], cidrMask4 bits⟩ ip = true ↔
      val [a, b, c, d] / 2 ^ (32 - bits) = val [n0, n1, n2, n3] / 2 ^ (32 - bits) := by
  -- `hb` says that `cidrMask4 bits` is what `net.CIDRMask` returns; the equivalence holds without it
  rw [contains_v4 _ _ _ ip rfl rfl rfl h, cidrMask4_eq]
  exact (allMasked_cidr [n0, n1, n2, n3] [a, b, c, d] bits rfl).trans eq_comm

/-- **C10_cidr_v4_other** — a non-IPv4 address (plain IPv6, odd length) is in no IPv4 range -/
theorem C10_cidr_v4_other (bits : Nat) (n0 n1 n2 n3 : Byte) (ip : IP) (h : to4 ip = none) :
    contains ⟨[n0, n1, n2, n3], cidrMask4 bits⟩ ip = false :=
  contains_v4_not4 _ _ ip rfl rfl h

/-! ## non-vacuity -/

-- 10.0.0.0/8 given as TrustIPRange: 10.255.0.1 inside (also as an IPv4-mapped slice), 11.0.0.0 outside
example : contains ⟨[10, 0, 0, 0], cidrMask4 8⟩ [10, 255, 0, 1] = true ∧
    contains ⟨[10, 0, 0, 0], cidrMask4 8⟩ (v4InV6Prefix ++ [10, 255, 0, 1]) = true ∧
    contains ⟨[10, 0, 0, 0], cidrMask4 8⟩ [11, 0, 0, 0] = false ∧
    contains ⟨[172, 16, 0, 0], cidrMask4 12⟩ [172, 31, 255, 255] = true ∧
    contains ⟨[172, 16, 0, 0], cidrMask4 12⟩ [172, 32, 0, 0] = false ∧
    cidrMask4 12 = [0xff, 0xf0, 0, 0] ∧ cidrMask4 0 = [0, 0, 0, 0] ∧ cidrMask4 32 = [0xff, 0xff, 0xff, 0xff] := by decide

example : val [172, 31, 255, 255] / 2 ^ (32 - 12) = val [172, 16, 0, 0] / 2 ^ (32 - 12) := by decide

end C10
